import Darling.Props.C03Recv2
import Darling.Props.C08
import Darling.Props.C18
import Darling.Props.C04Spec
import Darling.Derive.Outer
/-
  C03 — "Errors carry the most specific source span and never lose it":
  an independent specification written from the property text, and `model ⊨ spec` theorems.

  ## What the all-nodes theorems leave open

  `recv_allWithin` / `corpus_allWithin` / `hooksOf_spansIn` (C03Universe, C03Recv2) say: *no span that
  occurs anywhere in the error sticks out of the item*.  A leaf with **no span at all** satisfies
  them, so they do not give the first clause of the text ("carries an explicit span"); they say
  nothing leaf-by-leaf after flattening (the observable of the text); "inside the offending item
  itself" is proved there only for the top node of what the item loop records (`coreLoop_placed`)
  and under an ambient span for the rest; the clauses about absences (enclosing item's span;
  unspanned only at the root) and about element-level receivers are not touched.  This file
  supplies them.

  ## The specification (sections 2, 4, 5, 6) — every notion is about the *flattened leaves*
  (`Err.intoVec`, whose positional meaning is `C04.intoVec_spec`: kind, full path, nearest span)

    * `IsAbsence l`        the leaf reports something absent (`Missing field`, `Too few items`);
    * `SpannedWithin A l`  (C03Recv) the leaf shows an explicit span inside `A`;
    * `ItemPlaced A e`     every leaf of `e` shows an explicit span inside `A`;
    * `LeafOk encl present l`  the text's verdict on one leaf of an error about a list of items present
                           at `present`, read inside the item `encl` (`none` = root of an attribute
                           set): *either* an explicit span inside one of the present items (the
                           offending item itself), *or* an absence from this very list (no path of
                           its own) showing exactly `encl`;
    * `ListPlaced encl present e`  all leaves `LeafOk`;
    * `ElemLeafOk attrs l` the same for a whole element: inside an item of one of its attributes /
                           inside an attribute that presents no items / root absence (no span) /
                           shape verdict (no span);
    * `ElemPlaced attrs e` all leaves `ElemLeafOk`;
    * `VariantLeafOk name sp present l`  the verdict on a leaf of what an enum reports about the
                           struct-variant item `name(items…)` spanned `sp`: inside one of the items,
                           *or* an absence under the path `name` showing exactly `sp`.

  ## Where the enum's spans come from
     The `from_list` a derived enum emits (`enumFromList`) spans whatever the selected variant's arm
     returns with the item that selects the variant; `with_span` never replaces, so more specific
     spans stay.  Hence
       * a form mismatch (`unit = 3` for a unit variant, `st = 1` for a struct variant) shows the span
         of the offending item, at the root of an attribute set (enum behind `#[darling(flatten)]`, or
         `from_list` called directly) as well as in an ordinary field (`enum_item_placed_partial`);
       * a field missing *inside* `st(…)` shows the span of `st(…)`, at the root too
         (`enum_item_placed_partial`);
       * the same inside a field `e(st(x = 1))` shows exactly the span of `st(…)`, not that of `e(…)`
         (`enum_struct_variant_placed_partial`; the spans offered further out never replace it).

  ## Discrepancies text / behaviour (section 9 has them as Lean `example`s; the program that
     reproduces them on the library, and its output: /verif/audits/C03.md)

    D2  a literal or a surplus item at the enum: unspanned at the root — there is no single item at
        fault.  (`FlattenPlaced` of the struct / element-level theorems is a hypothesis because of
        this; `enum_fromList_placed_partial` discharges it for an enum handed ≤ 1 item.)
    O1  (observation) per-variant shape verdicts (`supports(enum_unit)` on `enum X { A, B{..}, C(..) }`)
        carry neither span nor path: two identical-looking messages, the variant is not named.
    O2  (observation) `into_iter()` on an unflattened bundle drops the bundle's span / location
        (outside the three operations the text names).
-/

open Derive Err

namespace C03

/-! ## 1. the error algebra, leaf by leaf -/

theorem leaf_inherit_withSpan (k : Kind) (ls : List String) (own inh : Option Span) (s : Span) :
    (Err.leaf k ls own).inheritSpan (inh.or (some s))
      = ((Err.leaf k ls own).inheritSpan inh).withSpan s := by
  cases own <;> cases inh <;> rfl

theorem intoVecP_or (pre : List String) (inh : Option Span) (s : Span) : (e : Err) →
    intoVecP pre (inh.or (some s)) e = (intoVecP pre inh e).map (·.withSpan s) := by
  intro e
  induction e using Err.induct generalizing pre inh with
  | leaf k ls own => rw [intoVecP_leaf, intoVecP_leaf, leaf_inherit_withSpan]; rfl
  | multi cs ls own ih =>
      rw [intoVecP_multi, intoVecP_multi, ← Option.or_assoc, intoVecListP_eq_flatMap, intoVecListP_eq_flatMap,
        List.map_flatMap]
      exact List.flatMap_congr_mem fun c hc => ih c hc _ _

/-- **`with_span` seen from the leaves**: exactly the leaves that showed no span now show the new
    one; every other leaf is unchanged -/
theorem intoVec_withSpan (e : Err) (s : Span) : intoVec (e.withSpan s) = (intoVec e).map (·.withSpan s) := by
  cases e with
  | leaf k ls own => cases own <;> rfl
  | multi cs ls own =>
      cases own with
      | none => exact intoVecP_or [] none s (.multi cs ls none)
      | some t =>
          -- under a bundle spanned `t` every leaf shows a span already, so `with_span s` changes none
          have h : intoVecP [] none (.multi cs ls (some t)) = (intoVecP [] none (.multi cs ls none)).map (·.withSpan t) :=
            intoVecP_or [] none t (.multi cs ls none)
          show intoVecP [] none (.multi cs ls (some t)) = (intoVecP [] none (.multi cs ls (some t))).map _
          rw [h, List.map_map]
          exact List.map_congr_left fun x _ => (withSpan_withSpan x t s).symm

theorem intoVecP_consLoc (l : String) (pre : List String) (inh : Option Span) : (e : Err) →
    intoVecP (l :: pre) inh e = (intoVecP pre inh e).map (·.at l) :=
  Err.intoVecP_consLoc l pre inh

/-! ## 2. the vocabulary of the property text -/

/-- the kinds that report something *absent* from the input (a required field, the one item an
    enum needs) -/
def isAbsenceKind : Kind → Bool
  | .missingField _ => true
  | .tooFewItems _ => true
  | _ => false

/-- a (flattened) leaf reports an absence -/
def IsAbsence : Err → Prop
  | .leaf k _ _ => isAbsenceKind k = true
  | .multi _ _ _ => False

/-- **item-level placement**: every flattened leaf shows an explicit span lying inside `A` -/
def ItemPlaced (A : Span) (e : Err) : Prop := ∀ l ∈ intoVec e, SpannedWithin A l

/-- the text's verdict on one flattened leaf of an error about a list of items that are *present*
    at the spans `present` and are read inside the enclosing item `encl` (`none`: the root of an
    attribute set): the leaf concerns something present and then shows an explicit span inside
    the offending item itself, or it reports an absence from this very list (it has no path of
    its own: nothing nested was entered) and then shows the enclosing item's span — no span only
    at the root -/
def LeafOk (encl : Option Span) (present : List Span) (l : Err) : Prop :=
  (∃ p ∈ present, SpannedWithin p l) ∨ (IsAbsence l ∧ l.span = encl ∧ l.locs = [])

/-- **list-level placement** of a whole error -/
def ListPlaced (encl : Option Span) (present : List Span) (e : Err) : Prop :=
  ∀ l ∈ intoVec e, LeafOk encl present l

/-! ### from `all spans inside` + `a span on top` to `every leaf explicit` -/

theorem okIn_or {A : Span} {a b : Option Span} (ha : Span.okIn A a = true) (hb : Span.okIn A b = true) :
    Span.okIn A (a.or b) = true := by
  cases a with
  | none => exact hb
  | some x => exact ha

theorem allWithin_of_mem {A : Span} :
    ∀ {cs : List Err}, Err.allWithinList A cs = true → ∀ c ∈ cs, c.allWithin A = true
  | [], _, _, hx => nomatch hx
  | c :: cs, h, x, hx => by
      simp only [Err.allWithinList, Bool.and_eq_true] at h
      rcases List.mem_cons.1 hx with rfl | hx
      · exact h.1
      · exact allWithin_of_mem h.2 x hx

theorem intoVecP_shows (A : Span) (pre : List String) (inh : Option Span) (e : Err)
    (h : e.allWithin A = true) (hi : Span.okIn A inh = true) :
    ∀ l ∈ intoVecP pre inh e, Span.okIn A l.span = true ∧ (inh.isSome = true → l.span.isSome = true) := by
  induction e using Err.induct generalizing pre inh with
  | leaf k ls own =>
      intro l hl
      rw [List.mem_singleton.1 hl, span_inherit]
      refine ⟨okIn_or h hi, fun hs => ?_⟩
      cases own with
      | none => exact hs
      | some x => rfl
  | multi cs ls own ih =>
      intro l hl
      rw [intoVecP_multi, intoVecListP_eq_flatMap] at hl
      obtain ⟨c, hc, hlc⟩ := List.mem_flatMap.1 hl
      simp only [Err.allWithin, Bool.and_eq_true] at h
      have := ih c hc _ _ (allWithin_of_mem h.2 c hc) (okIn_or h.1 hi) l hlc
      refine ⟨this.1, fun hs => this.2 ?_⟩
      cases own with
      | none => exact hs
      | some x => rfl

/-- an error whose spans all lie inside `A` and whose top node has one shows, after flattening,
    an explicit span inside `A` on every leaf -/
theorem itemPlaced_of_top {A : Span} {e : Err} (hall : e.AllWithin A) (htop : e.span.isSome = true) :
    ItemPlaced A e := by
  intro l hl
  cases e with
  | leaf k ls own =>
      simp only [intoVec, intoVecP_leaf, List.mem_singleton] at hl
      subst hl
      simp only [Err.span] at htop
      cases own with
      | none => cases htop
      | some s =>
          simp only [Err.AllWithin, Err.allWithin, Span.okIn] at hall
          exact ⟨s, rfl, hall⟩
  | multi cs ls own =>
      simp only [Err.span] at htop
      cases own with
      | none => cases htop
      | some s =>
          simp only [Err.AllWithin, Err.allWithin, Bool.and_eq_true] at hall
          have := intoVecP_shows A [] (some s) (.multi cs ls none) ((Bool.true_and _).trans hall.2) hall.1 l hl
          have h2 := this.2 rfl
          cases hsp : l.span with
          | none => rw [hsp] at h2; cases h2
          | some t =>
              have h1 := this.1
              rw [hsp] at h1
              exact ⟨t, hsp, h1⟩

/-! ## 3. every `from_meta` answers with a span on top (all built-in targets, all receivers) -/

/-- every error of `from_meta` carries a span on its top node -/
def _root_.Hooks.MetaTop {α : Type} (h : Hooks α) : Prop :=
  ∀ m e, h.fromMeta m = .err e → e.span.isSome = true

theorem withSpan_isSome (e : Err) (s : Span) : (e.withSpan s).span.isSome = true :=
  Option.isSome_iff_ne_none.2 (e.span_withSpan_ne_none s)

theorem mapErr_withSpan_top {α : Type} (o : Outcome α) (s : Span) (e : Err)
    (h : o.mapErr (·.withSpan s) = .err e) : e.span.isSome = true :=
  Option.isSome_iff_ne_none.2 (Outcome.spanned_of_mapErr_withSpan h)

/-- the default body of `from_meta` always answers with a span on top -/
theorem fromMetaD_top {α : Type} (h : Hooks α) (m : Meta) (e : Err) (he : h.fromMetaD m = .err e) :
    e.span.isSome = true := by
  cases m with
  | path p => exact mapErr_withSpan_top _ _ e he
  | nameValue p x t sp => exact mapErr_withSpan_top _ _ e he
  | list p items bad ts t sp =>
      cases bad with
      | some b =>
          obtain ⟨msg, bs⟩ := b
          simp only [Hooks.fromMetaD, Outcome.err.injEq] at he
          subst he; rfl
      | none => exact mapErr_withSpan_top _ _ e he

theorem metaTop_of_default {α : Type} (h : Hooks α) (hn : h.fromMeta? = none) : h.MetaTop := by
  intro m e he
  simp only [Hooks.fromMeta, hn] at he
  exact fromMetaD_top h m e he

theorem metaTop_of_override {α : Type} (h : Hooks α) (f : Meta → Outcome α) (hf : h.fromMeta? = some f)
    (ht : ∀ m e, f m = .err e → e.span.isSome = true) : h.MetaTop := by
  intro m e he
  simp only [Hooks.fromMeta, hf] at he
  exact ht m e he

theorem hooksOf_metaTop (o : Oracle) (rh : String → Hooks Val) (hrh : ∀ n, (rh n).MetaTop) :
    (t : Ty) → (hooksOf o rh t).MetaTop
  | .atomicBool =>
      metaTop_of_override _ _ rfl (fun m e he => mapErr_withSpan_top _ _ e he)
  | .flag => by
      refine metaTop_of_override _ _ rfl ?_
      intro m e he
      -- anything but a path: the error of `()`'s default `from_meta`, handed on as it is
      have hunit := metaTop_of_default (Scalars.unitHooks ()) rfl m
      cases m with
      | path p => cases he
      | list | nameValue =>
          simp only [] at he
          generalize (Scalars.unitHooks ()).fromMeta _ = u at he hunit
          cases u with
          | ok v => cases he
          | panic x => cases he
          | err e0 =>
              cases he
              exact hunit _ rfl
  | .option t =>
      metaTop_of_override _ _ rfl
        (fun m e he => hooksOf_metaTop o rh hrh t m e (Outcome.map_eq_err he))
  | .ptr t =>
      metaTop_of_override _ _ rfl
        (fun m e he => hooksOf_metaTop o rh hrh t m e (Outcome.map_eq_err he))
  | .result t => by
      refine metaTop_of_override _ _ rfl ?_
      intro m e he
      simp only [] at he
      -- no outcome of the inner conversion is turned into an error
      generalize (hooksOf o rh t).fromMeta m = u at he
      cases u with
      | ok v => cases he
      | err e0 => cases he
      | panic x => cases he
  | .resultMeta t => by
      refine metaTop_of_override _ _ rfl ?_
      intro m e he
      simp only [] at he
      -- no outcome of the inner conversion is turned into an error
      generalize (hooksOf o rh t).fromMeta m = u at he
      cases u with
      | ok v => cases he
      | err e0 => cases he
      | panic x => cases he
  | .override t => by
      refine metaTop_of_override _ _ rfl ?_
      intro m e he
      cases m with
      | path p => cases he
      | list p items bad ts tk sp => exact hooksOf_metaTop o rh hrh t _ e (Outcome.map_eq_err he)
      | nameValue p x tk sp => exact hooksOf_metaTop o rh hrh t _ e (Outcome.map_eq_err he)
  | .spanned t => by
      refine metaTop_of_override _ _ rfl ?_
      intro m e he
      simp only [] at he
      cases hu : ((hooksOf o rh t).fromMeta m).mapErr (·.withSpan m.span) with
      | ok v => rw [hu] at he; cases he
      | panic x => rw [hu] at he; cases he
      | err e0 =>
          rw [hu] at he
          simp only [Outcome.err.injEq] at he; subst he
          exact mapErr_withSpan_top _ _ _ hu
  | .withOrig t =>
      metaTop_of_override _ _ rfl
        (fun m e he => hooksOf_metaTop o rh hrh t m e (Outcome.map_eq_err he))
  | .identString =>
      metaTop_of_override _ _ rfl (fun m e he => metaTop_of_default _ rfl m e he)
  | .synMeta =>
      metaTop_of_override _ _ rfl (fun m e he => by cases he)
  | .ignored =>
      metaTop_of_override _ _ rfl (fun m e he => by cases he)
  -- the targets that leave `from_meta` at its default
  | .unit | .bool | .char | .string | .pathBuf | .int _ | .float _ | .probe _ _ | .synExpr | .synPath
  | .synIdent | .synExprTy _ | .synParse _ | .wherePreds | .renameRule | .punctuated _ | .lit | .litKind _
  | .vecLit _ | .numArray _ | .pathList | .callable | .map _ _ _ | .vec _ =>
      metaTop_of_default _ rfl
  | .recv n => hrh n

theorem structHooks_metaTop {ν : Type} (form : StructForm ν) (fw : Option (Outcome ν)) (fn : Option ν) :
    (structHooks form fw fn).MetaTop := by
  cases form with
  | unit v => exact metaTop_of_default _ rfl
  | named s => exact metaTop_of_default _ rfl
  | newtype inner wrap =>
      refine metaTop_of_override _ _ rfl ?_
      intro m e he
      exact mapErr_withSpan_top _ _ e (Outcome.map_eq_err he)

theorem enumHooks_metaTop {ν : Type} (e : SEnum ν) : (enumHooks e).MetaTop :=
  metaTop_of_default _ rfl

theorem fromMetaHooks_metaTop (env : Env.T) (rh : String → Hooks Val) (r : Options.RFromMeta) :
    (Env.fromMetaHooks env rh r).MetaTop := by
  unfold Env.fromMetaHooks
  simp only []
  split
  · exact structHooks_metaTop _ _ _
  · exact structHooks_metaTop _ _ _
  · exact structHooks_metaTop _ _ _
  · exact enumHooks_metaTop _

/-- every derived `FromMeta` receiver of every corpus answers `from_meta` with a span on top -/
theorem recvHooksF_metaTop (env : Env.T) : ∀ (fuel : Nat) (name : String), (Env.recvHooksF fuel env name).MetaTop
  | 0, _ => by simp only [Env.recvHooksF]; exact metaTop_of_default _ rfl
  | fuel + 1, name => by
      simp only [Env.recvHooksF]
      split
      · exact metaTop_of_default _ rfl
      · split
        · exact fromMetaHooks_metaTop env _ _
        · exact metaTop_of_default _ rfl

theorem recvHooks_metaTop (env : Env.T) (name : String) : (Env.recvHooks env name).MetaTop :=
  recvHooksF_metaTop env _ name

/-! ### end to end, item level: **every leaf explicit, inside the item**

  This is the first clause of the text at the level of the attribute item handed to a conversion:
  after flattening, *every* leaf of the error shows an explicit span, and it lies inside the item. -/

/-- **C03, item level, derived receivers** -/
theorem recv_itemPlaced (env : Env.T) (name : String) (m : Meta) (hwf : m.spanWF = true)
    (ho : OracleArrWithin env.oracle m.span) (e : Err)
    (he : (Env.recvHooks env name).fromMeta m = .err e) : ItemPlaced m.span e :=
  itemPlaced_of_top (recv_allWithin env name m hwf ho e he) (recvHooks_metaTop env name m e he)

/-- **C03, item level, every target type over a corpus** -/
theorem corpus_itemPlaced (env : Env.T) (t : Ty) (m : Meta) (hwf : m.spanWF = true)
    (ho : OracleArrWithin env.oracle m.span) (e : Err)
    (he : (hooksOf env.oracle (Env.recvHooks env) t).fromMeta m = .err e) : ItemPlaced m.span e :=
  itemPlaced_of_top (corpus_allWithin env t m hwf ho e he)
    (hooksOf_metaTop env.oracle _ (recvHooks_metaTop env) t m e he)

/-- whatever has all its spans inside `A` and a span on top becomes compiler diagnostics that are
    all placed inside `A` -/
theorem toSyn_placed_of_top {A : Span} {e : Err} (hall : e.AllWithin A) (htop : e.span.isSome = true) :
    ∀ row ∈ e.toSyn, ∃ s, row.1 = some s ∧ s.within A = true := by
  intro row hrow
  unfold Err.toSyn at hrow
  split at hrow
  · simp only [List.mem_singleton] at hrow
    subst hrow
    cases hs : e.span with
    | none => rw [hs] at htop; cases htop
    | some s => exact ⟨s, by simp only [synRow, hs], hall.span s hs⟩
  · rw [List.mem_map] at hrow
    obtain ⟨l, hl, rfl⟩ := hrow
    obtain ⟨s, hs, hw⟩ := itemPlaced_of_top hall htop l hl
    exact ⟨s, by simp only [synRow, hs], hw⟩

/-- … so every compiler diagnostic made from a conversion error is placed inside the item -/
theorem corpus_diagnostics_placed (env : Env.T) (t : Ty) (m : Meta) (hwf : m.spanWF = true)
    (ho : OracleArrWithin env.oracle m.span) (e : Err)
    (he : (hooksOf env.oracle (Env.recvHooks env) t).fromMeta m = .err e) :
    ∀ row ∈ e.toSyn, ∃ s, row.1 = some s ∧ s.within m.span = true :=
  toSyn_placed_of_top (corpus_allWithin env t m hwf ho e he)
    (hooksOf_metaTop env.oracle _ (recvHooks_metaTop env) t m e he)

/-! ## 4. list level: the derived struct receiver

  What the text demands of `from_list` of a derived struct on the items `items` at the root of an
  attribute set: every leaf either concerns one of the items and then shows an explicit span inside
  *that item itself*, or reports a missing field and is then (being at the root) unspanned. -/

section structRecv
variable {ν : Type}

/-- the spans at which the items of a list are present -/
def presentOf (items : List NestedMeta) : List Span := items.map (·.span)

/-- the converter contract, tight reading: every span of an error returned for a well-formed item
    lies inside *that item* (discharged for every built-in conversion and derived receiver by
    `SpansIn.tight_fromMeta`, `hooksOf_spansIn_noOracle`, `recvHooks_spansIn`) -/
def ConvTight (r : SStruct ν) : Prop :=
  ∀ f ∈ r.fields, ∀ m : Meta, m.spanWF = true → (f.conv m).ErrsIn m.span

/-- what the text demands of the type behind a `flatten` field: its `from_list` is handed items of
    the same attribute set, so its leaves must be placed like the receiver's own -/
def FlattenPlaced (r : SStruct ν) : Prop :=
  ∀ f ∈ r.fields, f.flatten = true → ∀ (flat : List NestedMeta) (e : Err),
    (∀ n ∈ flat, n.spanWF = true) → f.fromList flat = .err e → ListPlaced none (presentOf flat) e

/-- the container-level `map` / `and_then` (user code) does not fail -/
def PostOk (r : SStruct ν) : Prop := ∀ v e, r.post v ≠ .err e

theorem LeafOk.mono {encl : Option Span} {p q : List Span} {l : Err} (h : LeafOk encl p l)
    (hpq : ∀ x ∈ p, x ∈ q) : LeafOk encl q l := by
  rcases h with ⟨x, hx, hw⟩ | h
  · exact Or.inl ⟨x, hpq x hx, hw⟩
  · exact Or.inr h

theorem isAbsence_at (l : Err) (loc : String) : IsAbsence (l.at loc) ↔ IsAbsence l := by
  cases l <;> exact Iff.rfl

theorem ListPlaced.of_item {encl : Option Span} {p : List Span} {A : Span} {e : Err} (hA : A ∈ p)
    (h : ItemPlaced A e) : ListPlaced encl p e :=
  fun l hl => Or.inl ⟨A, hA, h l hl⟩

theorem ItemPlaced.at {A : Span} {e : Err} (h : ItemPlaced A e) (loc : String) : ItemPlaced A (e.at loc) := by
  intro l hl
  rw [intoVec_at, List.mem_map] at hl
  obtain ⟨l0, hl0, rfl⟩ := hl
  exact at_within A l0 loc (h l0 hl0)

/-- whatever the item loop makes of a converter's error (`e.with_span(item).at(name)`) is placed
    inside the item, on every leaf -/
theorem itemPlaced_spanned {A : Span} {e : Err} (h : e.AllWithin A) : ItemPlaced A (e.withSpan A) :=
  itemPlaced_of_top (h.withSpan (within_refl A)) (withSpan_isSome e A)

theorem listPlaced_bundle {α : Type} {encl : Option Span} {p : List Span} {es : List Err} {b : Err}
    (h : ∀ e ∈ es, ListPlaced encl p e) (hb : (Err.bundleErr es : Outcome α) = .err b) :
    ListPlaced encl p b := by
  intro l hl
  rw [intoVec_multiple (bundleErr_eq_err.1 hb), List.mem_flatMap] at hl
  obtain ⟨e, he, hle⟩ := hl
  exact h e he l hle

/-! did-you-mean enrichment changes neither a leaf's span nor whether it reports an absence -/

theorem isAbsence_inherit (k : Kind) (ls : List String) (own inh : Option Span) :
    IsAbsence ((Err.leaf k ls own).inheritSpan inh) ↔ isAbsenceKind k = true := by
  cases own <;> cases inh <;> exact Iff.rfl

theorem locs_inherit (k : Kind) (ls : List String) (own inh : Option Span) :
    ((Err.leaf k ls own).inheritSpan inh).locs = ls := by
  cases own <;> cases inh <;> rfl

mutual
theorem addSiblingAlts_leaves (thr : Nat) (sc : String → List (String × Nat)) (pre : List String)
    (inh : Option Span) : (e : Err) → ∀ l' ∈ intoVecP pre inh (Suggest.addSiblingAlts thr sc e),
      ∃ l ∈ intoVecP pre inh e, l'.span = l.span ∧ l'.locs = l.locs ∧ (IsAbsence l' ↔ IsAbsence l)
  | .leaf k ls sp => by
      intro l' hl'
      simp only [Suggest.addSiblingAlts] at hl'
      split at hl'
      · exact ⟨l', hl', rfl, rfl, Iff.rfl⟩
      · split at hl'
        · simp only [intoVecP_leaf, List.mem_singleton] at hl'
          subst hl'
          refine ⟨_, by rw [intoVecP_leaf]; exact List.mem_singleton.mpr rfl, ?_, ?_, ?_⟩
          · rw [span_inherit, span_inherit]
          · rw [locs_inherit, locs_inherit]
          · rw [isAbsence_inherit, isAbsence_inherit]; exact Iff.rfl
        · exact ⟨l', hl', rfl, rfl, Iff.rfl⟩
  | .multi cs ls sp => by
      intro l' hl'
      simp only [Suggest.addSiblingAlts] at hl'
      split at hl'
      · exact ⟨l', hl', rfl, rfl, Iff.rfl⟩
      · simp only [intoVecP_multi] at hl' ⊢
        exact addSiblingAltsList_leaves thr sc (pre ++ ls) (sp.or inh) cs l' hl'
theorem addSiblingAltsList_leaves (thr : Nat) (sc : String → List (String × Nat)) (pre : List String)
    (inh : Option Span) : (es : List Err) → ∀ l' ∈ intoVecListP pre inh (Suggest.addSiblingAltsList thr sc es),
      ∃ l ∈ intoVecListP pre inh es, l'.span = l.span ∧ l'.locs = l.locs ∧ (IsAbsence l' ↔ IsAbsence l)
  | [] => by
      intro l' hl'
      simp only [Suggest.addSiblingAltsList, intoVecListP_nil, List.not_mem_nil] at hl'
  | c :: cs => by
      intro l' hl'
      simp only [Suggest.addSiblingAltsList, intoVecListP_cons, List.mem_append] at hl' ⊢
      rcases hl' with h | h
      · obtain ⟨l, hl, h1, h2, h3⟩ := addSiblingAlts_leaves thr sc pre inh c l' h
        exact ⟨l, Or.inl hl, h1, h2, h3⟩
      · obtain ⟨l, hl, h1, h2, h3⟩ := addSiblingAltsList_leaves thr sc pre inh cs l' h
        exact ⟨l, Or.inr hl, h1, h2, h3⟩
end

theorem LeafOk.congr {encl : Option Span} {p : List Span} {l l' : Err} (h : LeafOk encl p l)
    (hs : l'.span = l.span) (hl : l'.locs = l.locs) (ha : IsAbsence l' ↔ IsAbsence l) : LeafOk encl p l' := by
  rcases h with ⟨x, hx, s, h1, h2⟩ | ⟨h1, h2, h3⟩
  · exact Or.inl ⟨x, hx, s, by rw [hs]; exact h1, h2⟩
  · exact Or.inr ⟨ha.mpr h1, by rw [hs]; exact h2, by rw [hl]; exact h3⟩

theorem ListPlaced.addSiblingAlts {encl : Option Span} {p : List Span} {e : Err} (h : ListPlaced encl p e)
    (thr : Nat) (sc : String → List (String × Nat)) : ListPlaced encl p (Suggest.addSiblingAlts thr sc e) := by
  intro l' hl'
  obtain ⟨l, hl, h1, h2, h3⟩ := addSiblingAlts_leaves thr sc [] none e l' hl'
  exact (h l hl).congr h1 h2 h3

/-- a class `Q` of admissible leaves, relative to a pool of items that are present: it contains
    every leaf that shows an explicit span inside one of these items and every span-less, path-less
    absence -/
structure LeafClass (pool : List NestedMeta) (Q : Err → Prop) : Prop where
  item : ∀ it ∈ pool, ∀ l, SpannedWithin it.span l → Q l
  absent : ∀ l, IsAbsence l → l.span = none → l.locs = [] → Q l

/-- every leaf of `e` is of class `Q` -/
def AllLeaves (Q : Err → Prop) (e : Err) : Prop := ∀ l ∈ intoVec e, Q l

theorem leafClass_listPlaced (items : List NestedMeta) :
    LeafClass items (LeafOk none (presentOf items)) where
  item := fun it hit _ hl => Or.inl ⟨it.span, List.mem_map.mpr ⟨it, hit, rfl⟩, hl⟩
  absent := fun _ ha hs hl => Or.inr ⟨ha, hs, hl⟩

/-- the invariant of the parser state while items of the pool are walked -/
def PInv (Q : Err → Prop) (pool : List NestedMeta) (st : PState ν) : Prop :=
  (∀ e ∈ st.errs, AllLeaves Q e) ∧ (∀ n ∈ st.flat, n ∈ pool)

theorem pinv_init (Q : Err → Prop) (pool : List NestedMeta) : PInv Q pool ({} : PState ν) :=
  ⟨fun e he => (by cases he), fun n hn => (by cases hn)⟩

theorem PInv.push {Q : Err → Prop} {pool : List NestedMeta} {st : PState ν} {e : Err} (h : PInv Q pool st)
    (he : AllLeaves Q e) : PInv Q pool (st.push e) := by
  refine ⟨?_, h.2⟩
  intro x hx
  simp only [PState.push, List.mem_append, List.mem_singleton] at hx
  rcases hx with hx | rfl
  · exact h.1 x hx
  · exact he

theorem allLeaves_of_item {Q : Err → Prop} {pool : List NestedMeta} (c : LeafClass pool Q) {it : NestedMeta}
    (hit : it ∈ pool) {e : Err} (h : ItemPlaced it.span e) : AllLeaves Q e :=
  fun l hl => c.item it hit l (h l hl)

theorem coreLoop_pinv {Q : Err → Prop} {pool : List NestedMeta} (c : LeafClass pool Q) (r : SStruct ν)
    (hc : ConvTight r) (rest : List NestedMeta) (hi : ∀ n ∈ rest, n ∈ pool ∧ n.spanWF = true)
    (st st' : PState ν) (hp : PInv Q pool st) (h : coreLoop r st rest = .ok st') : PInv Q pool st' := by
  have h1 := coreLoop_errs (Q := AllLeaves Q) rest
    (fun it hit u hu => allLeaves_of_item c (hi it hit).1 (itemPlaced_spanned (hu.allWithin it.span)))
    (fun m hm f hf e loc he =>
      allLeaves_of_item c (hi _ hm).1 ((itemPlaced_spanned (hc f hf m (hi _ hm).2 e he)).at loc))
    hp.1 h
  exact ⟨h1.1, fun n hn => (h1.2 n hn).elim (hp.2 n) (fun hn' => (hi n hn').1)⟩

theorem mem_intoVec_new {k : Kind} {l : Err} (h : l ∈ intoVec (Err.new k)) : l = Err.new k :=
  List.mem_singleton.mp h

theorem allLeaves_bundle {α : Type} {Q : Err → Prop} {es : List Err} {b : Err}
    (h : ∀ e ∈ es, AllLeaves Q e) (hb : (Err.bundleErr es : Outcome α) = .err b) : AllLeaves Q b := by
  intro l hl
  rw [intoVec_multiple (bundleErr_eq_err.1 hb), List.mem_flatMap] at hl
  obtain ⟨e, he, hle⟩ := hl
  exact h e he l hle

theorem flattenPlaced_leaves {Q : Err → Prop} {pool : List NestedMeta} (c : LeafClass pool Q) {r : SStruct ν}
    (hf : FlattenPlaced r) (hwf : ∀ n ∈ pool, n.spanWF = true) {st : PState ν} (hflat : ∀ n ∈ st.flat, n ∈ pool) :
    ∀ ff ∈ r.fields, ff.flatten = true → ∀ x, ff.fromList st.flat = .err x →
      AllLeaves Q x ∧ ∀ thr sc, AllLeaves Q (Suggest.addSiblingAlts thr sc x) := by
  intro ff hm hfl x hx
  have hres : ∀ e, ListPlaced none (presentOf st.flat) e → AllLeaves Q e := by
    intro e he l hl
    rcases he l hl with ⟨y, hy, hw⟩ | ⟨h1, h2, h3⟩
    · obtain ⟨n, hn, rfl⟩ := List.mem_map.mp hy
      exact c.item n (hflat n hn) l hw
    · exact c.absent l h1 h2 h3
  have hlp := hf ff hm hfl st.flat x (fun n hn => hwf n (hflat n hn)) hx
  exact ⟨hres x hlp, fun thr sc => hres _ (hlp.addSiblingAlts thr sc)⟩

theorem allLeaves_missing {Q : Err → Prop} {pool : List NestedMeta} (c : LeafClass pool Q) (n : String) :
    AllLeaves Q (Err.new (.missingField n)) := by
  intro l hl
  rw [mem_intoVec_new hl]
  exact c.absent _ rfl rfl rfl

theorem finishStruct_placed {Q : Err → Prop} {pool : List NestedMeta} (c : LeafClass pool Q) (r : SStruct ν)
    (hf : FlattenPlaced r) (hpost : PostOk r) (hwf : ∀ n ∈ pool, n.spanWF = true) (flattenHere : Bool)
    (loc : Option String) (st : PState ν) (hp : PInv Q pool st)
    (e : Err) (he : finishStruct r flattenHere loc st = .err e) :
    ∃ b, AllLeaves Q b ∧ e = match (generalizing := false) loc with
      | some l => b.at l
      | none => b := by
  rcases finishStruct_err (Q := AllLeaves Q) he hp.1 (allLeaves_missing c)
    (fun _ st1 h1 => flattenInit_errs h1 hp.1 (flattenPlaced_leaves c hf hwf hp.2))
    with ⟨es, b, hes, hb, hbe⟩ | ⟨v, hv⟩
  · exact ⟨b, allLeaves_bundle hes hb, hbe⟩
  · exact absurd hv (hpost _ _)

/-- **C03, list level, derived struct (side conditions: the type behind a `flatten` field places
    its leaves; user `and_then` does not fail).**  Every flattened leaf of the error `from_list`
    returns at the root of an attribute set either concerns one of the items and shows an explicit
    span inside that very item, or reports a missing field and shows no span. -/
theorem struct_fromList_placed_partial (r : SStruct ν) (hc : ConvTight r) (hf : FlattenPlaced r)
    (hpost : PostOk r) (items : List NestedMeta) (hwf : ∀ n ∈ items, n.spanWF = true) (e : Err)
    (he : Derive.fromList r items = .err e) : ListPlaced none (presentOf items) e := by
  unfold Derive.fromList at he
  cases h : coreLoop r {} items with
  | error m => rw [h] at he; cases he
  | ok st =>
      rw [h] at he
      obtain ⟨b, hb, rfl⟩ := finishStruct_placed (leafClass_listPlaced items) r hf hpost hwf true none st
        (coreLoop_pinv (leafClass_listPlaced items) r hc items (fun n hn => ⟨hn, hwf n hn⟩) {} st
          (pinv_init _ items) h) e he
      exact hb

/-- without a `flatten` field the side condition on it is void -/
theorem flattenPlaced_of_none (r : SStruct ν) (h : r.hasFlatten = false) : FlattenPlaced r := by
  intro f hf hfl
  exfalso
  have : r.hasFlatten = true := List.any_eq_true.mpr ⟨f, hf, hfl⟩
  rw [h] at this; cases this

/-- … and it holds when the type behind the `flatten` field is itself a derived struct that meets
    the hypotheses (its root absences are root absences of the same attribute set) -/
theorem flattenPlaced_of_struct (r : SStruct ν)
    (h : ∀ f ∈ r.fields, f.flatten = true →
      ∃ r2 : SStruct ν, f.fromList = Derive.fromList r2 ∧ ConvTight r2 ∧ FlattenPlaced r2 ∧ PostOk r2) :
    FlattenPlaced r := by
  intro f hf hfl flat e hwf he
  obtain ⟨r2, hfe, h1, h2, h3⟩ := h f hf hfl
  rw [hfe] at he
  exact struct_fromList_placed_partial r2 h1 h2 h3 flat hwf e he

/-! ### nested: the enclosing item's span for what is absent from it -/

theorem locs_withSpan (l : Err) (s : Span) : (l.withSpan s).locs = l.locs := by
  cases l with
  | leaf k ls own => cases own <;> rfl
  | multi cs ls own => cases own <;> rfl

theorem isAbsence_withSpan (l : Err) (s : Span) : IsAbsence (l.withSpan s) ↔ IsAbsence l := by
  cases l with
  | leaf k ls own => cases own <;> exact Iff.rfl
  | multi cs ls own => cases own <;> exact Iff.rfl

/-- the default `from_meta` turns root-level placement of the list into placement inside the
    enclosing item: leaves about present items keep their span, absences get the item's span -/
theorem ListPlaced.withSpan {p : List Span} {e : Err} (h : ListPlaced none p e) (A : Span) :
    ListPlaced (some A) p (e.withSpan A) := by
  intro l' hl'
  rw [intoVec_withSpan, List.mem_map] at hl'
  obtain ⟨l, hl, rfl⟩ := hl'
  rcases h l hl with ⟨x, hx, s, h1, h2⟩ | ⟨h1, h2, h3⟩
  · exact Or.inl ⟨x, hx, s, by rw [withSpan_keeps l s A h1]; exact h1, h2⟩
  · exact Or.inr ⟨(isAbsence_withSpan l A).mpr h1, withSpan_sets l A h2, by rw [locs_withSpan]; exact h3⟩

/-- **C03, nested item, derived struct**: converting the list item `name(items…)` with a derived
    struct receiver, every leaf concerns one of `items` and shows an explicit span inside that
    very item, or reports a field missing from `name(…)` and shows exactly the span of
    `name(…)` — the innermost item that encloses the absence. -/
theorem struct_fromMeta_placed_partial (r : SStruct ν) (hc : ConvTight r) (hf : FlattenPlaced r)
    (hpost : PostOk r) (fw : Option (Outcome ν)) (fn : Option ν)
    (p : Path) (items : List NestedMeta) (ts : Option Span) (toks : String) (sp : Span)
    (hwf : ∀ n ∈ items, n.spanWF = true) (e : Err)
    (he : (structHooks (.named r) fw fn).fromMeta (.list p items none ts toks sp) = .err e) :
    ListPlaced (some sp) (presentOf items) e := by
  have he' : (Derive.fromList r items).mapErr (·.withSpan sp) = .err e := he
  cases h : Derive.fromList r items with
  | ok v => rw [h] at he'; cases he'
  | panic m => rw [h] at he'; cases he'
  | err e0 =>
      rw [h] at he'
      simp only [Outcome.mapErr, Outcome.err.injEq] at he'
      subst he'
      exact (struct_fromList_placed_partial r hc hf hpost items hwf e0 h).withSpan sp

/-! ## 5. the derived enum receiver

  Text: whatever a derived enum says about the one item `v(…)` / `v = …` / `v` that selects a
  variant concerns that item (its name, its form, its contents) or something missing *inside* it,
  so every leaf must show an explicit span inside that item ("inside the offending item itself";
  "absent from a nested item: that enclosing item's span").

  The emitted `from_list` attaches the span of the selecting item to whatever
  the selected variant's arm returns (`with_span` never replaces), so the statements below need
  neither a condition on the *form* of the item nor one on the leaves. -/

/-- the pieces of a variant honour the contracts of the text -/
def VariantTight (v : SVariant ν) : Prop :=
  match v.kind with
  | .unit _ => True
  | .newtype fm _ _ => ∀ m : Meta, m.spanWF = true → (fm m).ErrsIn m.span
  | .struct s => ConvTight s ∧ FlattenPlaced s ∧ PostOk s

theorem unknownErr_unspanned (e : SEnum ν) (name : String) : (e.unknownErr name).Unspanned := by
  unfold SEnum.unknownErr
  split <;> rfl

theorem ItemPlaced.withSpan {A : Span} {e : Err} (h : ItemPlaced A e) (s : Span) :
    ItemPlaced A (e.withSpan s) := by
  intro l' hl'
  rw [intoVec_withSpan, List.mem_map] at hl'
  obtain ⟨l, hl, rfl⟩ := hl'
  obtain ⟨t, h1, h2⟩ := h l hl
  rw [withSpan_keeps l t s h1]
  exact ⟨t, h1, h2⟩

/-- the text's verdict on one flattened leaf of what an enum reports about the struct-variant item
    `name(items…)` spanned `sp`: the leaf concerns one of `items` and shows an explicit span inside
    that very item, or it reports something absent from `name(…)` — its path is the variant's name
    and nothing more — and shows **exactly the span of `name(…)`**, the innermost item that
    encloses the absence -/
def VariantLeafOk (name : String) (sp : Span) (present : List Span) (l : Err) : Prop :=
  (∃ p ∈ present, SpannedWithin p l) ∨ (IsAbsence l ∧ l.span = some sp ∧ l.locs = [name])

theorem locs_at (l : Err) (loc : String) : (l.at loc).locs = loc :: l.locs := by
  cases l <;> rfl

/-- **C03, derived enum, struct variant, tight reading.**  The selecting item is the list
    `name(items…)` and `name` selects a struct variant: every flattened leaf concerns one of
    `items` and is spanned inside it, or is an absence from `name(…)` located under the variant's
    name and showing exactly the span of `name(…)` — not the span of whatever encloses the enum,
    and never no span. -/
theorem enum_struct_variant_placed_partial (e : SEnum ν) (p : Path) (items : List NestedMeta)
    (ts : Option Span) (tk : String) (sp : Span) (v : SVariant ν) (s : SStruct ν)
    (harm : e.arm (Meta.list p items none ts tk sp).path'.toStr = some v) (hk : v.kind = .struct s)
    (hc : ConvTight s) (hf : FlattenPlaced s) (hpost : PostOk s)
    (hwf : ∀ n ∈ items, n.spanWF = true) (err : Err)
    (he : enumFromList e [.item (.list p items none ts tk sp)] = .err err) :
    ∀ l ∈ intoVec err, VariantLeafOk v.name sp (presentOf items) l := by
  simp only [enumFromList, harm, dataArm, hk] at he
  cases hcl : coreLoop s {} items with
  | error m => rw [hcl] at he; cases he
  | ok st =>
      rw [hcl] at he
      obtain ⟨e1, hfin, rfl⟩ := Outcome.mapErr_eq_err he
      obtain ⟨b, hlp, rfl⟩ := finishStruct_placed (leafClass_listPlaced items) s hf hpost hwf true (some v.name) st
        (coreLoop_pinv (leafClass_listPlaced items) s hc items (fun n hn => ⟨hn, hwf n hn⟩) {} st
          (pinv_init _ items) hcl) e1 hfin
      show ∀ l' ∈ intoVec ((b.at v.name).withSpan sp), VariantLeafOk v.name sp (presentOf items) l'
      intro l' hl'
      rw [intoVec_withSpan, intoVec_at, List.map_map, List.mem_map] at hl'
      obtain ⟨l, hl, rfl⟩ := hl'
      simp only [Function.comp]
      rcases hlp l hl with ⟨x, hx, t, h1, h2⟩ | ⟨h1, h2, h3⟩
      · have h1' : (l.at v.name).span = some t := by rw [at_span]; exact h1
        exact Or.inl ⟨x, hx, t, by rw [withSpan_keeps _ t sp h1']; exact h1', h2⟩
      · refine Or.inr ⟨(isAbsence_withSpan _ sp).mpr ((isAbsence_at l v.name).mpr h1),
          withSpan_sets _ sp (by rw [at_span]; exact h2), ?_⟩
        rw [locs_withSpan, locs_at, h3]

/-- what the selected variant's arm answers for the item, before the enum spans it with the item:
    an error all of whose spans lie inside the item — unless a struct variant reads a list
    `v(items…)`, the case of `enum_struct_variant_placed_partial` -/
theorem dataArm_allWithin (v : SVariant ν) (hvt : VariantTight v) (nested : Meta) (hwf : nested.spanWF = true)
    (e1 : Err) (hd : dataArm v nested = .err e1) :
    e1.AllWithin nested.span ∨
      ∃ s p items ts tk sp, v.kind = .struct s ∧ nested = .list p items none ts tk sp := by
  unfold VariantTight at hvt
  unfold dataArm at hd
  cases hk : v.kind with
  | unit val =>
      rw [hk] at hd
      cases nested with
      | path p => cases hd
      | list p items bad ts tk sp =>
          cases hd
          exact Or.inl ((unsp_unsupportedFormat _).allWithin _)
      | nameValue p x tk sp =>
          cases hd
          exact Or.inl ((unsp_unsupportedFormat _).allWithin _)
  | newtype fm fn wrap =>
      rw [hk] at hd hvt
      simp only [] at hd hvt
      obtain ⟨e0, hfm, rfl⟩ := Outcome.mapErr_eq_err (Outcome.map_eq_err hd)
      exact Or.inl ((hvt nested hwf e0 hfm).at _)
  | struct s =>
      rw [hk] at hd
      simp only [] at hd
      cases nested with
      | path p =>
          cases hd
          exact Or.inl ((unsp_unsupportedFormat _).allWithin _)
      | nameValue p x tk sp =>
          cases hd
          exact Or.inl ((unsp_unsupportedFormat _).allWithin _)
      | list p items bad ts tk sp =>
          cases bad with
          | some b =>
              obtain ⟨msg, bs⟩ := b
              cases hd
              simp only [Meta.spanWF, Bool.and_eq_true] at hwf
              exact Or.inl ((leaf_allWithin _ _ hwf.1.2).at _)
          | none => exact Or.inr ⟨s, p, items, ts, tk, sp, rfl, rfl⟩

/-- **C03, derived enum, one selecting item** (side conditions: only the contracts of the pieces
    the variants are made of — `VariantTight`).  Whatever the form of the item, and whatever is
    missing inside it, every leaf shows an explicit span inside the item. -/
theorem enum_item_placed_partial (e : SEnum ν) (hv : ∀ v ∈ e.variants, VariantTight v)
    (nested : Meta) (hwf : nested.spanWF = true) (err : Err)
    (he : enumFromList e [.item nested] = .err err) : ItemPlaced nested.span err := by
  have he0 := he
  simp only [enumFromList] at he
  cases ha : e.arm nested.path'.toStr with
  | none =>
      rw [ha] at he
      simp only [Outcome.err.injEq] at he
      subst he
      exact itemPlaced_spanned ((unknownErr_unspanned e _).allWithin nested.span)
  | some v =>
      rw [ha] at he
      simp only [] at he
      obtain ⟨e1, hd, rfl⟩ := Outcome.mapErr_eq_err he
      have hvt := hv v (List.mem_of_find?_eq_some ha)
      rcases dataArm_allWithin v hvt nested hwf e1 hd with h | ⟨s, p, items, ts, tk, sp, hk, rfl⟩
      · exact itemPlaced_spanned h
      · unfold VariantTight at hvt
        rw [hk] at hvt
        simp only [Meta.spanWF, Bool.and_eq_true] at hwf
        have hmem := nestedWFList_mem items hwf.2
        have ht := enum_struct_variant_placed_partial e p items ts tk sp v s ha hk hvt.1 hvt.2.1
          hvt.2.2 (fun n hn => (hmem n hn).1) _ he0
        intro l hl
        rcases ht l hl with ⟨x, hx, t, h1, h2⟩ | ⟨_, h2, _⟩
        · obtain ⟨n, hn, rfl⟩ := List.mem_map.mp hx
          exact ⟨t, h1, within_trans h2 (hmem n hn).2⟩
        · exact ⟨sp, h2, within_refl sp⟩

/-- **C03, derived enum at the root of an attribute set** (the enum behind `#[darling(flatten)]`,
    or `from_list` called directly), handed no item or one item: the leaves are placed as the text
    demands of a list — inside the one item present, or the root-level absence "too few items"
    with no span and no path.  (Two or more items and a bare literal: discrepancy D2 — there
    is no single item at fault.) -/
theorem enum_fromList_placed_partial (e : SEnum ν) (hv : ∀ v ∈ e.variants, VariantTight v)
    (outer : List NestedMeta) (hlen : outer.length ≤ 1) (hnl : ∀ l, NestedMeta.lit l ∉ outer)
    (hwf : ∀ n ∈ outer, n.spanWF = true) (err : Err)
    (he : enumFromList e outer = .err err) : ListPlaced none (presentOf outer) err := by
  match outer, hlen, hnl, hwf, he with
  | [], _, _, _, he =>
      simp only [enumFromList, Outcome.err.injEq] at he
      subst he
      intro l hl
      simp only [Err.new, intoVec, intoVecP_leaf, List.mem_singleton] at hl
      subst hl
      exact Or.inr ⟨rfl, rfl, rfl⟩
  | [.lit l], _, hnl, _, _ => exact absurd (List.mem_singleton.mpr rfl) (hnl l)
  | [.item nested], _, _, hwf, he =>
      exact ListPlaced.of_item (List.mem_singleton.mpr rfl)
        (enum_item_placed_partial e hv nested (hwf _ (List.mem_singleton.mpr rfl)) err he)
  | _ :: _ :: _, hlen, _, _, _ => simp at hlen

end structRecv

/-! ## 6. element-level receivers (`FromDeriveInput`, `FromField`, `FromVariant`, `FromTypeParam`,
    `FromAttributes`)

  Text, read for a whole element: a leaf concerns an item present in one of the element's
  attributes and then shows an explicit span inside that item itself; or it concerns an attribute
  that cannot be read as a list of items at all and then shows an explicit span inside that
  attribute; or it reports an absence at the root of the attribute set; or it is a verdict on the
  whole element (unsupported shape, union) — the last two without a span. -/

section outer
variable {ν : Type}

def isVerdictKind : Kind → Bool
  | .unsupportedShape _ _ => true
  | _ => false

/-- a (flattened) leaf is a verdict on the shape of the whole element -/
def IsVerdict : Err → Prop
  | .leaf k _ _ => isVerdictKind k = true
  | .multi _ _ _ => False

/-- the items an attribute presents (`#[name(item, …)]` whose tokens parse) -/
def attrPool (a : Attr) : List NestedMeta :=
  match a.body with
  | .list _ items none _ _ _ => items
  | _ => []

def poolOf (attrs : List Attr) : List NestedMeta := attrs.flatMap attrPool

/-- the attribute presents no items: `#[name = value]`, or a list whose tokens do not parse -/
def Unreadable (a : Attr) : Prop :=
  match a.body with
  | .list _ _ (some _) _ _ _ => True
  | .nameValue _ _ _ _ => True
  | _ => False

def ElemLeafOk (attrs : List Attr) (l : Err) : Prop :=
  (∃ it ∈ poolOf attrs, SpannedWithin it.span l)
  ∨ (∃ a ∈ attrs, Unreadable a ∧ SpannedWithin a.body.span l)
  ∨ (IsAbsence l ∧ l.span = none ∧ l.locs = [])
  ∨ (IsVerdict l ∧ l.span = none)

/-- **element-level placement** of a whole error -/
def ElemPlaced (attrs : List Attr) (e : Err) : Prop := ∀ l ∈ intoVec e, ElemLeafOk attrs l

theorem leafClass_elem (attrs : List Attr) : LeafClass (poolOf attrs) (ElemLeafOk attrs) where
  item := fun it hit _ hl => Or.inl ⟨it, hit, hl⟩
  absent := fun _ ha hs hl => Or.inr (Or.inr (Or.inl ⟨ha, hs, hl⟩))

/-- the user's function behind the `attrs` magic field does not fail -/
def AttrsFnOk (r : SOuter ν) : Prop := ∀ mk, r.attrsField = some mk → ∀ fwd e, mk fwd ≠ .err e

/-- the shape validation answers with verdicts only, none of them spanned -/
def ValidateVerdict (validate : Outcome Unit) : Prop :=
  ∀ e, validate = .err e → ∀ l ∈ intoVec e, IsVerdict l ∧ l.span = none

theorem pool_mem {attrs : List Attr} {a : Attr} (ha : a ∈ attrs) {n : NestedMeta} (hn : n ∈ attrPool a) :
    n ∈ poolOf attrs := List.mem_flatMap.mpr ⟨a, ha, hn⟩

theorem pool_wf {attrs : List Attr} (hwf : ∀ a ∈ attrs, a.body.spanWF = true) :
    ∀ n ∈ poolOf attrs, n.spanWF = true := by
  intro n hn
  obtain ⟨a, ha, hna⟩ := List.mem_flatMap.mp hn
  have hb := hwf a ha
  unfold attrPool at hna
  split at hna
  · rename_i p items ts tk sp hbody
    rw [hbody] at hb
    simp only [Meta.spanWF, Bool.and_eq_true] at hb
    exact (nestedWFList_mem items hb.2 n hna).1
  · cases hna

/-- what the attributes of the element contribute to the walk (`C08.atoms`): an item of the pool, or
    the one error of an attribute that presents no items, spanned inside that attribute -/
theorem atom_elem (r : SOuter ν) (attrs : List Attr) (hwf : ∀ a ∈ attrs, a.body.spanWF = true) :
    ∀ x ∈ C08.atoms r attrs,
      (∃ n ∈ poolOf attrs, x = .item n) ∨ ∃ e, x = .bad e ∧ AllLeaves (ElemLeafOk attrs) e := by
  intro x hat
  obtain ⟨a, ha, hata⟩ := List.mem_flatMap.mp hat
  cases hsel : C08.selected r a with
  | false => rw [C08.atomsOf_of_not_selected hsel] at hata; cases hata
  | true =>
      rw [C08.atomsOf, if_pos hsel, attrItems] at hata
      cases hb : a.body with
      | path p => rw [hb] at hata; cases hata
      | nameValue p x tk sp =>
          rw [hb] at hata
          obtain rfl := List.mem_singleton.mp hata
          refine Or.inr ⟨_, rfl, fun l hl => ?_⟩
          have hu : Unreadable a := by unfold Unreadable; rw [hb]; trivial
          have := itemPlaced_spanned ((unsp_custom _).allWithin sp) l hl
          exact Or.inr (Or.inl ⟨a, ha, hu, by rw [hb]; exact this⟩)
      | list p items bad ts tk sp =>
          rw [hb] at hata
          cases bad with
          | some b =>
              obtain ⟨msg, bs⟩ := b
              obtain rfl := List.mem_singleton.mp hata
              refine Or.inr ⟨_, rfl, fun l hl => ?_⟩
              obtain rfl : l = .leaf (.custom msg) [] (some bs) := List.mem_singleton.mp hl
              have hu : Unreadable a := by unfold Unreadable; rw [hb]; trivial
              have hbw := hwf a ha
              rw [hb] at hbw
              simp only [Meta.spanWF, Bool.and_eq_true] at hbw
              exact Or.inr (Or.inl ⟨a, ha, hu, bs, rfl, by rw [hb]; exact hbw.1.2⟩)
          | none =>
              obtain ⟨n, hn, rfl⟩ := List.mem_map.mp hata
              exact Or.inl ⟨n, pool_mem ha (by unfold attrPool; rw [hb]; exact hn), rfl⟩

theorem runAtoms_pinv (r : SOuter ν) (hc : ConvTight r.fields) (attrs : List Attr)
    (hwf : ∀ a ∈ attrs, a.body.spanWF = true) (ats : List C08.Atom)
    (hats : ∀ x ∈ ats, (∃ n ∈ poolOf attrs, x = .item n) ∨ ∃ e, x = .bad e ∧ AllLeaves (ElemLeafOk attrs) e)
    (p p' : PState ν) (hp : PInv (ElemLeafOk attrs) (poolOf attrs) p)
    (h : C08.runAtoms r.fields p ats = .ok p') : PInv (ElemLeafOk attrs) (poolOf attrs) p' := by
  induction ats generalizing p with
  | nil => cases h; exact hp
  | cons x rest ih =>
      rw [C08.runAtoms] at h
      cases hs : C08.stepAtom r.fields p x with
      | error m => rw [hs] at h; cases h
      | ok p1 =>
          rw [hs] at h
          refine ih (fun y hy => hats y (List.mem_cons_of_mem _ hy)) p1 ?_ h
          rcases hats x List.mem_cons_self with ⟨n, hn, rfl⟩ | ⟨e, rfl, he⟩
          · exact coreLoop_pinv (leafClass_elem attrs) r.fields hc [n]
              (fun y hy => by rw [List.mem_singleton.mp hy]; exact ⟨hn, pool_wf hwf n hn⟩) p p1 hp
              (coreLoop_cons_ok hs [])
          · cases hs; exact hp.push he

theorem extract_pinv (r : SOuter ν) (hc : ConvTight r.fields) (hattrs : AttrsFnOk r) (attrs : List Attr)
    (hwf : ∀ a ∈ attrs, a.body.spanWF = true) (p : PState ν) (av : Option ν)
    (h : extract r attrs = .ok (p, av)) : PInv (ElemLeafOk attrs) (poolOf attrs) p := by
  rw [C08.extract_spec, C08.extractSpec] at h
  cases hw : C08.runAtoms r.fields {} (C08.atoms r attrs) with
  | error m => rw [hw] at h; cases h
  | ok st =>
      rw [hw] at h
      change attrsValue r st _ = _ at h
      have hp := runAtoms_pinv r hc attrs hwf _ (atom_elem r attrs hwf) {} st (pinv_init _ _) hw
      unfold attrsValue at h
      cases haf : r.attrsField with
      | none => rw [haf] at h; cases h; exact hp
      | some mk =>
          rw [haf] at h
          simp only [] at h
          cases hmk : mk (attrs.filter (C08.forwardedBy r)) with
          | ok v => rw [hmk] at h; cases h; exact hp
          | err e => exact absurd hmk (hattrs mk haf _ _)
          | panic m => rw [hmk] at h; cases h

theorem lateValues_err : (late : List (String × Outcome ν)) → ∀ e, lateValues late = .err e →
    ∃ k o, (k, o) ∈ late ∧ o = .err e
  | [], e, h => by simp only [lateValues] at h; cases h
  | (k, o) :: rest, e, h => by
      simp only [lateValues] at h
      cases o with
      | ok v =>
          simp only [] at h
          obtain ⟨k', o', hm, ho⟩ := lateValues_err rest e (Outcome.map_eq_err h)
          exact ⟨k', o', List.mem_cons_of_mem _ hm, ho⟩
      | err e0 =>
          simp only [Outcome.err.injEq] at h
          subst h
          exact ⟨k, _, List.mem_cons_self, rfl⟩
      | panic m => cases h

theorem assemble_err (r : SOuter ν) (hpost : PostOk r.fields) (st : PState ν) (av : Option ν)
    (late : List (String × Outcome ν)) (early : List (String × ν)) (build : List (String × ν) → ν) (e : Err)
    (h : assemble r st av late early build = .err e) : ∃ k o, (k, o) ∈ late ∧ o = .err e := by
  have hap : ∀ x, attrsPart r av ≠ .err x := by
    intro x hx
    unfold attrsPart at hx
    split at hx <;> cases hx
  rcases C08.assemble_cases r st av late early build with ⟨a, l, i, hb⟩ | ⟨m, hm, _⟩ | ⟨e', he, hparts⟩
  · exact absurd (hb.symm.trans h) (hpost _ _)
  · rw [hm] at h; cases h
  · obtain rfl : e' = e := Outcome.err.inj (he.symm.trans h)
    rcases hparts with h1 | h1 | h1
    · exact absurd h1 (hap _)
    · exact lateValues_err late _ h1
    · exact absurd h1 (initFields_ne_err _ _ _ _)

theorem finishChecked_placed (r : SOuter ν) (hf : FlattenPlaced r.fields) (hpost : PostOk r.fields)
    (attrs : List Attr) (hwf : ∀ a ∈ attrs, a.body.spanWF = true) (st : PState ν)
    (hp : PInv (ElemLeafOk attrs) (poolOf attrs) st) (av : Option ν)
    (late : List (String × Outcome ν)) (early : List (String × ν)) (build : List (String × ν) → ν) (e : Err)
    (h : finishChecked r st av late early build = .err e) :
    ElemPlaced attrs e ∨ ∃ k o, (k, o) ∈ late ∧ o = .err e := by
  have c := leafClass_elem attrs
  unfold finishChecked at h
  cases hfi : flattenInit r.fields st with
  | error m => rw [hfi] at h; cases h
  | ok st1 =>
      rw [hfi] at h
      simp only [] at h
      have h2 := checkMissing_errs (allLeaves_missing c) r.fields.fields st1
        (flattenInit_errs hfi hp.1 (flattenPlaced_leaves c hf (pool_wf hwf) hp.2))
      cases hes : (checkMissing r.fields.fields st1).errs with
      | cons x xs =>
          rw [hes] at h
          simp only [] at h
          exact Or.inl (allLeaves_bundle (by rw [← hes]; exact h2) h)
      | nil =>
          rw [hes] at h
          simp only [] at h
          exact Or.inr (assemble_err r hpost _ av late early build e h)

/-- **C03, element level (side conditions: the type behind a `flatten` field places its leaves; the
    user's `and_then` / `attrs` functions do not fail).**  `extract` then `finishOuter` is how every
    element-level `from_*` is composed (`Env.runOuter`).  The error of an element-level receiver
    is either the unchanged error of one of the `?`-chained body / generics conversions, or every
    one of its leaves is placed as the text demands: inside the offending item itself, inside an
    unreadable attribute, or — root absences and shape verdicts only — without a span. -/
theorem outer_placed_partial (r : SOuter ν) (hc : ConvTight r.fields) (hf : FlattenPlaced r.fields)
    (hpost : PostOk r.fields) (hattrs : AttrsFnOk r) (attrs : List Attr)
    (hwf : ∀ a ∈ attrs, a.body.spanWF = true) (validate : Outcome Unit) (hval : ValidateVerdict validate)
    (late : List (String × Outcome ν)) (early : List (String × ν)) (build : List (String × ν) → ν)
    (p : PState ν) (av : Option ν) (hx : extract r attrs = .ok (p, av)) (e : Err)
    (he : finishOuter r p av validate late early build = .err e) :
    ElemPlaced attrs e ∨ ∃ k o, (k, o) ∈ late ∧ o = .err e := by
  have hp := extract_pinv r hc hattrs attrs hwf p av hx
  unfold finishOuter at he
  cases hv : validate with
  | panic m => rw [hv] at he; cases he
  | ok u => rw [hv] at he; exact finishChecked_placed r hf hpost attrs hwf p hp av late early build e he
  | err ve =>
      rw [hv] at he
      refine finishChecked_placed r hf hpost attrs hwf (p.push ve) (hp.push ?_) av late early build e he
      intro l hl
      exact Or.inr (Or.inr (Or.inr (hval ve hv l hl)))

/-! ### the emitted `__validate_body` answers with shape verdicts only -/

/-- **the shape validation of every `supports(..)` set honours `ValidateVerdict`** -/
theorem validateBody_verdict (d : DISS) (b : BodyShape) : ValidateVerdict (d.validateBody b) := by
  intro e he l hl
  -- every error of the validator is made of "unsupported shape" leaves (`C18`'s case lemmas)
  have single : ∀ obs exp, e = Err.new (.unsupportedShape obs exp) → IsVerdict l ∧ l.span = none := by
    intro obs exp hk
    subst hk
    simp only [Err.new, intoVec, intoVecP_leaf, List.mem_singleton] at hl
    subst hl
    exact ⟨rfl, rfl⟩
  cases hany : d.any with
  | true => rw [C18.validateBody_of_any hany] at he; cases he
  | false =>
      cases b with
      | union => rw [C18.validateBody_union hany] at he; exact single _ _ (Outcome.err.inj he).symm
      | struct s =>
          rw [C18.validateBody_struct hany] at he
          cases hsc : d.structValues.toShapeSet.isEmpty with
          | true =>
              obtain ⟨x, hx⟩ := C18.validateStruct_of_isEmpty hsc d.enumValues.toShapeSet s
              rw [hx] at he; exact single _ _ (Outcome.err.inj he).symm
          | false =>
              obtain ⟨x, hx⟩ := C18.variantErr_eq d.structValues.toShapeSet
              rw [C18.validateStruct_of_nonempty hsc, C18.check_eq] at he
              cases hc : d.structValues.toShapeSet.containsShape s with
              | true => rw [hc] at he; cases he
              | false => rw [hc] at he; exact single _ _ ((Outcome.err.inj he).symm.trans (hx s))
      | «enum» vs =>
          rw [C18.validateBody_enum hany] at he
          cases hec : d.enumValues.toShapeSet.isEmpty with
          | true =>
              obtain ⟨x, hx⟩ := C18.validateEnum_of_isEmpty hec d.structValues.toShapeSet vs
              rw [hx] at he; exact single _ _ (Outcome.err.inj he).symm
          | false =>
              obtain ⟨x, hx⟩ := C18.variantErr_eq d.enumValues.toShapeSet
              rcases C18.validateEnum_cases hec d.structValues.toShapeSet vs rfl with
                ⟨_, hok⟩ | ⟨_, e', he', hv, _⟩
              · rw [hok] at he; cases he
              · rw [he'] at he; cases he
                rw [show intoVec e = _ from hv, List.mem_map] at hl
                obtain ⟨v, _, rfl⟩ := hl
                rw [hx v]
                exact ⟨rfl, rfl⟩

end outer


/-! ## 7. the contracts discharged for the receivers of a corpus -/

/-- the `ExprArray` oracle answers nothing (no target re-parses a string into an array in the run
    at hand); then the oracle hypothesis of the span theorems holds for every ambient span at once -/
def NoArrays (o : Oracle) : Prop := ∀ s, o.parseArr s = none

theorem noArrays_within {o : Oracle} (h : NoArrays o) (A : Span) : OracleArrWithin o A := by
  intro s x hx
  rw [h s] at hx
  cases hx

/-- the struct parser `Env` assembles for any derived declaration of any corpus honours the tight
    converter contract, whatever the other receivers of the corpus are, at any nesting depth -/
theorem semStruct_convTight (env : Env.T) (hna : NoArrays env.oracle) (core : Options.RCore)
    (fields : List Options.RField) (build : List (String × Val) → Val) :
    ConvTight (Env.semStruct env (Env.recvHooks env) core fields build) := by
  intro sf hsf m hwf
  simp only [Env.semStruct, List.mem_map] at hsf
  obtain ⟨f, _, rfl⟩ := hsf
  exact semField_conv_errsIn env (Env.recvHooks env)
    (fun n => recvHooks_spansIn env m.span (noArrays_within hna m.span) n)
    (noArrays_within hna m.span) f m hwf (within_refl _)

theorem semStruct_flattenPlaced (env : Env.T) (core : Options.RCore) (fields : List Options.RField)
    (build : List (String × Val) → Val) (h : ∀ f ∈ fields, f.flatten = false) :
    FlattenPlaced (Env.semStruct env (Env.recvHooks env) core fields build) := by
  apply flattenPlaced_of_none
  cases hh : (Env.semStruct env (Env.recvHooks env) core fields build).hasFlatten with
  | false => rfl
  | true =>
      exfalso
      obtain ⟨sf, hsf, hfl⟩ := List.any_eq_true.mp hh
      simp only [Env.semStruct, List.mem_map] at hsf
      obtain ⟨f, hf, rfl⟩ := hsf
      have := h f hf
      simp only [Env.semField] at hfl
      rw [this] at hfl
      cases hfl

/-- **C03, list level, any derived struct of any corpus without a `flatten` field of its own**
    (nested receivers are arbitrary: enums, maps, structs with `flatten`, to any depth) -/
theorem corpus_struct_fromList_placed_partial (env : Env.T) (hna : NoArrays env.oracle)
    (core : Options.RCore) (fields : List Options.RField) (build : List (String × Val) → Val)
    (hnf : ∀ f ∈ fields, f.flatten = false)
    (hpost : PostOk (Env.semStruct env (Env.recvHooks env) core fields build))
    (items : List NestedMeta) (hwf : ∀ n ∈ items, n.spanWF = true) (e : Err)
    (he : Derive.fromList (Env.semStruct env (Env.recvHooks env) core fields build) items = .err e) :
    ListPlaced none (presentOf items) e :=
  struct_fromList_placed_partial _ (semStruct_convTight env hna core fields build)
    (semStruct_flattenPlaced env core fields build hnf) hpost items hwf e he

/-- the semantic variant `Env.fromMetaHooks` builds for a declared variant: a copy of that sub-term
    of the model, checked against it by `fromMetaHooks_enum` -/
def corpusVariant (env : Env.T) (core : Options.RCore) (v : Options.RVariant) : SVariant Val :=
  { name := v.name, skip := v.skip,
    kind := match v.style, v.fields with
      | .unit, _ => .unit (.variant core.ident v.ident .unit)
      | .tuple, [f] =>
          let h := hooksOf env.oracle (Env.recvHooks env) f.ty
          .newtype h.fromMeta h.fromNone (fun x => .variant core.ident v.ident x)
      | _, fs =>
          .struct (Env.semStruct env (Env.recvHooks env)
            { core with allowUnknown := v.allowUnknown, dflt := core.dflt, post := none } fs
            (fun kvs => .variant core.ident v.ident (.record v.ident kvs))) }

/-- the derived enum receiver of a corpus *is* `enumHooks` over these variants -/
theorem fromMetaHooks_enum (env : Env.T) (r : Options.RFromMeta) (variants : List Options.RVariant)
    (hd : r.base.data = .enum variants) :
    ∃ fw fn, Env.fromMetaHooks env (Env.recvHooks env) r
      = enumHooks { variants := variants.map (corpusVariant env r.base), score := env.oracle.score,
                    thr := env.thr, fromWord := fw, fromNone := fn } := by
  unfold Env.fromMetaHooks
  simp only [hd]
  exact ⟨_, _, rfl⟩

/-- every variant of every derived enum of every corpus honours the contracts, provided its own
    fields are not `flatten` fields -/
theorem corpusVariant_tight (env : Env.T) (hna : NoArrays env.oracle) (core : Options.RCore)
    (v : Options.RVariant) (hnf : ∀ f ∈ v.fields, f.flatten = false) :
    VariantTight (corpusVariant env core v) := by
  have strct : ∀ (c : Options.RCore) (b : List (String × Val) → Val), c.post = none →
      ConvTight (Env.semStruct env (Env.recvHooks env) c v.fields b) ∧
      FlattenPlaced (Env.semStruct env (Env.recvHooks env) c v.fields b) ∧
      PostOk (Env.semStruct env (Env.recvHooks env) c v.fields b) := by
    intro c b hc
    refine ⟨semStruct_convTight env hna c v.fields b, semStruct_flattenPlaced env c v.fields b hnf, ?_⟩
    intro x e he
    simp only [Env.semStruct, hc, Option.bind_none] at he
    cases he
  unfold VariantTight corpusVariant
  simp only []
  cases hs : v.style with
  | unit => trivial
  | named => exact strct _ _ rfl
  | tuple =>
      cases hf : v.fields with
      | nil => simp only []; rw [← hf]; exact strct _ _ rfl
      | cons f rest =>
          cases rest with
          | nil =>
              intro m hwf
              exact (corpus_spansIn env m.span (noArrays_within hna m.span) f.ty).fromMeta m hwf (within_refl _)
          | cons g rest => simp only []; rw [← hf]; exact strct _ _ rfl

/-- **C03, derived enum of any corpus, one selecting item**: whatever its form, whatever is missing
    inside it, every leaf shows an explicit span inside the item (no condition on the input beyond
    well-formed spans; the variants' own fields are not `flatten` fields).  Stated of `enumHooks`
    over the `corpusVariant`s, which is the receiver the model assembles for a declared enum
    (`fromMetaHooks_enum`). -/
theorem corpus_enum_item_placed_partial (env : Env.T) (hna : NoArrays env.oracle) (core : Options.RCore)
    (variants : List Options.RVariant) (hnf : ∀ v ∈ variants, ∀ f ∈ v.fields, f.flatten = false)
    (fw : Option (Outcome Val)) (fn : Option Val)
    (nested : Meta) (hwf : nested.spanWF = true)
    (err : Err)
    (he : (enumHooks { variants := variants.map (corpusVariant env core), score := env.oracle.score,
                       thr := env.thr, fromWord := fw, fromNone := fn }).fromList [.item nested] = .err err) :
    ItemPlaced nested.span err := by
  refine enum_item_placed_partial _ ?_ nested hwf err he
  intro sv hsv
  simp only [List.mem_map] at hsv
  obtain ⟨rv, hrv, rfl⟩ := hsv
  exact corpusVariant_tight env hna core rv (hnf rv hrv)

/-! ## 8. "never replaced", bundling, flattening, diagnostics — by position

  `C04.spanAt e a` is the innermost span among the nodes met from the leaf at address `a` up to the
  root (defined by position in `C04Spec`, with no reference to `into_vec`). -/

/-- one public operation that can touch a span or a path -/
inductive Op where
  | withSpan (s : Span)
  | «at» (l : String)

def Op.apply : Op → Err → Err
  | .withSpan s, e => e.withSpan s
  | .at l, e => e.at l

/-- any sequence of `with_span` / `at` calls, in any order -/
def applyOps (ops : List Op) (e : Err) : Err := ops.foldl (fun e o => o.apply e) e

/-- **a span once attached is never replaced** — whatever is called afterwards, in any order -/
theorem span_survives_ops (ops : List Op) (e : Err) (s : Span) (h : e.span = some s) :
    (applyOps ops e).span = some s := by
  induction ops generalizing e with
  | nil => exact h
  | cons o rest ih =>
      apply ih
      cases o with
      | withSpan t => show (e.withSpan t).span = some s; rw [withSpan_keeps e s t h]; exact h
      | «at» l => show (e.at l).span = some s; rw [at_span]; exact h

/-- … and the same leaf by leaf: the flattened leaves of the result are the flattened leaves of
    the original with the same calls applied to each -/
theorem intoVec_applyOps (ops : List Op) (e : Err) : intoVec (applyOps ops e) = (intoVec e).map (applyOps ops) := by
  induction ops generalizing e with
  | nil => exact (List.map_id _).symm
  | cons o rest ih =>
      show intoVec (applyOps rest (o.apply e)) = _
      rw [ih]
      cases o with
      | withSpan t =>
          show (intoVec (e.withSpan t)).map _ = _
          rw [intoVec_withSpan, List.map_map]; rfl
      | «at» l =>
          show (intoVec (e.at l)).map _ = _
          rw [intoVec_at, List.map_map]; rfl

/-- so no leaf that showed a span ever shows another one -/
theorem leaf_span_survives_ops (ops : List Op) (e : Err) :
    ∀ l' ∈ intoVec (applyOps ops e), ∃ l ∈ intoVec e, ∀ s, l.span = some s → l'.span = some s := by
  intro l' hl'
  rw [intoVec_applyOps, List.mem_map] at hl'
  obtain ⟨l, hl, rfl⟩ := hl'
  exact ⟨l, hl, fun s hs => span_survives_ops ops l s hs⟩

/-- what every flattened leaf shows: its own span, else that of the nearest enclosing bundle
    that has one (by position) -/
theorem shown_eq_nearest (e : Err) : (intoVec e).map Err.span = (C04.leafAddrs e).map (C04.spanAt e) := by
  rw [C04.intoVec_spec, List.map_map]
  rfl

/-- **flattening** preserves each leaf's span or gives it its enclosing bundle's -/
theorem flatten_shows_nearest {e f : Err} (hf : e.flatten = .ok f) :
    f.intoIter.map Err.span = (C04.leafAddrs e).map (C04.spanAt e) := by
  rw [flatten_intoIter hf]; exact shown_eq_nearest e

/-- **conversion to compiler diagnostics** places each diagnostic at exactly that span -/
theorem toSyn_shows_nearest {e : Err} (h : C04.Reachable e) :
    e.toSyn.map (·.1) = (C04.leafAddrs e).map (C04.spanAt e) := by
  rw [C04.toSyn_spec h, List.map_map]
  apply List.map_congr_left
  intro a _
  simp only [Function.comp, C04.diagAt]
  cases C04.spanAt e a <;> rfl

/-- **an unspanned leaf's diagnostic includes the location path** (and only those do) -/
theorem toSyn_unspanned_shows_path {e : Err} (h : C04.Reachable e) :
    ∀ row ∈ e.toSyn, row.1 = none →
      ∃ a ∈ C04.leafAddrs e, row.2 = (C04.kindAt e a).msg ++ C04.atSuffix (C04.pathAt e a) := by
  intro row hrow hnone
  rw [C04.toSyn_spec h, List.mem_map] at hrow
  obtain ⟨a, ha, rfl⟩ := hrow
  refine ⟨a, ha, ?_⟩
  unfold C04.diagAt at hnone ⊢
  cases hsp : C04.spanAt e a with
  | none => rfl
  | some sp => rw [hsp] at hnone; cases hnone

/-- **bundling** preserves what every leaf shows -/
theorem shown_multiple {es : List Err} {b : Err} (h : Err.multiple es = .ok b) :
    (intoVec b).map Err.span = es.flatMap (fun e => (intoVec e).map Err.span) := by
  rw [intoVec_multiple h, List.map_flatMap]

/-! ## 9. the readings of the head comment on concrete items, the discrepancies between the text and
    the behaviour, and non-vacuity of every hypothesis -/

theorem not_leafOk_unspanned {encl : Option Span} {p : List Span} {l : Err} (hs : l.span = none)
    (hna : ¬ IsAbsence l) : ¬ LeafOk encl p l := by
  intro h
  rcases h with ⟨x, _, s, h1, _⟩ | ⟨h1, _⟩
  · rw [hs] at h1; cases h1
  · exact hna h1

theorem not_leafOk_pathed {encl : Option Span} {p : List Span} {l : Err} (hs : l.span = none)
    (hl : l.locs ≠ []) : ¬ LeafOk encl p l := by
  intro h
  rcases h with ⟨x, _, s, h1, _⟩ | ⟨_, _, h3⟩
  · rw [hs] at h1; cases h1
  · exact hl h3

theorem not_itemPlaced {A : Span} {e l : Err} (hl : l ∈ intoVec e) (hs : l.span = none) : ¬ ItemPlaced A e := by
  intro h
  obtain ⟨s, h1, _⟩ := h l hl
  rw [hs] at h1; cases h1

private def xfld (n : String) (t : Ty) (attrs : List Attr := []) : FieldD :=
  { ident := some n, ty := t, tyToks := "", vis := "", attrs := attrs }
private def xpth (n : String) (lo hi : Nat) : Path :=
  { global := false, segs := [n], plain := true, toks := n, span := ⟨lo, hi⟩ }
private def xu8 : Ty := .int ⟨"u8", false, 8, false⟩
/-- `#[darling(flatten)]` -/
private def flattenAttr : Attr :=
  { path := xpth "darling" 0 0,
    body := .list (xpth "darling" 0 0) [.item (.path (xpth "flatten" 0 0))] none none "flatten" ⟨0, 0⟩,
    toks := "", span := ⟨0, 0⟩ }

/-- the corpus
    `#[derive(FromMeta)] struct R { #[darling(flatten)] e: E }`,
    `#[derive(FromMeta)] struct H { e: E }`,
    `#[derive(FromMeta)] struct S { a: u8, b: u8 }`,
    `#[derive(FromMeta)] enum E { Unit, St { x: u8, y: u8 } }`,
    read through the model of the derive macro (`Options.derive`) -/
private def xEnv : Env.T :=
  { decls := [
      ("R", .fromMeta,
        { ident := "R", attrs := [], body := .struct .named [xfld "e" (.recv "E") [flattenAttr]] }, {}),
      ("H", .fromMeta,
        { ident := "H", attrs := [], body := .struct .named [xfld "e" (.recv "E")] }, {}),
      ("S", .fromMeta,
        { ident := "S", attrs := [], body := .struct .named [xfld "a" xu8, xfld "b" xu8] }, {}),
      ("E", .fromMeta,
        { ident := "E", attrs := [], body := .enum [
            { ident := "Unit", style := .unit, fields := [], attrs := [], discriminant := none },
            { ident := "St", style := .named, fields := [xfld "x" xu8, xfld "y" xu8],
              attrs := [], discriminant := none }] }, {})],
    oracle := {}, thr := 0 }

/-- `unit = 3` at 0..8 -/
private def mUnitNV : Meta :=
  .nameValue (xpth "unit" 0 4) (.lit ⟨.int "3" "", "3", ⟨7, 8⟩⟩) "unit = 3" ⟨0, 8⟩
/-- `st = 1` at 0..6 -/
private def mStNV : Meta :=
  .nameValue (xpth "st" 0 2) (.lit ⟨.int "1" "", "1", ⟨5, 6⟩⟩) "st = 1" ⟨0, 6⟩
/-- `st(x = 1)` starting at `lo` (9 bytes) -/
private def mStMissing (lo : Nat) : Meta :=
  .list (xpth "st" lo (lo + 2))
    [.item (.nameValue (xpth "x" (lo + 3) (lo + 4)) (.lit ⟨.int "1" "", "1", ⟨lo + 7, lo + 8⟩⟩) "x = 1" ⟨lo + 3, lo + 8⟩)]
    none (some ⟨lo + 3, lo + 8⟩) "x = 1" ⟨lo, lo + 9⟩
/-- `e(st(x = 1))` at 2..15 inside `h(e(st(x = 1)))` at 0..16 -/
private def mE : Meta := .list (xpth "e" 2 3) [.item (mStMissing 4)] none (some ⟨4, 13⟩) "st(x = 1)" ⟨2, 14⟩
private def mH : Meta := .list (xpth "h" 0 1) [.item mE] none (some ⟨2, 14⟩) "e(st(x = 1))" ⟨0, 15⟩

/-! ### a present item of the wrong form.
    `#[my(unit = 3)]` / `#[my(st = 1)]` read by a receiver whose `flatten` field is the enum
    (`R::from_list`; the same leaf comes out of `FromDeriveInput` with `#[darling(flatten)] e: E`):
    the complaint about the form shows the span of the selecting item — the offending item itself. -/
private theorem xR_unitNV : (Env.recvHooks xEnv "R").fromList [.item mUnitNV]
    = .err (.leaf (.unexpectedFormat "non-path") [] (some ⟨0, 8⟩)) := by rfl
example : (Env.recvHooks xEnv "R").fromList [.item mUnitNV]
    = .err (.leaf (.unexpectedFormat "non-path") [] (some ⟨0, 8⟩)) := xR_unitNV
example : mUnitNV.span = ⟨0, 8⟩ := rfl
example : (Env.recvHooks xEnv "R").fromList [.item mStNV]
    = .err (.leaf (.unexpectedFormat "non-list") [] (some ⟨0, 6⟩)) := rfl
example : mStNV.span = ⟨0, 6⟩ := rfl
example : ∃ e, (Env.recvHooks xEnv "R").fromList [.item mUnitNV] = .err e
    ∧ ListPlaced none (presentOf [.item mUnitNV]) e :=
  ⟨_, xR_unitNV, fun l hl => by
    have hl' : l = .leaf (.unexpectedFormat "non-path") [] (some ⟨0, 8⟩) := List.mem_singleton.mp hl
    subst hl'
    exact Or.inl ⟨⟨0, 8⟩, List.mem_singleton.mpr rfl, ⟨0, 8⟩, rfl, rfl⟩⟩
example : ∃ e, (Env.recvHooks xEnv "E").fromList [.item mUnitNV] = .err e ∧ ItemPlaced mUnitNV.span e :=
  ⟨.leaf (.unexpectedFormat "non-path") [] (some ⟨0, 8⟩), rfl, fun l hl => by
    have hl' : l = .leaf (.unexpectedFormat "non-path") [] (some ⟨0, 8⟩) := List.mem_singleton.mp hl
    subst hl'
    exact ⟨⟨0, 8⟩, rfl, rfl⟩⟩

/-! ### D2 — a literal and a surplus item at the enum: present, unspanned (there is no
    single item at fault) -/
example : (Env.recvHooks xEnv "E").fromList [.lit ⟨.str "lit", "\"lit\"", ⟨0, 5⟩⟩]
    = .err (.leaf (.unexpectedFormat "literal") [] none) := rfl
example : (Env.recvHooks xEnv "R").fromList [.item (mStMissing 0), .item (.path (xpth "unit" 11 15))]
    = .err (.leaf (.tooManyItems 1) [] none) := rfl

/-! ### absent from a nested item.
    `#[my(st(x = 1))]`: `y` is missing *inside* `st(…)`, an item that is present and has a span;
    the leaf carries the path `st` and shows exactly the span of `st(…)`, "that enclosing item's
    span". -/
private theorem xR_stMissing : (Env.recvHooks xEnv "R").fromList [.item (mStMissing 0)]
    = .err (.leaf (.missingField "y") ["st"] (some ⟨0, 9⟩)) := by rfl
example : (Env.recvHooks xEnv "R").fromList [.item (mStMissing 0)]
    = .err (.leaf (.missingField "y") ["st"] (some ⟨0, 9⟩)) := xR_stMissing
example : (mStMissing 0).span = ⟨0, 9⟩ := rfl
/-- the leaf is what `enum_struct_variant_placed_partial` describes: an absence, located under the
    variant's name, showing exactly the span of `st(…)` -/
example : VariantLeafOk "st" ⟨0, 9⟩ (presentOf [.item (.nameValue (xpth "x" 3 4) (.lit ⟨.int "1" "", "1", ⟨7, 8⟩⟩) "x = 1" ⟨3, 8⟩)])
    (.leaf (.missingField "y") ["st"] (some ⟨0, 9⟩)) := Or.inr ⟨rfl, rfl, rfl⟩
example : ∃ e, (Env.recvHooks xEnv "R").fromList [.item (mStMissing 0)] = .err e
    ∧ ListPlaced none (presentOf [.item (mStMissing 0)]) e :=
  ⟨_, xR_stMissing, fun l hl => by
    have hl' : l = .leaf (.missingField "y") ["st"] (some ⟨0, 9⟩) := List.mem_singleton.mp hl
    subst hl'
    exact Or.inl ⟨⟨0, 9⟩, List.mem_singleton.mpr rfl, ⟨0, 9⟩, rfl, rfl⟩⟩
example : ∃ e, (Env.recvHooks xEnv "E").fromList [.item (mStMissing 0)] = .err e
    ∧ ItemPlaced (mStMissing 0).span e :=
  ⟨.leaf (.missingField "y") ["st"] (some ⟨0, 9⟩), rfl, fun l hl => by
    have hl' : l = .leaf (.missingField "y") ["st"] (some ⟨0, 9⟩) := List.mem_singleton.mp hl
    subst hl'
    exact ⟨⟨0, 9⟩, rfl, rfl⟩⟩

/-! ### absent from a nested item, the enum being an ordinary field.
    `h(e(st(x = 1)))`: `y` is missing from `st(…)` (4..13); the leaf shows 4..13, "that enclosing
    item's span", not the span 2..14 of `e(…)`, the item that encloses `st(…)`: the span attached by
    the enum is never replaced by the coarser ones the callers offer on the way out (`e(…)` by the
    default `from_meta`, then the field's item). -/
example : (Env.recvHooks xEnv "H").fromMeta mH
    = .err (.leaf (.missingField "y") ["e", "st"] (some ⟨4, 13⟩)) := rfl
example : (mStMissing 4).span = ⟨4, 13⟩ := rfl
example : mE.span = ⟨2, 14⟩ := rfl

/-! ### O2 — outside the three operations the text names: `into_iter()` on a bundle that
    has not been flattened hands out the members as they are — the bundle's span (and location)
    is not passed down -/
example : (Err.multi [.leaf (.missingField "a") [] none, .leaf (.missingField "b") [] none] ["inner"]
    (some ⟨10, 17⟩)).intoIter.map Err.span = [none, none] := rfl

/-! ### non-vacuity -/

/-! `item-level`: the hypotheses of `recv_itemPlaced` hold of `h(e(st(x = 1)))`, and its conclusion
    is not trivial (there is a leaf) -/
example : mH.spanWF = true := by decide
example (e : Err) (he : (Env.recvHooks xEnv "H").fromMeta mH = .err e) : ItemPlaced mH.span e :=
  recv_itemPlaced xEnv "H" mH (by decide) (oracle_arrsWithin (by decide)) e he
example : NoArrays xEnv.oracle := fun _ => rfl

/-- a hand-made struct parser `{ a, b }` whose converter rejects everything but `name = literal`
    with a span-less complaint -/
private def convEx : Meta → Outcome Nat
  | .nameValue _ (.lit _) _ _ => .ok 0
  | _ => .err (Err.unsupportedFormat "not a literal")
private def fEx (n : String) : SField Nat :=
  { ident := n, name := n, conv := convEx, fromNone := none,
    fromList := fun _ => .panic "", dflt := none, skip := false, multiple := false, flatten := false }
private def sEx : SStruct Nat :=
  { fields := [fEx "a", fEx "b"], allowUnknown := false, containerDefault := none, build := fun _ => 0,
    mkList := fun _ => 0, post := .ok, score := fun _ _ => 0, thr := 0 }

private theorem convEx_tight (m : Meta) : (convEx m).ErrsIn m.span := by
  unfold convEx
  split
  · exact errsIn_ok _ _
  · exact errsIn_err ((unsp_unsupportedFormat _).allWithin _)

private theorem sEx_tight : ConvTight sEx := by
  intro f hf m _
  have : f.conv = convEx := by
    have hf' : f ∈ [fEx "a", fEx "b"] := hf
    simp only [List.mem_cons, List.not_mem_nil, or_false] at hf'
    rcases hf' with rfl | rfl <;> rfl
  rw [this]; exact convEx_tight m
private theorem sEx_flat : FlattenPlaced sEx := flattenPlaced_of_none sEx rfl
private theorem sEx_post : PostOk sEx := fun _ _ h => by cases h

/-- `a(1), zzz` (0..4, 6..9): a rejected value, an unknown name, and `b` missing -/
private def itemsEx : List NestedMeta :=
  [.item (.list (xpth "a" 0 1) [] none none "1" ⟨0, 4⟩), .item (.path (xpth "zzz" 6 9))]

example : ∃ e, Derive.fromList sEx itemsEx = .err e ∧ (intoVec e).map Err.span = [some ⟨0, 4⟩, some ⟨6, 9⟩, none] :=
  ⟨_, rfl, rfl⟩
example (e : Err) (he : Derive.fromList sEx itemsEx = .err e) : ListPlaced none (presentOf itemsEx) e :=
  struct_fromList_placed_partial sEx sEx_tight sEx_flat sEx_post itemsEx
    (by intro n hn
        have hn' : n ∈ [NestedMeta.item (.list (xpth "a" 0 1) [] none none "1" ⟨0, 4⟩),
          .item (.path (xpth "zzz" 6 9))] := hn
        simp only [List.mem_cons, List.not_mem_nil, or_false] at hn'
        rcases hn' with rfl | rfl <;> rfl) e he
/-- … nested: absences then show exactly the enclosing item's span -/
example (e : Err)
    (he : (structHooks (.named sEx) none none).fromMeta (.list (xpth "s" 0 1) [] none none "" ⟨0, 3⟩) = .err e) :
    ListPlaced (some ⟨0, 3⟩) (presentOf []) e :=
  struct_fromMeta_placed_partial sEx sEx_tight sEx_flat sEx_post none none _ [] none "" ⟨0, 3⟩
    (fun _ h => by cases h) e he
example : ∃ e, (structHooks (.named sEx) none none).fromMeta (.list (xpth "s" 0 1) [] none none "" ⟨0, 3⟩) = .err e
    ∧ (intoVec e).map Err.span = [some ⟨0, 3⟩, some ⟨0, 3⟩] := ⟨_, rfl, rfl⟩

/-- a receiver `{ c, #[darling(flatten)] rest: sEx }`: the side condition on `flatten` holds -/
private def sFlat : SStruct Nat :=
  { sEx with fields := [fEx "c", { fEx "rest" with flatten := true, fromList := Derive.fromList sEx }] }
example : FlattenPlaced sFlat := by
  apply flattenPlaced_of_struct
  intro f hf hfl
  have hf' : f ∈ [fEx "c", { fEx "rest" with flatten := true, fromList := Derive.fromList sEx }] := hf
  simp only [List.mem_cons, List.not_mem_nil, or_false] at hf'
  rcases hf' with rfl | rfl
  · cases hfl
  · exact ⟨sEx, rfl, sEx_tight, sEx_flat, sEx_post⟩
/-- `c = 1, zzz`: `zzz` goes to the flatten member, which rejects it at `zzz` and misses `a`, `b` -/
example : ∃ e, Derive.fromList sFlat
      [.item (.nameValue (xpth "c" 0 1) (.lit ⟨.int "1" "", "1", ⟨4, 5⟩⟩) "c = 1" ⟨0, 5⟩),
       .item (.path (xpth "zzz" 7 10))] = .err e
    ∧ (intoVec e).map Err.span = [some ⟨7, 10⟩, none, none] := ⟨_, rfl, rfl⟩

/-- a hand-made enum `{ unit, st { a, b } }` over it -/
private def eEx : SEnum Nat :=
  { variants := [{ name := "unit", skip := false, kind := .unit 1 },
                 { name := "st", skip := false, kind := .struct sEx }],
    score := fun _ _ => 0, thr := 0, fromWord := none, fromNone := none }

private theorem eEx_tight : ∀ v ∈ eEx.variants, VariantTight v := by
  intro v hv
  have hv' : v ∈ [({ name := "unit", skip := false, kind := .unit 1 } : SVariant Nat),
                 { name := "st", skip := false, kind := .struct sEx }] := hv
  simp only [List.mem_cons, List.not_mem_nil, or_false] at hv'
  rcases hv' with rfl | rfl
  · exact True.intro
  · exact ⟨sEx_tight, sEx_flat, sEx_post⟩

/-- `st(a(1), b = 2)` at 0..16: the form fits, nothing is missing, one value is rejected -/
private def mStBad : Meta :=
  .list (xpth "st" 0 2)
    [.item (.list (xpth "a" 3 4) [] none none "1" ⟨3, 7⟩),
     .item (.nameValue (xpth "b" 9 10) (.lit ⟨.int "2" "", "2", ⟨13, 14⟩⟩) "b = 2" ⟨9, 14⟩)]
    none (some ⟨3, 14⟩) "a(1), b = 2" ⟨0, 15⟩

example : ∃ e, enumFromList eEx [.item mStBad] = .err e ∧ (intoVec e).map Err.span = [some ⟨3, 7⟩] := ⟨_, rfl, rfl⟩
example (e : Err) (he : enumFromList eEx [.item mStBad] = .err e) : ItemPlaced mStBad.span e :=
  enum_item_placed_partial eEx eEx_tight mStBad (by decide) e he
example (e : Err) (he : enumFromList eEx [.item mUnitNV] = .err e) : ItemPlaced mUnitNV.span e :=
  enum_item_placed_partial eEx eEx_tight mUnitNV (by decide) e he
example : ∃ e, enumFromList eEx [.item mUnitNV] = .err e ∧ (intoVec e).map Err.span = [some ⟨0, 8⟩] := ⟨_, rfl, rfl⟩
/-- `st(b = 2)` at 0..9: `a` is missing; the leaf shows exactly 0..9 -/
private def mStNoA : Meta :=
  .list (xpth "st" 0 2)
    [.item (.nameValue (xpth "b" 3 4) (.lit ⟨.int "2" "", "2", ⟨7, 8⟩⟩) "b = 2" ⟨3, 8⟩)]
    none (some ⟨3, 8⟩) "b = 2" ⟨0, 9⟩
example : ∃ e, enumFromList eEx [.item mStNoA] = .err e
    ∧ (intoVec e).map (fun l => (l.locs, l.span)) = [(["st"], some ⟨0, 9⟩)] := ⟨_, rfl, rfl⟩
example (e : Err) (he : enumFromList eEx [.item mStNoA] = .err e) :
    ∀ l ∈ intoVec e, VariantLeafOk "st" ⟨0, 9⟩ (presentOf [.item (.nameValue (xpth "b" 3 4) (.lit ⟨.int "2" "", "2", ⟨7, 8⟩⟩) "b = 2" ⟨3, 8⟩)]) l :=
  enum_struct_variant_placed_partial eEx _ _ _ _ _ { name := "st", skip := false, kind := .struct sEx } sEx
    rfl rfl sEx_tight sEx_flat sEx_post (by decide) e he
/-- the enum at the root of an attribute set (behind `flatten`): no item, one item -/
example (e : Err) (he : enumFromList eEx [] = .err e) : ListPlaced none (presentOf []) e :=
  enum_fromList_placed_partial eEx eEx_tight [] (by decide) (fun _ h => by cases h) (fun _ h => by cases h) e he
example (e : Err) (he : enumFromList eEx [.item mStNoA] = .err e) : ListPlaced none (presentOf [.item mStNoA]) e :=
  enum_fromList_placed_partial eEx eEx_tight _ (by decide) (fun _ h => by cases List.mem_singleton.mp h)
    (fun n h => by rw [List.mem_singleton.mp h]; decide) e he

/-- an element-level receiver over `sEx` reading `#[my(...)]` -/
private def oEx : SOuter Nat := { fields := sEx, attrNames := ["my"], forward := none, attrsField := none }
/-- `#[my(a(1), zzz)]` -/
private def attrEx : Attr :=
  { path := xpth "my" 2 4,
    body := .list (xpth "my" 2 4)
      [.item (.list (xpth "a" 5 6) [] none none "1" ⟨5, 9⟩), .item (.path (xpth "zzz" 11 14))]
      none (some ⟨5, 14⟩) "a(1), zzz" ⟨2, 15⟩,
    toks := "", span := ⟨0, 16⟩ }
private def shapeErr : Outcome Unit := .err (Err.new (.unsupportedShape "union" none))

example : AttrsFnOk oEx := fun _ h => by cases h
example : ValidateVerdict shapeErr := by
  intro e he l hl
  cases he
  simp only [Err.new, intoVec, intoVecP_leaf, List.mem_singleton] at hl
  subst hl
  exact ⟨rfl, rfl⟩
example : ∀ a ∈ [attrEx], a.body.spanWF = true := by
  intro a ha; simp only [List.mem_singleton] at ha; subst ha; decide
/-- a rejected value and an unknown name (spanned inside their items), `b` missing and the shape
    verdict (unspanned): four leaves -/
example : ∃ p av e, extract oEx [attrEx] = .ok (p, av)
    ∧ finishOuter oEx p av shapeErr [] [] (fun _ => 0) = .err e
    ∧ (intoVec e).map Err.span = [some ⟨5, 9⟩, some ⟨11, 14⟩, none, none] :=
  ⟨_, _, _, rfl, rfl, rfl⟩

end C03
