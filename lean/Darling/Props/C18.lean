import Darling.Shape
import Darling.Spec.C18
import Darling.Lemmas.Error
import Darling.Lemmas.List
/-
  C18 — Shape validation accepts exactly the declared shapes.
  For every list of shape words (any length, repetitions allowed) and every body (enums of any
  number of variants).
-/
open Spec.C18

namespace C18

/-- the option state a word list must produce -/
def dissOf (ws : List Word) : DISS :=
  { any := ws.contains .any,
    enumValues := { pre := "enum_", any := ws.contains .enumAny, named := ws.contains .enumNamed,
                    tuple := ws.contains .enumTuple, newtype := ws.contains .enumNewtype, unit := ws.contains .enumUnit },
    structValues := { pre := "struct_", any := ws.contains .structAny, named := ws.contains .structNamed,
                      tuple := ws.contains .structTuple, newtype := ws.contains .structNewtype, unit := ws.contains .structUnit } }

theorem dissOf_nil : dissOf [] = {} := rfl

theorem dissOf_any (ws : List Word) : (dissOf ws).any = ws.contains .any := rfl

/-! ### reading one word -/

theorem stripPrefix_append (pre s : String) : DataShape.stripPrefix pre (pre ++ s) = s := by
  unfold DataShape.stripPrefix
  rw [String.toList_append, if_pos (List.isPrefixOf_iff_prefix.mpr (List.prefix_append _ _)),
    ← String.length_toList, List.drop_left, String.ofList_toList]

theorem setWord_newtype (d : DataShape) :
    d.setWord (d.pre ++ "newtype") = .ok { d with newtype := true } := by
  simp only [DataShape.setWord, stripPrefix_append]

theorem setWord_named (d : DataShape) :
    d.setWord (d.pre ++ "named") = .ok { d with named := true } := by
  simp only [DataShape.setWord, stripPrefix_append]

theorem setWord_tuple (d : DataShape) :
    d.setWord (d.pre ++ "tuple") = .ok { d with tuple := true } := by
  simp only [DataShape.setWord, stripPrefix_append]

theorem setWord_unit (d : DataShape) :
    d.setWord (d.pre ++ "unit") = .ok { d with unit := true } := by
  simp only [DataShape.setWord, stripPrefix_append]

theorem setWord_any (d : DataShape) :
    d.setWord (d.pre ++ "any") = .ok { d with any := true } := by
  simp only [DataShape.setWord, stripPrefix_append]

theorem applyWord_any (d : DISS) : d.applyWord "any" = .ok { d with any := true } := by
  simp only [DISS.applyWord, beq_self_eq_true, if_true]

theorem enum_toList : "enum_".toList = ['e', 'n', 'u', 'm', '_'] := by
  simp only [String.reduceToList]
theorem struct_toList : "struct_".toList = ['s', 't', 'r', 'u', 'c', 't', '_'] := by
  simp only [String.reduceToList]
theorem any_toList : "any".toList = ['a', 'n', 'y'] := by
  simp only [String.reduceToList]

theorem applyWord_enum (d : DISS) (s : String) (ev : DataShape)
    (h : d.enumValues.setWord ("enum_" ++ s) = .ok ev) :
    d.applyWord ("enum_" ++ s) = .ok { d with enumValues := ev } := by
  have h0 : ("enum_" ++ s == "any") = false := by
    rw [beq_eq_false_iff_ne, Ne, ← String.toList_inj, String.toList_append, enum_toList, any_toList]
    simp
  have h1 : "enum_".toList.isPrefixOf ("enum_" ++ s).toList = true := by
    rw [String.toList_append]
    exact List.isPrefixOf_iff_prefix.mpr (List.prefix_append _ _)
  simp only [DISS.applyWord, h0, h1, h, Bool.false_eq_true, if_false, if_true]

theorem applyWord_struct (d : DISS) (s : String) (sv : DataShape)
    (h : d.structValues.setWord ("struct_" ++ s) = .ok sv) :
    d.applyWord ("struct_" ++ s) = .ok { d with structValues := sv } := by
  have h0 : ("struct_" ++ s == "any") = false := by
    rw [beq_eq_false_iff_ne, Ne, ← String.toList_inj, String.toList_append, struct_toList, any_toList]
    simp
  have h1 : "enum_".toList.isPrefixOf ("struct_" ++ s).toList = false := by
    rw [String.toList_append, struct_toList, enum_toList]
    rfl
  have h2 : "struct_".toList.isPrefixOf ("struct_" ++ s).toList = true := by
    rw [String.toList_append]
    exact List.isPrefixOf_iff_prefix.mpr (List.prefix_append _ _)
  simp only [DISS.applyWord, h0, h1, h2, h, Bool.false_eq_true, if_false, if_true]

/-- one word moves the state exactly as the table says -/
theorem applyWord_spec (ws : List Word) (w : Word) :
    (dissOf ws).applyWord w.text = .ok (dissOf (ws ++ [w])) := by
  have hs := applyWord_struct (dissOf ws)
  have he := applyWord_enum (dissOf ws)
  have s1 := hs "any" _ (setWord_any _)
  have s2 := hs "named" _ (setWord_named _)
  have s3 := hs "tuple" _ (setWord_tuple _)
  have s4 := hs "newtype" _ (setWord_newtype _)
  have s5 := hs "unit" _ (setWord_unit _)
  have e1 := he "any" _ (setWord_any _)
  have e2 := he "named" _ (setWord_named _)
  have e3 := he "tuple" _ (setWord_tuple _)
  have e4 := he "newtype" _ (setWord_newtype _)
  have e5 := he "unit" _ (setWord_unit _)
  simp only [String.reduceAppend] at s1 s2 s3 s4 s5 e1 e2 e3 e4 e5
  -- the new flags are `x == w || ws.contains x`, which evaluate once `w` is known
  simp only [dissOf, List.contains_snoc]
  cases w with
  | any => exact applyWord_any _
  | structAny => exact s1
  | structNamed => exact s2
  | structTuple => exact s3
  | structNewtype => exact s4
  | structUnit => exact s5
  | enumAny => exact e1
  | enumNamed => exact e2
  | enumTuple => exact e3
  | enumNewtype => exact e4
  | enumUnit => exact e5

/-- the reader the library runs, `DISS.fromListLoop`, is followed in `C18Spec.supports_parses` -/
theorem fold_words (pre ws : List Word) :
    ws.foldlM (fun d w => d.applyWord w.text) (dissOf pre) = .ok (dissOf (pre ++ ws)) := by
  induction ws generalizing pre with
  | nil =>
      rw [List.append_nil]
      rfl
  | cons w ws ih =>
      rw [List.foldlM_cons, applyWord_spec]
      exact (ih _).trans (by rw [List.append_assoc]; rfl)

/-! ### the shape sets the emitted code builds -/

theorem toShapeSet_fields (p : String) (nt n t u a : Bool) :
    (DataShape.toShapeSet ⟨p, nt, n, t, u, a⟩) = ⟨a || nt, a || n, a || t, a || u⟩ := by
  simp only [DataShape.toShapeSet]
  generalize (a || nt) = nt'
  generalize (a || n) = n'
  generalize (a || t) = t'
  generalize (a || u) = u'
  cases nt' <;> cases n' <;> cases t' <;> cases u' <;> rfl

theorem containsShape_toShapeSet (p : String) (nt n t u a : Bool) (s : Shape) :
    (DataShape.toShapeSet ⟨p, nt, n, t, u, a⟩).containsShape s
      = (a || match s with
              | .named => n
              | .tuple => t
              | .unit => u
              | .newtype => t || nt) := by
  rw [toShapeSet_fields]
  cases s <;> simp only [ShapeSet.containsShape]
  cases a
  · exact Bool.or_comm nt t
  · rfl

theorem isEmpty_toShapeSet (p : String) (nt n t u a : Bool) :
    (DataShape.toShapeSet ⟨p, nt, n, t, u, a⟩).isEmpty = !(a || (n || (t || (nt || u)))) := by
  rw [toShapeSet_fields]
  cases a
  · simp only [ShapeSet.isEmpty, Bool.false_or, Bool.not_or, Bool.and_assoc, Bool.and_left_comm]
  · rfl

theorem containsShape_of_isEmpty {s : ShapeSet} (h : s.isEmpty = true) (sh : Shape) :
    s.containsShape sh = false := by
  simp only [ShapeSet.isEmpty, Bool.and_eq_true, Bool.not_eq_true'] at h
  obtain ⟨⟨⟨hn, hnt⟩, ht⟩, hu⟩ := h
  cases sh <;> simp only [ShapeSet.containsShape, hn, hnt, ht, hu, Bool.or_false]

theorem word_mem_all (w : Word) : w ∈ Word.all :=
  List.contains_iff_mem.mp (by cases w <;> rfl)

theorem any_eq_any_all (ws : List Word) (p : Word → Bool) :
    ws.any p = Word.all.any (fun w => ws.contains w && p w) := by
  rw [Bool.eq_iff_iff]
  simp only [List.any_eq_true, Bool.and_eq_true, List.contains_iff_mem]
  constructor
  · intro ⟨w, hw, hp⟩; exact ⟨w, word_mem_all w, hw, hp⟩
  · intro ⟨w, _, hw, hp⟩; exact ⟨w, hw, hp⟩

/-- `any_eq_any_all` written out, so that each use only has to evaluate `p` on the eleven words -/
theorem any_eq_flags (ws : List Word) (p : Word → Bool) :
    ws.any p =
      (ws.contains .any && p .any
        || ws.contains .structAny && p .structAny || ws.contains .structNamed && p .structNamed
        || ws.contains .structTuple && p .structTuple || ws.contains .structNewtype && p .structNewtype
        || ws.contains .structUnit && p .structUnit
        || ws.contains .enumAny && p .enumAny || ws.contains .enumNamed && p .enumNamed
        || ws.contains .enumTuple && p .enumTuple || ws.contains .enumNewtype && p .enumNewtype
        || ws.contains .enumUnit && p .enumUnit) := by
  rw [any_eq_any_all]
  simp only [Word.all, List.any_cons, List.any_nil, Bool.or_false, Bool.or_assoc]

theorem struct_contains (ws : List Word) (s : Shape) :
    (dissOf ws).structValues.toShapeSet.containsShape s = ws.any (·.admitsStruct s) := by
  rw [any_eq_flags, dissOf, containsShape_toShapeSet]
  cases s <;>
    simp only [Word.admitsStruct, Bool.and_true, Bool.and_false, Bool.or_false, Bool.false_or, Bool.or_assoc]

theorem enum_contains (ws : List Word) (s : Shape) :
    (dissOf ws).enumValues.toShapeSet.containsShape s = conforms ws s := by
  rw [conforms, any_eq_flags, dissOf, containsShape_toShapeSet]
  cases s <;>
    simp only [Word.admitsVariant, Bool.and_true, Bool.and_false, Bool.or_false, Bool.false_or, Bool.or_assoc]

theorem struct_isEmpty (ws : List Word) :
    (dissOf ws).structValues.toShapeSet.isEmpty = !ws.any (·.isStructWord) := by
  rw [any_eq_flags, dissOf, isEmpty_toShapeSet]
  simp only [Word.isStructWord, Bool.and_true, Bool.and_false, Bool.or_false, Bool.false_or, Bool.or_assoc]

theorem enum_isEmpty (ws : List Word) :
    (dissOf ws).enumValues.toShapeSet.isEmpty = !ws.any (·.isEnumWord) := by
  rw [any_eq_flags, dissOf, isEmpty_toShapeSet]
  simp only [Word.isEnumWord, Bool.and_true, Bool.and_false, Bool.or_false, Bool.false_or, Bool.or_assoc]

/-! ### the run-time shape-set API -/

/-- `Display` of a shape set never reaches its `unreachable!()` -/
theorem display_ok (s : ShapeSet) : ∃ d, s.display = .ok d := by
  obtain ⟨nt, n, t, u⟩ := s
  cases nt <;> cases n <;> cases t <;> cases u <;> exact ⟨_, rfl⟩

/-- the error `check` reports for a shape outside the set -/
def variantErr (ec : ShapeSet) (v : Shape) : Err :=
  match ec.display with
  | .ok d => Err.new (.unsupportedShape v.description (some d))
  | _ => Err.new (.unsupportedShape v.description none)

theorem variantErr_eq (ec : ShapeSet) :
    ∃ d, ∀ v, variantErr ec v = Err.new (.unsupportedShape v.description (some d)) := by
  obtain ⟨d, hd⟩ := display_ok ec
  exact ⟨d, fun v => by simp only [variantErr, hd]⟩

theorem check_eq (s : ShapeSet) (sh : Shape) :
    s.check sh = if s.containsShape sh then .ok () else .err (variantErr s sh) := by
  obtain ⟨d, hd⟩ := display_ok s
  simp only [ShapeSet.check, variantErr, hd]

theorem check_ok_iff (s : ShapeSet) (sh : Shape) : (s.check sh).isOk = s.containsShape sh := by
  rw [check_eq]
  cases s.containsShape sh <;> rfl

theorem check_never_panics (s : ShapeSet) (sh : Shape) (m : String) : s.check sh ≠ .panic m := by
  rw [check_eq]
  cases s.containsShape sh <;> nofun

/-- a tuple word also admits newtypes — but not the reverse -/
theorem tuple_admits_newtype (s : ShapeSet) (h : s.tuple = true) : s.containsShape .newtype = true := by
  simp [ShapeSet.containsShape, h]
theorem newtype_does_not_admit_tuple :
    (ShapeSet.ofList [.newtype]).containsShape .tuple = false := by decide

/-! ### the arms of the emitted validator, over arbitrary shape sets -/

theorem checkVariants_spec (ec : ShapeSet) (errs : List Err) (vs : List Shape) :
    DISS.checkVariants ec errs vs
      = .ok (errs ++ (vs.filter (fun v => !ec.containsShape v)).map (variantErr ec)) := by
  induction vs generalizing errs with
  | nil => simp only [DISS.checkVariants, List.filter_nil, List.map_nil, List.append_nil]
  | cons v vs ih =>
      simp only [DISS.checkVariants, check_eq, List.filter_cons]
      cases ec.containsShape v with
      | true => exact ih errs
      | false => exact (ih _).trans (by rw [List.append_assoc]; rfl)

theorem validateStruct_of_isEmpty {sc : ShapeSet} (h : sc.isEmpty = true) (ec : ShapeSet) (s : Shape) :
    ∃ expected, DISS.validateStruct sc ec s
      = .err (Err.new (.unsupportedShape "struct" (some expected))) := by
  obtain ⟨d, hd⟩ := display_ok ec
  exact ⟨"enum with " ++ d, by simp only [DISS.validateStruct, h, hd, if_true]⟩

theorem validateStruct_of_nonempty {sc : ShapeSet} (h : sc.isEmpty = false) (ec : ShapeSet) (s : Shape) :
    DISS.validateStruct sc ec s = sc.check s := by
  simp only [DISS.validateStruct, h, Bool.false_eq_true, if_false]

theorem validateEnum_of_isEmpty {ec : ShapeSet} (h : ec.isEmpty = true) (sc : ShapeSet) (vs : List Shape) :
    ∃ expected, DISS.validateEnum sc ec vs
      = .err (Err.new (.unsupportedShape "enum" (some expected))) := by
  obtain ⟨d, hd⟩ := display_ok sc
  exact ⟨"struct with " ++ d, by simp only [DISS.validateEnum, h, hd, if_true]⟩

theorem variantErr_leaves (ec : ShapeSet) (l : List Shape) :
    ∀ z ∈ l.map (variantErr ec), z.isLeaf = true := by
  obtain ⟨d, hd⟩ := variantErr_eq ec
  intro z hz
  obtain ⟨v, -, rfl⟩ := List.mem_map.mp hz
  rw [hd]
  rfl

theorem validateEnum_cases {ec : ShapeSet} (h : ec.isEmpty = false) (sc : ShapeSet)
    (vs : List Shape) {off : List Shape} (hoff : vs.filter (fun v => !ec.containsShape v) = off) :
    (off = [] ∧ DISS.validateEnum sc ec vs = .ok ()) ∨
    (off ≠ [] ∧ ∃ e, DISS.validateEnum sc ec vs = .err e ∧
        e.intoVec = off.map (variantErr ec) ∧ e.len = off.length) := by
  simp only [DISS.validateEnum, h, Bool.false_eq_true, if_false, checkVariants_spec,
    List.nil_append, hoff]
  cases off with
  | nil => exact .inl ⟨rfl, rfl⟩
  | cons x xs =>
      obtain ⟨e, he, hv, hl⟩ := Err.bundleErr_of_allLeaf (α := Unit) _ _ (variantErr_leaves ec (x :: xs))
      exact .inr ⟨List.cons_ne_nil _ _, e, he, hv, by rw [hl, ← List.map_cons, List.length_map]⟩

theorem validateStruct_isOk (sc ec : ShapeSet) (s : Shape) :
    (DISS.validateStruct sc ec s).isOk = sc.containsShape s := by
  cases h : sc.isEmpty with
  | true =>
      obtain ⟨x, hx⟩ := validateStruct_of_isEmpty h ec s
      rw [hx, containsShape_of_isEmpty h]
      rfl
  | false => rw [validateStruct_of_nonempty h, check_ok_iff]

theorem validateEnum_isOk (sc ec : ShapeSet) (vs : List Shape) :
    (DISS.validateEnum sc ec vs).isOk = (!ec.isEmpty && vs.all ec.containsShape) := by
  cases h : ec.isEmpty with
  | true =>
      obtain ⟨x, hx⟩ := validateEnum_of_isEmpty h sc vs
      rw [hx]
      rfl
  | false =>
      rcases validateEnum_cases h sc vs rfl with ⟨hnil, hok⟩ | ⟨hne, e, he, -⟩
      · rw [hok, (List.filter_not_eq_nil_iff _ vs).mp hnil]
        rfl
      · rw [he, Bool.eq_false_iff.mpr fun hall => hne ((List.filter_not_eq_nil_iff _ vs).mpr hall)]
        rfl

theorem validateBody_of_any {d : DISS} (h : d.any = true) (b : BodyShape) :
    d.validateBody b = .ok () := by
  simp only [DISS.validateBody, h, if_true]

theorem validateBody_struct {d : DISS} (h : d.any = false) (s : Shape) :
    d.validateBody (.struct s)
      = DISS.validateStruct d.structValues.toShapeSet d.enumValues.toShapeSet s := by
  simp only [DISS.validateBody, h, Bool.false_eq_true, if_false]

theorem validateBody_enum {d : DISS} (h : d.any = false) (vs : List Shape) :
    d.validateBody (.enum vs)
      = DISS.validateEnum d.structValues.toShapeSet d.enumValues.toShapeSet vs := by
  simp only [DISS.validateBody, h, Bool.false_eq_true, if_false]

theorem validateBody_union {d : DISS} (h : d.any = false) :
    d.validateBody .union = .err (Err.new (.unsupportedShape "union" none)) := by
  simp only [DISS.validateBody, h, Bool.false_eq_true, if_false]

theorem validateBody_isOk (d : DISS) (b : BodyShape) :
    (d.validateBody b).isOk = (d.any ||
      match b with
      | .struct s => d.structValues.toShapeSet.containsShape s
      | .enum vs => !d.enumValues.toShapeSet.isEmpty && vs.all d.enumValues.toShapeSet.containsShape
      | .union => false) := by
  cases h : d.any with
  | true => rw [validateBody_of_any h]; rfl
  | false =>
      cases b with
      | struct s => rw [validateBody_struct h, validateStruct_isOk]; rfl
      | enum vs => rw [validateBody_enum h, validateEnum_isOk]; rfl
      | union => rw [validateBody_union h]; rfl

theorem validateBody_never_panics (d : DISS) (b : BodyShape) (m : String) :
    d.validateBody b ≠ .panic m := by
  cases h : d.any with
  | true => rw [validateBody_of_any h]; nofun
  | false =>
      cases b with
      | union => rw [validateBody_union h]; nofun
      | struct s =>
          rw [validateBody_struct h]
          cases hs : d.structValues.toShapeSet.isEmpty with
          | true =>
              obtain ⟨x, hx⟩ := validateStruct_of_isEmpty hs d.enumValues.toShapeSet s
              rw [hx]
              nofun
          | false =>
              rw [validateStruct_of_nonempty hs]
              exact check_never_panics _ _ _
      | enum vs =>
          rw [validateBody_enum h]
          cases he : d.enumValues.toShapeSet.isEmpty with
          | true =>
              obtain ⟨x, hx⟩ := validateEnum_of_isEmpty he d.structValues.toShapeSet vs
              rw [hx]
              nofun
          | false =>
              rcases validateEnum_cases he d.structValues.toShapeSet vs rfl
                with ⟨-, hok⟩ | ⟨-, e, herr, -⟩
              · rw [hok]; nofun
              · rw [herr]; nofun

/-! ### the emitted validator against the table -/

theorem filter_eq_nonConforming (ws : List Word) (vs : List Shape) :
    (vs.filter (fun v => !(dissOf ws).enumValues.toShapeSet.containsShape v)) = nonConforming ws vs := by
  unfold nonConforming
  congr 1; funext v; rw [enum_contains]

theorem enum_nonempty {ws : List Word} (he : ws.any (·.isEnumWord) = true) :
    (dissOf ws).enumValues.toShapeSet.isEmpty = false := by
  rw [enum_isEmpty, he]
  rfl

/-- what the enum arm returns when at least one enum word is declared -/
theorem validateEnum_eq (ws : List Word) (vs : List Shape) (he : ws.any (·.isEnumWord) = true) :
    DISS.validateEnum (dissOf ws).structValues.toShapeSet (dissOf ws).enumValues.toShapeSet vs =
      match (nonConforming ws vs).map (variantErr (dissOf ws).enumValues.toShapeSet) with
      | [] => .ok ()
      | errs => Err.bundleErr errs := by
  simp only [DISS.validateEnum, enum_nonempty he, Bool.false_eq_true, if_false,
    checkVariants_spec, List.nil_append, filter_eq_nonConforming]
  cases (nonConforming ws vs).map (variantErr (dissOf ws).enumValues.toShapeSet) <;> rfl

/-- **C18.**  The derived validator accepts a body exactly when the table does. -/
theorem validate_iff (ws : List Word) (b : BodyShape) :
    ((dissOf ws).validateBody b).isOk = accepts ws b := by
  rw [validateBody_isOk, dissOf_any]
  unfold accepts
  cases b with
  | struct s => simp only [struct_contains]
  | enum vs =>
      have : (dissOf ws).enumValues.toShapeSet.containsShape = conforms ws := funext (enum_contains ws)
      simp only [enum_isEmpty, Bool.not_not, this]
  | union => rfl

/-- one error per non-conforming variant -/
theorem enum_error_count (ws : List Word) (vs : List Shape) (e : Err)
    (hany : ws.contains Word.any = false) (he : ws.any (·.isEnumWord) = true)
    (h : (dissOf ws).validateBody (.enum vs) = .err e) :
    e.len = (nonConforming ws vs).length := by
  rw [validateBody_enum (d := dissOf ws) hany] at h
  rcases validateEnum_cases (enum_nonempty he) _ vs (filter_eq_nonConforming ws vs)
    with ⟨-, hok⟩ | ⟨-, e', he', -, hlen⟩
  · rw [hok] at h
    cases h
  · rw [he'] at h
    cases h
    exact hlen

/-- a union satisfies no struct or enum word: an error, never a crash -/
theorem union_is_error (ws : List Word) (hany : ws.contains Word.any = false) :
    (dissOf ws).validateBody .union = .err (Err.new (.unsupportedShape "union" none)) :=
  validateBody_union (d := dissOf ws) hany

/-- the validator never panics, whatever the words and the body -/
theorem validate_never_panics (ws : List Word) (b : BodyShape) (m : String) :
    (dissOf ws).validateBody b ≠ .panic m :=
  validateBody_never_panics _ b m

/-! non-vacuity -/
example : accepts [.structTuple, .enumUnit] (.struct .newtype) = true := by decide
example : accepts [.structNewtype] (.struct .tuple) = false := by decide
example : accepts [.enumUnit, .enumNewtype] (.enum [.unit, .newtype, .unit]) = true := by decide
example : accepts [.enumUnit] (.enum [.unit, .named]) = false := by decide
example : accepts [.enumUnit] (.struct .unit) = false := by decide
example : accepts [.any] .union = true := by decide

end C18
