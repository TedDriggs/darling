import Darling.Props.C19
/-
  C19 — an independent, positional specification of the usage analysis, written from the
  property text, and the end-to-end theorems `model = specification`.

  The specification never folds over the syntax.  It consists of four small tables

  * `Child`  — which immediate components of a piece of syntax the text tells the analysis to
               look *through* (references, pointers, slices, arrays, tuples, function and
               trait-object types, generic arguments; a qualified self only for declaration
               purposes),
  * `Leads`  — where a name stands as the *unqualified leading segment* of a path,
  * `LtAt`   — where a lifetime is written as a use (reference lifetime, lifetime argument,
               lifetime bound, bound of a `for<..>` binder entry),
  * `BinderDecl` — where a `for<..>` binder declares a lifetime,

  and of one definition: a name is used by a type iff some node *reachable* through `Child`
  edges carries it (`Reach` is the reflexive-transitive closure of `Child`).
-/
open Usage

namespace C19

/-! ## 1. Syntax as a graph -/

/-- the syntactic categories of the mirror of `syn::Type` -/
inductive Node where
  | ty (t : SType)
  | path (p : SPath)
  | args (a : SArgs)
  | garg (g : SGArg)
  | bound (b : SBound)

/-- `Child declare n m`: `m` is an immediate component of `n` that the analysis must look
    through.  One rule per phrase of the property text. -/
inductive Child (declare : Bool) : Node → Node → Prop
  /- a path type: its path … -/
  | typePath {q p} : Child declare (.ty (.path q p)) (.path p)
  /- … and "inside a qualified-self only when asked for declaration purposes" -/
  | qself {q p} : declare = true → Child declare (.ty (.path (some q) p)) (.ty q)
  /- "through references, pointers, slices, arrays, tuples" -/
  | ref {lt e} : Child declare (.ty (.ref lt e)) (.ty e)
  | ptr {e} : Child declare (.ty (.ptr e)) (.ty e)
  | slice {e} : Child declare (.ty (.slice e)) (.ty e)
  | array {e} : Child declare (.ty (.array e)) (.ty e)
  | tupleElem {es t} : t ∈ es → Child declare (.ty (.tuple es)) (.ty t)
  /- parentheses and invisible groups are transparent -/
  | paren {e} : Child declare (.ty (.paren e)) (.ty e)
  | group {e} : Child declare (.ty (.group e)) (.ty e)
  /- "function … types": every input and the output -/
  | fnInput {ins out t} : t ∈ ins → Child declare (.ty (.bareFn ins out)) (.ty t)
  | fnOutput {ins o} : Child declare (.ty (.bareFn ins (some o))) (.ty o)
  /- "… and trait-object types" (and `impl Trait`): every bound, a trait bound's path -/
  | objBound {bs b} : b ∈ bs → Child declare (.ty (.traitObject bs)) (.bound b)
  | implBound {bs b} : b ∈ bs → Child declare (.ty (.implTrait bs)) (.bound b)
  | boundPath {binder p} : Child declare (.bound (.trait binder p)) (.path p)
  /- "inside generic arguments": the arguments of *every* segment of a path -/
  | segArgs {g segs i a} : SSeg.mk i a ∈ segs → Child declare (.path (.mk g segs)) (.args a)
  | angleArg {as a} : a ∈ as → Child declare (.args (.angle as)) (.garg a)
  | parenInput {ins out t} : t ∈ ins → Child declare (.args (.paren ins out)) (.ty t)
  | parenOutput {ins o} : Child declare (.args (.paren ins (some o))) (.ty o)
  | argTy {t} : Child declare (.garg (.ty t)) (.ty t)
  | argAssoc {t} : Child declare (.garg (.assocTy t)) (.ty t)
  | argConstraint {bs b} : b ∈ bs → Child declare (.garg (.constraint bs)) (.bound b)
  /- no rule for: macro bodies / verbatim / `_` / `!` (`opaque`), const-expression arguments
     (`SGArg.other`), array lengths (not even represented): the text's non-use positions -/

/-- reflexive-transitive closure of `Child` -/
inductive Reach (declare : Bool) : Node → Node → Prop
  | here {n} : Reach declare n n
  | step {n m k} : Child declare n m → Reach declare m k → Reach declare n k

/-- "as an unqualified leading path segment": the path is not global and the name is its
    first segment.  Later segments ("path tails") and global paths carry no name. -/
def Leads : Node → String → Prop
  | .path (.mk false (.mk i _ :: _)), x => x = i
  | _, _ => False

/-- where a lifetime is written as a *use*: on a reference, as a generic argument, as a
    lifetime bound, as a bound of an entry of a `for<..>` binder -/
def LtAt : Node → String → Prop
  | .ty (.ref (some l) _), x => x = l
  | .garg (.lifetime l), x => x = l
  | .bound (.lifetime l), x => x = l
  | .bound (.trait binder _), x => ∃ e, e ∈ binder ∧ x ∈ e.2
  | _, _ => False

/-- where a `for<..>` binder *declares* a lifetime (not a use of any parameter) -/
def BinderDecl : Node → String → Prop
  | .bound (.trait binder _), x => ∃ e, e ∈ binder ∧ x = e.1
  | _, _ => False

/-! ## 2. The specification -/

/-- the name `x` is written at a place of `t` where a type parameter can be meant -/
def UsesLit (declare : Bool) (t : SType) (x : String) : Prop :=
  ∃ m, Reach declare (.ty t) m ∧ Leads m x

/- Rust identifies a raw identifier with the plain one: `r#T` *is* `T` (`Usage.unraw`,
   the mirror of `Ident::unraw`, strips the prefix). -/

/-- the written name `i` denotes the parameter `p` -/
def Denotes (i p : String) : Prop := unraw i = unraw p

instance (i p : String) : Decidable (Denotes i p) := inferInstanceAs (Decidable (unraw i = unraw p))

theorem denotes_refl (p : String) : Denotes p p := rfl

/-- **what the answer must be (type parameters)**: `p` occurs in `t` where it denotes the
    parameter -/
def Uses (declare : Bool) (t : SType) (p : String) : Prop :=
  ∃ i, UsesLit declare t i ∧ Denotes i p

/-- the lifetime `l` is written as a use somewhere in `t` -/
def LtUsed (declare : Bool) (t : SType) (l : String) : Prop :=
  ∃ m, Reach declare (.ty t) m ∧ LtAt m l

/-- some `for<..>` binder inside `t` declares a lifetime called `x` -/
def Rebinds (declare : Bool) (t : SType) (x : String) : Prop :=
  ∃ m, Reach declare (.ty t) m ∧ BinderDecl m x

/-! ## 3. The engine: a one-step characterisation determines the whole answer -/

theorem child_size {d : Bool} {n m : Node} (h : Child d n m) : sizeOf m < sizeOf n := by
  cases h with
  | tupleElem hm | fnInput hm | objBound hm | implBound hm | segArgs hm | angleArg hm
  | parenInput hm | argConstraint hm =>
      have := List.sizeOf_lt_of_mem hm
      simp at this ⊢; omega
  | _ => simp <;> omega

section engine
variable {d : Bool} (f : Node → List String) (Q : Node → String → Prop)
  (step : ∀ n p, p ∈ f n ↔ Q n p ∨ ∃ m, Child d n m ∧ p ∈ f m)
include step

/-- by induction on the size of the node: every `Child` is smaller -/
theorem engine_mp (n : Node) (p : String) : p ∈ f n → ∃ m, Reach d n m ∧ Q m p :=
  (measure sizeOf).wf.induction (C := fun n => p ∈ f n → ∃ m, Reach d n m ∧ Q m p) n fun n ih h =>
    match (step n p).mp h with
    | .inl hq => ⟨n, .here, hq⟩
    | .inr ⟨m, hc, hm⟩ =>
        let ⟨k, hr, hk⟩ := ih m (child_size hc) hm
        ⟨k, .step hc hr, hk⟩

theorem engine_mpr {n m : Node} {p : String} (hr : Reach d n m) (hq : Q m p) : p ∈ f n := by
  induction hr with
  | here => exact (step _ _).mpr (.inl hq)
  | step hc _ ih => exact (step _ _).mpr (.inr ⟨_, hc, ih hq⟩)

theorem engine (n : Node) (p : String) : p ∈ f n ↔ ∃ m, Reach d n m ∧ Q m p :=
  ⟨engine_mp f Q step n p, fun ⟨_, hr, hq⟩ => engine_mpr f Q step hr hq⟩
end engine

/-! ## 4. Inversion of the `Child` table -/

/-- the `Child` table read by rows: the components of each syntactic form -/
def childOf (d : Bool) : Node → Node → Prop
  | .ty (.path q p), m => m = .path p ∨ (d = true ∧ ∃ q', q = some q' ∧ m = .ty q')
  | .ty (.ref _ e), m | .ty (.ptr e), m | .ty (.slice e), m | .ty (.array e), m
  | .ty (.paren e), m | .ty (.group e), m => m = .ty e
  | .ty (.tuple es), m => ∃ t, t ∈ es ∧ m = .ty t
  | .ty (.bareFn ins out), m | .args (.paren ins out), m =>
      (∃ t, t ∈ ins ∧ m = .ty t) ∨ ∃ o, out = some o ∧ m = .ty o
  | .ty (.traitObject bs), m | .ty (.implTrait bs), m | .garg (.constraint bs), m =>
      ∃ b, b ∈ bs ∧ m = .bound b
  | .path (.mk _ segs), m => ∃ i a, SSeg.mk i a ∈ segs ∧ m = .args a
  | .args (.angle as), m => ∃ a, a ∈ as ∧ m = .garg a
  | .garg (.ty t), m | .garg (.assocTy t), m => m = .ty t
  | .bound (.trait _ p), m => m = .path p
  | .ty .opaque, _ | .args .none, _ | .garg (.lifetime _), _ | .garg .other, _
  | .bound (.lifetime _), _ => False

theorem child_iff {d : Bool} {n m : Node} : Child d n m ↔ childOf d n m := by
  constructor
  · intro h
    cases h with
    | typePath => exact .inl rfl
    | qself hd => exact .inr ⟨hd, _, rfl, rfl⟩
    | ref | ptr | slice | array | paren | group | argTy | argAssoc | boundPath => exact rfl
    | tupleElem h | objBound h | implBound h | angleArg h | argConstraint h => exact ⟨_, h, rfl⟩
    | fnInput h | parenInput h => exact .inl ⟨_, h, rfl⟩
    | fnOutput | parenOutput => exact .inr ⟨_, rfl, rfl⟩
    | segArgs h => exact ⟨_, _, h, rfl⟩
  · intro h
    fun_cases childOf d n m
    next =>
      rcases h with rfl | ⟨hd, _, rfl, rfl⟩
      · exact .typePath
      · exact .qself hd
    next => cases h; exact .ref
    next => cases h; exact .ptr
    next => cases h; exact .slice
    next => cases h; exact .array
    next => cases h; exact .paren
    next => cases h; exact .group
    next => obtain ⟨_, ht, rfl⟩ := h; exact .tupleElem ht
    next =>
      rcases h with ⟨_, ht, rfl⟩ | ⟨_, rfl, rfl⟩
      · exact .fnInput ht
      · exact .fnOutput
    next =>
      rcases h with ⟨_, ht, rfl⟩ | ⟨_, rfl, rfl⟩
      · exact .parenInput ht
      · exact .parenOutput
    next => obtain ⟨_, hb, rfl⟩ := h; exact .objBound hb
    next => obtain ⟨_, hb, rfl⟩ := h; exact .implBound hb
    next => obtain ⟨_, hb, rfl⟩ := h; exact .argConstraint hb
    next => obtain ⟨_, _, hs, rfl⟩ := h; exact .segArgs hs
    next => obtain ⟨_, ha, rfl⟩ := h; exact .angleArg ha
    next => cases h; exact .argTy
    next => cases h; exact .argAssoc
    next => cases h; exact .boundPath
    all_goals exact h.elim

section inversion
variable {d : Bool} {m : Node}

theorem child_path {q p} : Child d (.ty (.path q p)) m ↔
    m = .path p ∨ (d = true ∧ ∃ q', q = some q' ∧ m = .ty q') := child_iff
theorem child_ref {lt e} : Child d (.ty (.ref lt e)) m ↔ m = .ty e := child_iff
theorem child_ptr {e} : Child d (.ty (.ptr e)) m ↔ m = .ty e := child_iff
theorem child_slice {e} : Child d (.ty (.slice e)) m ↔ m = .ty e := child_iff
theorem child_array {e} : Child d (.ty (.array e)) m ↔ m = .ty e := child_iff
theorem child_paren {e} : Child d (.ty (.paren e)) m ↔ m = .ty e := child_iff
theorem child_group {e} : Child d (.ty (.group e)) m ↔ m = .ty e := child_iff
theorem child_tuple {es} : Child d (.ty (.tuple es)) m ↔ ∃ t, t ∈ es ∧ m = .ty t := child_iff
theorem child_bareFn {ins out} : Child d (.ty (.bareFn ins out)) m ↔
    (∃ t, t ∈ ins ∧ m = .ty t) ∨ ∃ o, out = some o ∧ m = .ty o := child_iff
theorem child_traitObject {bs} : Child d (.ty (.traitObject bs)) m ↔ ∃ b, b ∈ bs ∧ m = .bound b := child_iff
theorem child_implTrait {bs} : Child d (.ty (.implTrait bs)) m ↔ ∃ b, b ∈ bs ∧ m = .bound b := child_iff
theorem child_opaque : ¬ Child d (.ty .opaque) m := child_iff.mp
theorem child_boundTrait {binder p} : Child d (.bound (.trait binder p)) m ↔ m = .path p := child_iff
theorem child_boundLifetime {l} : ¬ Child d (.bound (.lifetime l)) m := child_iff.mp
theorem child_pathNode {g segs} : Child d (.path (.mk g segs)) m ↔
    ∃ i a, SSeg.mk i a ∈ segs ∧ m = .args a := child_iff
theorem child_argsNone : ¬ Child d (.args .none) m := child_iff.mp
theorem child_argsAngle {as} : Child d (.args (.angle as)) m ↔ ∃ a, a ∈ as ∧ m = .garg a := child_iff
theorem child_argsParen {ins out} : Child d (.args (.paren ins out)) m ↔
    (∃ t, t ∈ ins ∧ m = .ty t) ∨ ∃ o, out = some o ∧ m = .ty o := child_iff
theorem child_gargTy {t} : Child d (.garg (.ty t)) m ↔ m = .ty t := child_iff
theorem child_gargAssoc {t} : Child d (.garg (.assocTy t)) m ↔ m = .ty t := child_iff
theorem child_gargConstraint {bs} : Child d (.garg (.constraint bs)) m ↔ ∃ b, b ∈ bs ∧ m = .bound b := child_iff
theorem child_gargLifetime {l} : ¬ Child d (.garg (.lifetime l)) m := child_iff.mp
theorem child_gargOther : ¬ Child d (.garg .other) m := child_iff.mp

end inversion

/-! ## 5. Type parameters: the model satisfies the one-step characterisation -/

/-- the model's answer at a node (used in statements only; the specification never calls it) -/
def paramsAt (d : Bool) (S : List String) : Node → List String
  | .ty t => tyParams d S t
  | .path p => pathParams d S p
  | .args a => argsParams d S a
  | .garg g => gargParams d S g
  | .bound b => boundParams d S b

section
variable (d : Bool) (S : List String)
theorem paramsAt_ty (t) : paramsAt d S (.ty t) = tyParams d S t := rfl
theorem paramsAt_path (p) : paramsAt d S (.path p) = pathParams d S p := rfl
theorem paramsAt_args (a) : paramsAt d S (.args a) = argsParams d S a := rfl
theorem paramsAt_garg (g) : paramsAt d S (.garg g) = gargParams d S g := rfl
theorem paramsAt_bound (b) : paramsAt d S (.bound b) = boundParams d S b := rfl
end

section
variable {d : Bool} {S : List String} {n m : Node} {p : String}

theorem mem_identHits_denotes {i : String} :
    p ∈ identHits S i ↔ p ∈ S ∧ Denotes i p :=
  mem_identHits.trans (and_congr_right' eq_comm)

theorem mem_optTyParams {o : Option SType} :
    p ∈ optTyParams d S o ↔ ∃ t, o = some t ∧ p ∈ tyParams d S t := by
  cases o with
  | none => exact ⟨fun h => (nomatch h), fun ⟨_, h, _⟩ => nomatch h⟩
  | some t => exact ⟨fun h => ⟨t, rfl, h⟩, fun ⟨_, e, h⟩ => Option.some.inj e ▸ h⟩

theorem mem_segsParams {ss : List SSeg} :
    p ∈ segsParams d S ss ↔ ∃ i a, SSeg.mk i a ∈ ss ∧ p ∈ argsParams d S a :=
  (List.mem_of_cons_append_rec (f := fun | .mk _ a => argsParams d S a) rfl (fun | .mk _ _, _ => rfl) p ss).trans
    ⟨fun ⟨.mk i a, hm, h⟩ => ⟨i, a, hm, h⟩, fun ⟨i, a, hm, h⟩ => ⟨.mk i a, hm, h⟩⟩

theorem mem_gargsParams {as : List SGArg} :
    p ∈ gargsParams d S as ↔ ∃ a, a ∈ as ∧ p ∈ gargParams d S a :=
  List.mem_of_cons_append_rec rfl (fun _ _ => rfl) p as

theorem mem_boundsParams {bs : List SBound} :
    p ∈ boundsParams d S bs ↔ ∃ b, b ∈ bs ∧ p ∈ boundParams d S b :=
  List.mem_of_cons_append_rec rfl (fun _ _ => rfl) p bs

/-- the name written as the leading segment of the path node `n` denotes `p` -/
def LeadsAs (n : Node) (p : String) : Prop := ∃ i, Leads n i ∧ Denotes i p

theorem params_descend (h : p ∈ paramsAt d S n) :
    (p ∈ S ∧ LeadsAs n p) ∨ ∃ m, Child d n m ∧ p ∈ paramsAt d S m := by
  cases n with
  | ty t =>
      cases t with
      | path q pa =>
          rcases List.mem_append.mp h with h | h
          · exact .inr ⟨_, .typePath, h⟩
          · cases d with
            | false => exact nomatch h
            | true =>
                obtain ⟨q, rfl, h⟩ := mem_optTyParams.mp h
                exact .inr ⟨_, .qself rfl, h⟩
      | ref lt e => exact .inr ⟨_, .ref, h⟩
      | ptr e => exact .inr ⟨_, .ptr, h⟩
      | slice e => exact .inr ⟨_, .slice, h⟩
      | array e => exact .inr ⟨_, .array, h⟩
      | paren e => exact .inr ⟨_, .paren, h⟩
      | group e => exact .inr ⟨_, .group, h⟩
      | tuple es =>
          obtain ⟨t, ht, h⟩ := mem_tysParams.mp h
          exact .inr ⟨_, .tupleElem ht, h⟩
      | bareFn ins out =>
          rcases List.mem_append.mp h with h | h
          · obtain ⟨t, ht, h⟩ := mem_tysParams.mp h
            exact .inr ⟨_, .fnInput ht, h⟩
          · obtain ⟨o, rfl, h⟩ := mem_optTyParams.mp h
            exact .inr ⟨_, .fnOutput, h⟩
      | traitObject bs =>
          obtain ⟨b, hb, h⟩ := mem_boundsParams.mp h
          exact .inr ⟨_, .objBound hb, h⟩
      | implTrait bs =>
          obtain ⟨b, hb, h⟩ := mem_boundsParams.mp h
          exact .inr ⟨_, .implBound hb, h⟩
      | «opaque» => exact nomatch h
  | path pa =>
      obtain ⟨g, segs⟩ := pa
      rcases List.mem_append.mp h with h | h
      · cases segs with
        | nil => exact nomatch h
        | cons s rest =>
            obtain ⟨i, a⟩ := s
            cases g with
            | true => exact nomatch h
            | false =>
                obtain ⟨hs, hd⟩ := mem_identHits_denotes.mp h
                exact .inl ⟨hs, i, rfl, hd⟩
      · obtain ⟨i, a, hm, h⟩ := mem_segsParams.mp h
        exact .inr ⟨_, .segArgs hm, h⟩
  | args a =>
      cases a with
      | none => exact nomatch h
      | angle as =>
          obtain ⟨a, ha, h⟩ := mem_gargsParams.mp h
          exact .inr ⟨_, .angleArg ha, h⟩
      | paren ins out =>
          rcases List.mem_append.mp h with h | h
          · obtain ⟨t, ht, h⟩ := mem_tysParams.mp h
            exact .inr ⟨_, .parenInput ht, h⟩
          · obtain ⟨o, rfl, h⟩ := mem_optTyParams.mp h
            exact .inr ⟨_, .parenOutput, h⟩
  | garg g =>
      cases g with
      | ty t => exact .inr ⟨_, .argTy, h⟩
      | assocTy t => exact .inr ⟨_, .argAssoc, h⟩
      | constraint bs =>
          obtain ⟨b, hb, h⟩ := mem_boundsParams.mp h
          exact .inr ⟨_, .argConstraint hb, h⟩
      | lifetime l => exact nomatch h
      | other => exact nomatch h
  | bound b =>
      cases b with
      | trait binder pa => exact .inr ⟨_, .boundPath, h⟩
      | lifetime l => exact nomatch h

theorem params_of_child (hc : Child d n m) (h : p ∈ paramsAt d S m) : p ∈ paramsAt d S n := by
  cases hc with
  | typePath => exact List.mem_append_left _ h
  | qself hd => subst hd; exact List.mem_append_right _ h
  | ref | ptr | slice | array | paren | group | argTy | argAssoc | boundPath => exact h
  | tupleElem ht => exact mem_tysParams.mpr ⟨_, ht, h⟩
  | fnInput ht => exact List.mem_append_left _ (mem_tysParams.mpr ⟨_, ht, h⟩)
  | fnOutput => exact List.mem_append_right _ h
  | objBound hb | implBound hb | argConstraint hb => exact mem_boundsParams.mpr ⟨_, hb, h⟩
  | segArgs hm => exact List.mem_append_right _ (mem_segsParams.mpr ⟨_, _, hm, h⟩)
  | angleArg ha => exact mem_gargsParams.mpr ⟨_, ha, h⟩
  | parenInput ht => exact List.mem_append_left _ (mem_tysParams.mpr ⟨_, ht, h⟩)
  | parenOutput => exact List.mem_append_right _ h

theorem params_of_leads (hs : p ∈ S) (hl : LeadsAs n p) : p ∈ paramsAt d S n := by
  obtain ⟨i, hi, hd⟩ := hl
  unfold Leads at hi
  split at hi
  · exact List.mem_append_left _ (mem_identHits_denotes.mpr ⟨hs, hi ▸ hd⟩)
  · exact hi.elim

end

theorem params_step (d : Bool) (S : List String) (n : Node) (p : String) :
    p ∈ paramsAt d S n ↔ (p ∈ S ∧ LeadsAs n p) ∨ ∃ m, Child d n m ∧ p ∈ paramsAt d S m :=
  ⟨params_descend, fun
    | .inl ⟨hs, hl⟩ => params_of_leads hs hl
    | .inr ⟨_, hc, h⟩ => params_of_child hc h⟩

/-! ## 6. Type parameters: end-to-end theorems -/

theorem exists_and_left_comm {A : Prop} {B C : Node → Prop} :
    (∃ m, B m ∧ A ∧ C m) ↔ A ∧ ∃ m, B m ∧ C m :=
  ⟨fun ⟨m, hb, ha, hc⟩ => ⟨ha, m, hb, hc⟩, fun ⟨ha, m, hb, hc⟩ => ⟨m, hb, ha, hc⟩⟩

/-- the answer at any node: exactly the queried names denoted by the leading segment of a
    reachable path -/
theorem paramsAt_iff (d : Bool) (S : List String) (n : Node) (p : String) :
    p ∈ paramsAt d S n ↔ p ∈ S ∧ ∃ m, Reach d n m ∧ LeadsAs m p :=
  (engine _ _ (params_step d S) n p).trans exists_and_left_comm

/-- **exactness against the specification of the text** (no side condition): for every type,
    every query set and both purposes the analysis returns exactly those members of the set
    that occur where they denote the parameter -/
theorem params_spec (d : Bool) (S : List String) (t : SType) (p : String) :
    p ∈ tyParams d S t ↔ p ∈ S ∧ Uses d t p := by
  rw [← paramsAt_ty, paramsAt_iff]
  constructor
  · rintro ⟨hs, m, hr, i, hl, hd⟩; exact ⟨hs, i, ⟨m, hr, hl⟩, hd⟩
  · rintro ⟨hs, i, ⟨m, hr, hl⟩, hd⟩; exact ⟨hs, m, hr, i, hl, hd⟩

/-- a queried name written literally at a use position is reported -/
theorem params_of_literal (d : Bool) (S : List String) (t : SType) (p : String)
    (hs : p ∈ S) (h : UsesLit d t p) : p ∈ tyParams d S t :=
  (params_spec d S t p).mpr ⟨hs, p, h, denotes_refl p⟩

/-- "never a name outside the queried set" -/
theorem params_subset (d : Bool) (S : List String) (t : SType) (p : String)
    (h : p ∈ tyParams d S t) : p ∈ S := ((params_spec d S t p).mp h).1

/-- the answer does not depend on what else is in the query set -/
theorem params_query_independent (d : Bool) (S S' : List String) (t : SType) (p : String)
    (hS : p ∈ S) (hS' : p ∈ S') : p ∈ tyParams d S t ↔ p ∈ tyParams d S' t := by
  simp only [params_spec, hS, hS', true_and]

/-- "inside a qualified-self only when asked for declaration purposes", positive half: for
    `Declare` everything used by the qualified self is used by the path type -/
theorem qself_counts_when_declaring (q : SType) (pa : SPath) (x : String)
    (h : UsesLit true q x) : UsesLit true (.path (some q) pa) x := by
  obtain ⟨m, hr, hl⟩ := h
  exact ⟨m, .step (.qself rfl) hr, hl⟩

/-- … negative half: for `BoundImpl` the qualified self is invisible -/
theorem qself_invisible_when_bounding (q : Option SType) (pa : SPath) (x : String) :
    UsesLit false (.path q pa) x ↔ UsesLit false (.path none pa) x := by
  have swap : ∀ q q', UsesLit false (.path q pa) x → UsesLit false (.path q' pa) x := by
    rintro q q' ⟨m, hr, hl⟩
    cases hr with
    | here => exact hl.elim
    | step hc hr' =>
        rcases child_path.mp hc with rfl | ⟨hd, _⟩
        · exact ⟨m, .step .typePath hr', hl⟩
        · cases hd
  exact ⟨swap q none, swap none q⟩

/-- the declaration purpose only ever adds uses: only the row of path types mentions it -/
theorem child_mono {n m : Node} (h : Child false n m) : Child true n m := by
  rw [child_iff] at h ⊢
  fun_cases childOf false n m
  next => exact h.imp_right fun h => nomatch h.1
  all_goals exact h

theorem reach_mono {n m : Node} (h : Reach false n m) : Reach true n m := by
  induction h with
  | here => exact .here
  | step hc _ ih => exact .step (child_mono hc) ih

theorem bounding_subset_declaring (S : List String) (t : SType) (p : String)
    (h : p ∈ tyParams false S t) : p ∈ tyParams true S t := by
  rw [params_spec] at h ⊢
  obtain ⟨hs, i, ⟨m, hr, hl⟩, hd⟩ := h
  exact ⟨hs, i, ⟨m, reach_mono hr, hl⟩, hd⟩

/-! ### collections -/

/-- a list of types (tuple members, function inputs, field types): the union -/
theorem params_list_union (d : Bool) (S : List String) (ts : List SType) (p : String) :
    p ∈ tysParams d S ts ↔ ∃ t, t ∈ ts ∧ p ∈ tyParams d S t := mem_tysParams

/-- an optional type (`Option<T>` collection, return types): the union of zero or one answer -/
theorem params_option_union (d : Bool) (S : List String) (o : Option SType) (p : String) :
    p ∈ optTyParams d S o ↔ ∃ t, o = some t ∧ p ∈ tyParams d S t := mem_optTyParams

/-! ### bounds -/

/-- the body of a receiver as the bound computation sees it -/
inductive Body where
  | struct (fields : List BField)
  | enum (variants : List (Bool × List BField))

/-- the model's `used_type_params` on either kind of body -/
def usedBy (declared : List String) : Body → List String
  | .struct fs => usedInFields declared fs
  | .enum vs => usedInVariants declared vs

/-- "fields that are actually parsed (not skipped)": a field without `skip`, in a variant
    without `skip` -/
def Parsed : Body → BField → Prop
  | .struct fs, f => f ∈ fs ∧ f.skip = false
  | .enum vs, f => ∃ v, v ∈ vs ∧ v.1 = false ∧ f ∈ v.2 ∧ f.skip = false

theorem mem_usedInVariants (declared : List String) (p : String) (vs : List (Bool × List BField)) :
    p ∈ usedInVariants declared vs ↔
      ∃ v, v ∈ vs ∧ v.1 = false ∧ p ∈ usedInFields declared v.2 := by
  rw [List.mem_of_cons_append_rec (f := fun v => if v.1 then [] else usedInFields declared v.2) rfl
    (fun (_, _) _ => rfl) p vs]
  refine exists_congr fun v => and_congr_right fun _ => ?_
  cases v.1
  · exact ⟨fun h => ⟨rfl, h⟩, fun h => h.2⟩
  · exact ⟨fun h => (nomatch h), fun h => nomatch h.1⟩

/-- the answer for a body is the union over its parsed fields -/
theorem usedBy_union (declared : List String) (b : Body) (p : String) :
    p ∈ usedBy declared b ↔ ∃ f, Parsed b f ∧ p ∈ tyParams false declared f.ty := by
  cases b with
  | struct fs => exact mem_usedInFields declared fs p
  | enum vs =>
      simp only [usedBy, mem_usedInVariants, mem_usedInFields, Parsed]
      constructor
      · rintro ⟨v, hv, hs, f, ⟨hf, hfs⟩, hp⟩; exact ⟨f, ⟨v, hv, hs, hf, hfs⟩, hp⟩
      · rintro ⟨f, ⟨v, hv, hs, hf, hfs⟩, hp⟩; exact ⟨v, hv, hs, f, ⟨hf, hfs⟩, hp⟩

/-- **what the bounds must be**: the declared type parameters that occur, where they denote
    the parameter, in the type of a parsed field (impl-bound purpose: not in a qualified self) -/
def NeedsBound (declared : List String) (b : Body) (p : String) : Prop :=
  p ∈ declared ∧ ∃ f, Parsed b f ∧ Uses false f.ty p

/-- **the bound goes to exactly the declared type parameters used by parsed fields**
    (no side condition; struct and enum bodies) -/
theorem bounds_spec (declared : List String) (b : Body) (p : String) :
    p ∈ boundedParams declared (usedBy declared b) ↔ NeedsBound declared b p := by
  simp only [boundedParams, List.mem_filter, List.contains_iff_mem, usedBy_union, params_spec,
    NeedsBound]
  constructor
  · rintro ⟨hd, f, hf, _, hu⟩; exact ⟨hd, f, hf, hu⟩
  · rintro ⟨hd, f, hf, hu⟩; exact ⟨hd, f, hf, hd, hu⟩

theorem bounded_is_filter (declared used : List String) :
    boundedParams declared used = declared.filter (fun p => decide (p ∈ used)) := by
  simp [boundedParams]

/-! ### the specification on the text's non-use positions (proved from the tables alone, without
    the model) -/

theorem reach_bare_path {d g : Bool} {names : List String} {m : Node}
    (hr : Reach d (.path (.mk g (names.map fun i => SSeg.mk i .none))) m) :
    m = .path (.mk g (names.map fun i => SSeg.mk i .none)) ∨ m = .args .none := by
  cases hr with
  | here => exact .inl rfl
  | step hc hr =>
      obtain ⟨i, a, hm, rfl⟩ := child_pathNode.mp hc
      obtain ⟨j, _, hj⟩ := List.mem_map.mp hm
      cases hj
      cases hr with
      | here => exact .inr rfl
      | step hc _ => exact absurd hc child_argsNone

/-- macro bodies, verbatim, `_`, `!`: nothing is used -/
theorem spec_opaque (d : Bool) (x : String) : ¬ UsesLit d .opaque x := by
  rintro ⟨m, hr, hl⟩
  cases hr with
  | here => exact hl.elim
  | step hc _ => exact child_opaque hc

/-- path tails: in `a::b` only `a` can be meant -/
theorem spec_path_tail (d : Bool) (a b x : String) :
    UsesLit d (.path none (.mk false [.mk a .none, .mk b .none])) x ↔ x = a := by
  constructor
  · rintro ⟨m, hr, hl⟩
    cases hr with
    | here => exact hl.elim
    | step hc hr =>
      rcases child_path.mp hc with rfl | ⟨_, q', hq, _⟩
      · rcases reach_bare_path (names := [a, b]) hr with rfl | rfl
        · exact hl
        · exact hl.elim
      · cases hq
  · rintro rfl
    exact ⟨_, .step .typePath .here, rfl⟩

/-- global paths: in `::a` nothing is used -/
theorem spec_global (d : Bool) (a x : String) :
    ¬ UsesLit d (.path none (.mk true [.mk a .none])) x := by
  rintro ⟨m, hr, hl⟩
  cases hr with
  | here => exact hl.elim
  | step hc hr =>
    rcases child_path.mp hc with rfl | ⟨_, q', hq, _⟩
    · rcases reach_bare_path (names := [a]) hr with rfl | rfl
      · exact hl.elim
      · exact hl.elim
    · cases hq

/-- const-expression arguments: in `Arr<{ .. }>` only `Arr` can be meant -/
theorem spec_const_arg (d : Bool) (c x : String) :
    UsesLit d (.path none (.mk false [.mk c (.angle [.other])])) x ↔ x = c := by
  constructor
  · rintro ⟨m, hr, hl⟩
    cases hr with
    | here => exact hl.elim
    | step hc hr =>
      rcases child_path.mp hc with rfl | ⟨_, q', hq, _⟩
      · cases hr with
        | here => exact hl
        | step hc hr =>
          obtain ⟨i, a', hm, rfl⟩ := child_pathNode.mp hc
          simp only [List.mem_singleton, SSeg.mk.injEq] at hm
          obtain ⟨rfl, rfl⟩ := hm
          cases hr with
          | here => exact hl.elim
          | step hc hr =>
            obtain ⟨g, hg, rfl⟩ := child_argsAngle.mp hc
            simp only [List.mem_singleton] at hg
            subst hg
            cases hr with
            | here => exact hl.elim
            | step hc _ => exact absurd hc child_gargOther
      · cases hq
  · rintro rfl
    exact ⟨_, .step .typePath .here, rfl⟩

/-! ## 7. Lifetimes -/

/-- the model's answer at a node (statements only) -/
def ltsAt (d : Bool) (L : List String) : Node → List String
  | .ty t => tyLts d L t
  | .path p => pathLts d L p
  | .args a => argsLts d L a
  | .garg g => gargLts d L g
  | .bound b => boundLts d L b

section
variable (d : Bool) (L : List String)
theorem ltsAt_ty (t) : ltsAt d L (.ty t) = tyLts d L t := rfl
theorem ltsAt_path (p) : ltsAt d L (.path p) = pathLts d L p := rfl
theorem ltsAt_args (a) : ltsAt d L (.args a) = argsLts d L a := rfl
theorem ltsAt_garg (g) : ltsAt d L (.garg g) = gargLts d L g := rfl
theorem ltsAt_bound (b) : ltsAt d L (.bound b) = boundLts d L b := rfl
end

section
variable {d : Bool} {L : List String} {n m : Node} {x : String}

theorem mem_occBinder {b : List (String × List String)} :
    x ∈ Spec.C19.occBinder b ↔ ∃ e, e ∈ b ∧ (x = e.1 ∨ x ∈ e.2) := by
  rw [List.mem_of_cons_append_rec (f := fun e => e.1 :: e.2) rfl (fun (_, _) _ => rfl) x b]
  simp only [List.mem_cons]

theorem mem_tysLts {ts : List SType} :
    x ∈ tysLts d L ts ↔ ∃ t, t ∈ ts ∧ x ∈ tyLts d L t :=
  List.mem_of_cons_append_rec rfl (fun _ _ => rfl) x ts

theorem mem_optTyLts {o : Option SType} :
    x ∈ optTyLts d L o ↔ ∃ t, o = some t ∧ x ∈ tyLts d L t := by
  cases o with
  | none => exact ⟨fun h => (nomatch h), fun ⟨_, h, _⟩ => nomatch h⟩
  | some t => exact ⟨fun h => ⟨t, rfl, h⟩, fun ⟨_, e, h⟩ => Option.some.inj e ▸ h⟩

theorem mem_segsLts {ss : List SSeg} :
    x ∈ segsLts d L ss ↔ ∃ i a, SSeg.mk i a ∈ ss ∧ x ∈ argsLts d L a :=
  (List.mem_of_cons_append_rec (f := fun | .mk _ a => argsLts d L a) rfl (fun | .mk _ _, _ => rfl) x ss).trans
    ⟨fun ⟨.mk i a, hm, h⟩ => ⟨i, a, hm, h⟩, fun ⟨i, a, hm, h⟩ => ⟨.mk i a, hm, h⟩⟩

theorem mem_gargsLts {as : List SGArg} :
    x ∈ gargsLts d L as ↔ ∃ a, a ∈ as ∧ x ∈ gargLts d L a :=
  List.mem_of_cons_append_rec rfl (fun _ _ => rfl) x as

theorem mem_boundsLts {bs : List SBound} :
    x ∈ boundsLts d L bs ↔ ∃ b, b ∈ bs ∧ x ∈ boundLts d L b :=
  List.mem_of_cons_append_rec rfl (fun _ _ => rfl) x bs

theorem lts_descend (h : x ∈ ltsAt d L n) :
    (x ∈ L ∧ (LtAt n x ∨ BinderDecl n x)) ∨ ∃ m, Child d n m ∧ x ∈ ltsAt d L m := by
  cases n with
  | ty t =>
      cases t with
      | path q pa =>
          rcases List.mem_append.mp h with h | h
          · exact .inr ⟨_, .typePath, h⟩
          · cases d with
            | false => exact nomatch h
            | true =>
                obtain ⟨q, rfl, h⟩ := mem_optTyLts.mp h
                exact .inr ⟨_, .qself rfl, h⟩
      | ref lt e =>
          rcases List.mem_append.mp h with h | h
          · cases lt with
            | none => exact nomatch h
            | some l => exact .inl ⟨(mem_ltHits.mp h).1, .inl (mem_ltHits.mp h).2⟩
          · exact .inr ⟨_, .ref, h⟩
      | ptr e => exact .inr ⟨_, .ptr, h⟩
      | slice e => exact .inr ⟨_, .slice, h⟩
      | array e => exact .inr ⟨_, .array, h⟩
      | paren e => exact .inr ⟨_, .paren, h⟩
      | group e => exact .inr ⟨_, .group, h⟩
      | tuple es =>
          obtain ⟨t, ht, h⟩ := mem_tysLts.mp h
          exact .inr ⟨_, .tupleElem ht, h⟩
      | bareFn ins out =>
          rcases List.mem_append.mp h with h | h
          · obtain ⟨t, ht, h⟩ := mem_tysLts.mp h
            exact .inr ⟨_, .fnInput ht, h⟩
          · obtain ⟨o, rfl, h⟩ := mem_optTyLts.mp h
            exact .inr ⟨_, .fnOutput, h⟩
      | traitObject bs =>
          obtain ⟨b, hb, h⟩ := mem_boundsLts.mp h
          exact .inr ⟨_, .objBound hb, h⟩
      | implTrait bs =>
          obtain ⟨b, hb, h⟩ := mem_boundsLts.mp h
          exact .inr ⟨_, .implBound hb, h⟩
      | «opaque» => exact nomatch h
  | path pa =>
      obtain ⟨g, segs⟩ := pa
      obtain ⟨i, a, hm, h⟩ := mem_segsLts.mp h
      exact .inr ⟨_, .segArgs hm, h⟩
  | args a =>
      cases a with
      | none => exact nomatch h
      | angle as =>
          obtain ⟨a, ha, h⟩ := mem_gargsLts.mp h
          exact .inr ⟨_, .angleArg ha, h⟩
      | paren ins out =>
          rcases List.mem_append.mp h with h | h
          · obtain ⟨t, ht, h⟩ := mem_tysLts.mp h
            exact .inr ⟨_, .parenInput ht, h⟩
          · obtain ⟨o, rfl, h⟩ := mem_optTyLts.mp h
            exact .inr ⟨_, .parenOutput, h⟩
  | garg g =>
      cases g with
      | ty t => exact .inr ⟨_, .argTy, h⟩
      | assocTy t => exact .inr ⟨_, .argAssoc, h⟩
      | constraint bs =>
          obtain ⟨b, hb, h⟩ := mem_boundsLts.mp h
          exact .inr ⟨_, .argConstraint hb, h⟩
      | lifetime l => exact .inl ⟨(mem_ltHits.mp h).1, .inl (mem_ltHits.mp h).2⟩
      | other => exact nomatch h
  | bound b =>
      cases b with
      | trait binder pa =>
          rcases List.mem_append.mp h with h | h
          · exact .inr ⟨_, .boundPath, h⟩
          · obtain ⟨hl, ho⟩ := mem_binderLts.mp h
            obtain ⟨e, he, hx | hx⟩ := mem_occBinder.mp ho
            · exact .inl ⟨hl, .inr ⟨e, he, hx⟩⟩
            · exact .inl ⟨hl, .inl ⟨e, he, hx⟩⟩
      | lifetime l => exact .inl ⟨(mem_ltHits.mp h).1, .inl (mem_ltHits.mp h).2⟩

theorem lts_of_child (hc : Child d n m) (h : x ∈ ltsAt d L m) : x ∈ ltsAt d L n := by
  cases hc with
  | typePath | boundPath => exact List.mem_append_left _ h
  | qself hd => subst hd; exact List.mem_append_right _ h
  | ref => exact List.mem_append_right _ h
  | ptr | slice | array | paren | group | argTy | argAssoc => exact h
  | tupleElem ht => exact mem_tysLts.mpr ⟨_, ht, h⟩
  | fnInput ht => exact List.mem_append_left _ (mem_tysLts.mpr ⟨_, ht, h⟩)
  | fnOutput => exact List.mem_append_right _ h
  | objBound hb | implBound hb | argConstraint hb => exact mem_boundsLts.mpr ⟨_, hb, h⟩
  | segArgs hm => exact mem_segsLts.mpr ⟨_, _, hm, h⟩
  | angleArg ha => exact mem_gargsLts.mpr ⟨_, ha, h⟩
  | parenInput ht => exact List.mem_append_left _ (mem_tysLts.mpr ⟨_, ht, h⟩)
  | parenOutput => exact List.mem_append_right _ h

theorem lts_of_leaf (hl : x ∈ L) (h : LtAt n x ∨ BinderDecl n x) : x ∈ ltsAt d L n := by
  rcases h with h | h
  · unfold LtAt at h
    split at h
    · exact List.mem_append_left _ (mem_ltHits.mpr ⟨hl, h⟩)
    · exact mem_ltHits.mpr ⟨hl, h⟩
    · exact mem_ltHits.mpr ⟨hl, h⟩
    · obtain ⟨e, he, hx⟩ := h
      exact List.mem_append_right _
        (mem_binderLts.mpr ⟨hl, mem_occBinder.mpr ⟨e, he, .inr hx⟩⟩)
    · exact h.elim
  · unfold BinderDecl at h
    split at h
    · obtain ⟨e, he, hx⟩ := h
      exact List.mem_append_right _
        (mem_binderLts.mpr ⟨hl, mem_occBinder.mpr ⟨e, he, .inl hx⟩⟩)
    · exact h.elim

end

theorem lts_step (d : Bool) (L : List String) (n : Node) (x : String) :
    x ∈ ltsAt d L n ↔
      (x ∈ L ∧ (LtAt n x ∨ BinderDecl n x)) ∨ ∃ m, Child d n m ∧ x ∈ ltsAt d L m :=
  ⟨lts_descend, fun
    | .inl ⟨hl, h⟩ => lts_of_leaf hl h
    | .inr ⟨_, hc, h⟩ => lts_of_child hc h⟩

theorem ltsAt_iff (d : Bool) (L : List String) (n : Node) (x : String) :
    x ∈ ltsAt d L n ↔ x ∈ L ∧ ∃ m, Reach d n m ∧ (LtAt m x ∨ BinderDecl m x) :=
  (engine _ _ (lts_step d L) n x).trans exists_and_left_comm

/-- **exactness for lifetimes, the model as it is** (no side condition): the queried lifetimes
    written as a use *or declared by a `for<..>` binder* inside the type -/
theorem lifetimes_literal (d : Bool) (L : List String) (t : SType) (l : String) :
    l ∈ tyLts d L t ↔ l ∈ L ∧ (LtUsed d t l ∨ Rebinds d t l) := by
  rw [← ltsAt_ty, ltsAt_iff]
  constructor
  · rintro ⟨hl, m, hr, h | h⟩
    · exact ⟨hl, .inl ⟨m, hr, h⟩⟩
    · exact ⟨hl, .inr ⟨m, hr, h⟩⟩
  · rintro ⟨hl, ⟨m, hr, h⟩ | ⟨m, hr, h⟩⟩
    · exact ⟨hl, m, hr, .inl h⟩
    · exact ⟨hl, m, hr, .inr h⟩

/-- no `for<..>` binder inside `t` re-declares a queried lifetime (rustc enforces this for the
    receiver's own lifetimes: E0496).  Under this condition binder scopes are moot: no
    occurrence of a queried lifetime is captured by a binder. -/
def NoShadow (d : Bool) (L : List String) (t : SType) : Prop :=
  ∀ x, x ∈ L → ¬ Rebinds d t x

/-- **exactness against the specification of the text**: exactly the queried lifetimes that
    are written as a use — provided no binder re-declares a queried lifetime.  Without the
    proviso the model also reports the binder's own declaration, see `binder_discrepancy_*`. -/
theorem lifetimes_spec_partial (d : Bool) (L : List String) (t : SType) (h : NoShadow d L t)
    (l : String) : l ∈ tyLts d L t ↔ l ∈ L ∧ LtUsed d t l := by
  rw [lifetimes_literal]
  constructor
  · rintro ⟨hl, hu | hb⟩
    · exact ⟨hl, hu⟩
    · exact absurd hb (h l hl)
  · rintro ⟨hl, hu⟩; exact ⟨hl, .inl hu⟩

theorem lifetimes_subset (d : Bool) (L : List String) (t : SType) (l : String)
    (h : l ∈ tyLts d L t) : l ∈ L := ((lifetimes_literal d L t l).mp h).1

theorem lifetimes_list_union (d : Bool) (L : List String) (ts : List SType) (l : String) :
    l ∈ tysLts d L ts ↔ ∃ t, t ∈ ts ∧ l ∈ tyLts d L t := mem_tysLts

theorem lifetimes_option_union (d : Bool) (L : List String) (o : Option SType) (l : String) :
    l ∈ optTyLts d L o ↔ ∃ t, o = some t ∧ l ∈ tyLts d L t := mem_optTyLts

/-! ## 8. Raw identifiers; the binder discrepancy -/

def tyName (x : String) : SType := .path none (.mk false [.mk x .none])
def tyApp (c : String) (a : SType) : SType := .path none (.mk false [.mk c (.angle [.ty a])])

/-- `Option<r#T>` -/
def optRawT : SType := tyApp "Option" (tyName "r#T")

/-- spellings are not compared literally: `T` is used by `Option<r#T>`, and `r#T` by `Option<T>`,
    under both purposes … -/
example : tyParams false ["T"] optRawT = ["T"] := by decide
example : tyParams true ["T"] optRawT = ["T"] := by decide
example : tyParams false ["r#T"] (tyApp "Option" (tyName "T")) = ["r#T"] := by decide

/-- … as the text demands: `r#T` occurs inside generic arguments as an unqualified leading
    segment and denotes the parameter `T`; read off the tables, no model involved -/
theorem raw_uses : Uses false optRawT "T" :=
  ⟨"r#T",
   ⟨_, .step .typePath (.step (.segArgs (List.mem_singleton.mpr rfl))
        (.step (.angleArg (List.mem_singleton.mpr rfl)) (.step .argTy (.step .typePath .here)))),
    rfl⟩,
   by decide⟩

example : Uses false optRawT "T" := raw_uses

/-- consequence for the emitted bounds: `struct R<T> { a: Option<r#T> }` gets the bound on `T` -/
example : boundedParams ["T"] (usedBy ["T"] (.struct [⟨optRawT, false⟩])) = ["T"] := by decide
theorem raw_bound : NeedsBound ["T"] (.struct [⟨optRawT, false⟩]) "T" :=
  ⟨by decide, ⟨optRawT, false⟩, ⟨by simp, rfl⟩, raw_uses⟩

/-- `dyn for<'a> Tr` -/
def dynForA : SType := .traitObject [.trait [("'a", [])] (.mk false [.mk "Tr" .none])]

/-- the model: `'a` is used by `dyn for<'a> Tr` … -/
example : tyLts false ["'a"] dynForA = ["'a"] := by decide

/-- … the text: nowhere in `dyn for<'a> Tr` is `'a` written as a use; the binder declares a
    fresh lifetime -/
theorem binder_discrepancy_not_used : ¬ LtUsed false dynForA "'a" := by
  rintro ⟨m, hr, hl⟩
  unfold dynForA at hr
  cases hr with
  | here => exact hl.elim
  | step hc hr =>
    obtain ⟨b, hb, rfl⟩ := child_traitObject.mp hc
    simp only [List.mem_singleton] at hb
    subst hb
    cases hr with
    | here => simp [LtAt] at hl
    | step hc hr =>
      have hm := child_boundTrait.mp hc
      subst hm
      rcases reach_bare_path (names := ["Tr"]) hr with rfl | rfl
      · exact hl.elim
      · exact hl.elim

theorem binder_discrepancy_rebinds : Rebinds false dynForA "'a" :=
  ⟨_, .step (.objBound (List.mem_singleton.mpr rfl)) .here, ("'a", []), List.mem_singleton.mpr rfl, rfl⟩

theorem binder_discrepancy_shadow : ¬ NoShadow false ["'a"] dynForA := fun h =>
  h "'a" (by decide) binder_discrepancy_rebinds

/-! ## 9. Two positions the mirror types cannot even name

  The text says "inside generic arguments … through … function … types".  Two such positions
  exist in `syn` but have no field in `UsageTypes.lean`, so neither the model nor this
  specification can speak about them; the library ignores both:

  * the generic arguments *of an associated-type binding or constraint itself*:
    `Box<dyn Lend<Item<T> = u8>>`, `Lend<Item<'a> = u8>`, `Lend<Item<T>: Clone>`
    (`syn::AssocType::generics`, `syn::Constraint::generics`; `SGArg.assocTy` keeps the
    right-hand side only).  Library: `T` / `'a` not reported, no bound emitted.
  * the `for<..>` binder of a function-pointer type: `for<'x: 'a> fn(&'x u8)`
    (`syn::TypeBareFn::lifetimes`; `SType.bareFn` has inputs and output only).  Library: `'a`
    not reported, although the same binder on a trait bound (`dyn for<'x: 'a> Fn(&'x u8)`)
    is searched.

  What the mirror makes of the first input — the binding's `<T>` is gone before the model runs: -/

/-- `Box<dyn Lend<Item<T> = u8>>` as encoded by the harness -/
def gatMirror : SType :=
  tyApp "Box" (.traitObject [.trait [] (.mk false [.mk "Lend" (.angle [.assocTy (tyName "u8")])])])

example : tyParams false ["T"] gatMirror = [] := by decide

/-! ## 10. Non-vacuity of every hypothesis -/

/-- `Vec<T>` -/
def vecT : SType := tyApp "Vec" (tyName "T")
/-- `<U as Iterator>::Item` -/
def assocU : SType := .path (some (tyName "U")) (.mk false [.mk "Iterator" .none, .mk "Item" .none])

/-- the specification is met with a non-empty answer, and with a queried name left out -/
example : "T" ∈ tyParams false ["T", "U"] vecT ∧ "U" ∉ tyParams false ["T", "U"] vecT := by decide
example : Uses false vecT "T" := ((params_spec false ["T"] vecT "T").mp (by decide)).2
example : ¬ Uses false vecT "U" := fun h =>
  absurd ((params_spec false ["U"] vecT "U").mpr ⟨by decide, h⟩) (by decide)

/-- the purpose matters on `<U as Iterator>::Item` -/
example : tyParams false ["T", "U"] assocU = [] ∧ tyParams true ["T", "U"] assocU = ["U"] := by decide
example : UsesLit true assocU "U" := qself_counts_when_declaring _ _ _ ⟨_, .step .typePath .here, rfl⟩

/-- an enum with a skipped variant and a skipped field -/
def bodyExample : Body :=
  .enum [(false, [⟨vecT, false⟩, ⟨tyName "U", true⟩]), (true, [⟨tyName "V", false⟩])]

theorem bodyExample_bounded :
    boundedParams ["T", "U", "V"] (usedBy ["T", "U", "V"] bodyExample) = ["T"] := by decide

example : boundedParams ["T", "U", "V"] (usedBy ["T", "U", "V"] bodyExample) = ["T"] := bodyExample_bounded

example : NeedsBound ["T", "U", "V"] bodyExample "T" :=
  (bounds_spec _ _ "T").mp (bodyExample_bounded ▸ List.mem_singleton.mpr rfl)
example : ¬ NeedsBound ["T", "U", "V"] bodyExample "U" := fun h =>
  absurd (bodyExample_bounded ▸ (bounds_spec _ _ "U").mpr h) (by decide)
example : ¬ NeedsBound ["T", "U", "V"] bodyExample "V" := fun h =>
  absurd (bodyExample_bounded ▸ (bounds_spec _ _ "V").mpr h) (by decide)

/-- `'x`-binder plus a genuine use of `'a`: `dyn for<'x> Tr + 'a` -/
def dynForX : SType := .traitObject [.trait [("'x", [])] (.mk false [.mk "Tr" .none]), .lifetime "'a"]

theorem noShadow_example : NoShadow false ["'a"] dynForX := by
  intro x hx ⟨m, hr, hb⟩
  simp only [List.mem_singleton] at hx
  subst hx
  unfold dynForX at hr
  cases hr with
  | here => exact hb.elim
  | step hc hr =>
    obtain ⟨b, hb', rfl⟩ := child_traitObject.mp hc
    simp only [List.mem_cons, List.mem_nil_iff, or_false] at hb'
    rcases hb' with rfl | rfl
    · cases hr with
      | here => simp [BinderDecl] at hb
      | step hc hr =>
        have hm := child_boundTrait.mp hc
        subst hm
        rcases reach_bare_path (names := ["Tr"]) hr with rfl | rfl
        · exact hb.elim
        · exact hb.elim
    · cases hr with
      | here => exact hb.elim
      | step hc _ => exact child_boundLifetime hc

example : tyLts false ["'a"] dynForX = ["'a"] := by decide
example : LtUsed false dynForX "'a" :=
  ((lifetimes_spec_partial false ["'a"] dynForX noShadow_example "'a").mp (by decide)).2

end C19
