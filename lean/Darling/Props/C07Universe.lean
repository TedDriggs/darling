import Darling.Props.C07
/-
  C07 (1) — every built-in conversion of the modelled type universe returns: NP for each
  syntax-valued implementor and the probe, then induction over `Ty` for `hooksOf`.
  The syn grammar parsers / oracles are arbitrary functions throughout.
-/
open Scalars Wrappers SynTypes

namespace C07
variable {α : Type}

/-! ### shared string-parsed conversions -/

theorem parsedFromValue_returns (parse : String → Option String) (tok : String → α) (l : Lit) :
    (parsedFromValue parse tok l).Returns := by
  unfold parsedFromValue
  cases l.v
  case str s =>
    dsimp only
    cases parse s
    · exact Outcome.returns_err _
    · exact Outcome.returns_ok _
  all_goals exact Outcome.returns_err _

theorem parsedFromString_returns (parse : String → Option String) (tok : String → α) (s : String) :
    (parsedFromString parse tok s).Returns := by
  unfold parsedFromString
  cases parse s
  · exact Outcome.returns_err _
  · exact Outcome.returns_ok _

/-! ### syn::Expr, syn::Path, syn::Ident, IdentString -/

theorem exprFromExpr_returns (parse : String → Option String) (tok : String → α) :
    (e : Expr) → (exprFromExpr parse tok e).Returns
  | .lit l => by
      simp only [exprFromExpr]; split
      · exact parsedFromValue_returns parse tok l
      · exact Outcome.returns_ok _
  | .group g _ => exprFromExpr_returns parse tok g
  | .path _ _ => Outcome.returns_ok _
  | .qpath _ _ _ => Outcome.returns_ok _
  | .array _ _ _ => Outcome.returns_ok _
  | .other _ _ _ => Outcome.returns_ok _

theorem expr_np (parse : String → Option String) (tok : String → α) : (exprHooks parse tok).NP :=
  .of_overrides {
    value := parsedFromValue_returns parse tok
    expr := exprFromExpr_returns parse tok
    string := parsedFromString_returns parse tok }

theorem pathFromExpr_returns (parse : String → Option String) (tok : String → α) :
    (e : Expr) → (pathFromExpr parse tok e).Returns
  | .lit l => parsedFromValue_returns parse tok l
  | .group g _ => pathFromExpr_returns parse tok g
  | .path _ _ => Outcome.returns_ok _
  | .qpath _ _ _ => Outcome.returns_err _
  | .array _ _ _ => Outcome.returns_err _
  | .other _ _ _ => Outcome.returns_err _

theorem path_np (parse : String → Option String) (tok : String → α) : (pathHooks parse tok).NP :=
  .of_overrides {
    value := parsedFromValue_returns parse tok
    expr := pathFromExpr_returns parse tok
    string := parsedFromString_returns parse tok }

theorem identFromExpr_returns (parse : String → Option String) (tok : String → α) :
    (e : Expr) → (identFromExpr parse tok e).Returns
  | .lit l => parsedFromValue_returns parse tok l
  | .group g _ => identFromExpr_returns parse tok g
  | .path p _ => by
      simp only [identFromExpr]
      cases p.getIdent
      · exact Outcome.returns_err _
      · exact Outcome.returns_ok _
  | .qpath _ _ _ => Outcome.returns_err _
  | .array _ _ _ => Outcome.returns_err _
  | .other _ _ _ => Outcome.returns_err _

theorem ident_np (parse : String → Option String) (tok : String → α) : (identHooks parse tok).NP :=
  .of_overrides {
    value := parsedFromValue_returns parse tok
    expr := identFromExpr_returns parse tok
    string := parsedFromString_returns parse tok }

theorem identString_np (parse : String → Option String) (tok : String → α) :
    (identStringHooks parse tok).NP :=
  .of_overrides { meta_ := (ident_np parse tok).fromMeta }

/-! ### `from_syn_expr_type!`, `from_syn_parse!`, where-predicates, RenameRule, Punctuated -/

theorem synExprFromExpr_returns (v : ExprVariant) (parse : String → Option String) (tok : String → α) :
    (e : Expr) → (synExprFromExpr v parse tok e).Returns
  | .lit l => parsedFromValue_returns parse tok l
  | .group g _ => synExprFromExpr_returns v parse tok g
  | .path _ _ => .ite (Outcome.returns_ok _) (Outcome.returns_err _)
  | .qpath _ _ _ => .ite (Outcome.returns_ok _) (Outcome.returns_err _)
  | .array _ _ _ => .ite (Outcome.returns_ok _) (Outcome.returns_err _)
  | .other _ _ _ => .ite (Outcome.returns_ok _) (Outcome.returns_err _)

theorem synExpr_np (v : ExprVariant) (parse : String → Option String) (tok : String → α) :
    (synExprHooks v parse tok).NP :=
  .of_overrides { value := parsedFromValue_returns parse tok, expr := synExprFromExpr_returns v parse tok }

theorem synParse_np (parse : String → Option String) (tok : String → α) : (synParseHooks parse tok).NP :=
  .of_overrides { value := parsedFromValue_returns parse tok, string := parsedFromString_returns parse tok }

theorem wherePreds_np (parsePreds : String → Option String) (tok : String → α) :
    (wherePredsHooks parsePreds tok).NP :=
  .of_overrides {
    value := fun l => by
      dsimp only
      cases l.v
      case str s =>
        dsimp only
        cases parsePreds ("where " ++ s)
        · exact Outcome.returns_err _
        · exact Outcome.returns_ok _
      all_goals exact Outcome.returns_err _
    string := fun _ => parsedFromString_returns parsePreds tok _ }

theorem renameRule_np (known : List String) (mk : String → α) : (renameRuleHooks known mk).NP :=
  .of_overrides { string := fun _ => .ite (Outcome.returns_ok _) (Outcome.returns_err _) }

theorem punctuated_np (parse : String → Option String) (tok : String → α) : (punctuatedHooks parse tok).NP :=
  .of_overrides { value := parsedFromValue_returns parse tok }

/-! ### literals -/

theorem lit_np (tok : String → α) : (litHooks tok).NP :=
  .of_overrides { value := fun _ => Outcome.returns_ok _ }

theorem litKindFromValue_returns (k : LitKind) (tok : String → α) (l : Lit) :
    (litKindFromValue k tok l).Returns :=
  .ite (Outcome.returns_ok _) (Outcome.returns_err _)

theorem litKind_np (k : LitKind) (tok : String → α) : (litKindHooks k tok).NP :=
  .of_overrides { value := litKindFromValue_returns k tok }

/-- `collect::<Result<Vec<_>>>()` returns when the element conversion does -/
theorem collectFirstErr_returns {β γ : Type} (f : β → Outcome γ) (hf : ∀ x, (f x).Returns) :
    (xs : List β) → (collectFirstErr f xs).Returns
  | [] => Outcome.returns_ok _
  | x :: xs => by
      simp only [collectFirstErr]
      have hx := hf x
      cases h : f x with
      | ok v => exact (collectFirstErr_returns f hf xs).map _
      | err e => exact Outcome.returns_err _
      | panic m => exact absurd h (hx m)

theorem arrayLit_returns {β : Type} (parseArr : String → Option Expr) (f : Expr → Outcome β) (hf : ∀ e, (f e).Returns)
    (injL : List β → α) (l : Lit) :
    (match l.v with
     | .str s => (match parseArr s with
         | some (.array es _ _) => (collectFirstErr f es).map injL
         | _ => .err (unknownLitStr s l))
     | _ => .err (Err.unexpectedLitType l) : Outcome α).Returns := by
  split
  · split
    · exact (collectFirstErr_returns f hf _).map _
    · exact Outcome.returns_err _
  · exact Outcome.returns_err _

theorem vecLitFromExpr_returns (k : LitKind) (parseArr : String → Option Expr) (tok : String → α)
    (injL : List α → α) : (e : Expr) → (vecLitFromExpr k parseArr tok injL e).Returns
  | .array es _ _ => (collectFirstErr_returns _ (litKind_np k tok).fromExpr es).map _
  | .lit l => arrayLit_returns parseArr _ (litKind_np k tok).fromExpr injL l
  | .group g _ => vecLitFromExpr_returns k parseArr tok injL g
  | .path _ _ => Outcome.returns_err _
  | .qpath _ _ _ => Outcome.returns_err _
  | .other _ _ _ => Outcome.returns_err _

theorem vecLit_np (k : LitKind) (parseArr : String → Option Expr) (tok : String → α) (injL : List α → α) :
    (vecLitHooks k parseArr tok injL).NP :=
  .of_overrides {
    list := fun items => (collectFirstErr_returns _ (litKind_np k tok).fromNestedMeta items).map _
    value := fun l => vecLitFromExpr_returns k parseArr tok injL (.lit l)
    expr := vecLitFromExpr_returns k parseArr tok injL }

theorem numElem_returns (sp : IntSpec) (inj : Int → α) (e : Expr) : (numElem sp inj e).Returns := by
  unfold numElem
  cases numElemLit e
  · exact Outcome.returns_err _
  · exact numFromValue_returns sp inj _

theorem numArrayFromExpr_returns (sp : IntSpec) (parseArr : String → Option Expr) (inj : Int → α)
    (injL : List α → α) : (e : Expr) → (numArrayFromExpr sp parseArr inj injL e).Returns
  | .array es _ _ => (collectFirstErr_returns _ (numElem_returns sp inj) es).map _
  | .lit l => arrayLit_returns parseArr _ (numElem_returns sp inj) injL l
  | .group g _ => numArrayFromExpr_returns sp parseArr inj injL g
  | .path _ _ => Outcome.returns_err _
  | .qpath _ _ _ => Outcome.returns_err _
  | .other _ _ _ => Outcome.returns_err _

theorem numArray_np (sp : IntSpec) (parseArr : String → Option Expr) (inj : Int → α) (injL : List α → α) :
    (numArrayHooks sp parseArr inj injL).NP :=
  .of_overrides {
    value := fun l => numArrayFromExpr_returns sp parseArr inj injL (.lit l)
    expr := numArrayFromExpr_returns sp parseArr inj injL }

/-! ### syn::Meta, Ignored, PathList, Callable -/

theorem meta_np (tok : String → α) : (metaHooks tok).NP :=
  .of_overrides { meta_ := fun _ => Outcome.returns_ok _ }

theorem ignored_np (v : α) : (ignoredHooks v).NP :=
  .of_overrides { meta_ := fun _ => Outcome.returns_ok _ }

theorem pathListFromList_returns {β : Type} (f : Path → β) :
    (items : List NestedMeta) → (pathListFromList f items).Returns
  | [] => Outcome.returns_ok _
  | .item (.path _) :: rest => (pathListFromList_returns f rest).map _
  | .item (.list _ _ _ _ _ _) :: _ => Outcome.returns_err _
  | .item (.nameValue _ _ _ _) :: _ => Outcome.returns_err _
  | .lit _ :: _ => Outcome.returns_err _

theorem pathList_np (tok : String → α) (injL : List α → α) : (pathListHooks tok injL).NP :=
  .of_overrides { list := fun items => (pathListFromList_returns _ items).map _ }

theorem callableFromExpr_returns (tok : String → α) : (e : Expr) → (callableFromExpr tok e).Returns
  | .group g _ => callableFromExpr_returns tok g
  | .other k t s => by
      unfold callableFromExpr
      -- `split` offers all five arms of the definition: a group, the three accepted forms, the rest
      split
      case h_1 heq => cases heq
      case h_5 => exact Outcome.returns_err _
      all_goals exact Outcome.returns_ok _
  | .path _ _ => Outcome.returns_ok _
  | .qpath _ _ _ => Outcome.returns_ok _
  | .lit _ => Outcome.returns_err _
  | .array _ _ _ => Outcome.returns_err _

theorem callable_np (tok : String → α) : (callableHooks tok).NP :=
  .of_overrides { expr := callableFromExpr_returns tok }

/-! ### the C15 probe -/

theorem probe_ret_returns (failing : Nat) (tag : String) : (Probe.ret failing tag).Returns := by
  unfold Probe.ret
  split
  · exact Outcome.returns_ok _
  · exact Outcome.returns_err _
  · exact Outcome.returns_err _

theorem probe_np (mask : Nat) (failing : Nat) : (Probe.hooks mask failing).NP :=
  .of_overrides {
    word := .ite_some (probe_ret_returns _ _)
    list := .ite_some fun _ => probe_ret_returns _ _
    value := .ite_some fun _ => probe_ret_returns _ _
    expr := .ite_some fun _ => probe_ret_returns _ _
    char := .ite_some fun _ => probe_ret_returns _ _
    string := .ite_some fun _ => probe_ret_returns _ _
    bool := .ite_some fun _ => probe_ret_returns _ _ }

/-! ### the universe -/

theorem empty_np : ({} : Hooks α).NP := .of_overrides {}

/-- **every built-in conversion returns**: by induction over the universe of target types, given
    that the derived receivers of the environment do -/
theorem hooksOf_np (o : Oracle) (recvHooks : String → Hooks Val) (hr : ∀ n, (recvHooks n).NP) :
    (t : Ty) → (hooksOf o recvHooks t).NP := by
  intro t
  induction t with
  | unit => exact unit_np _
  | bool => exact bool_np _
  | char => exact char_np _
  | string => exact string_np _
  | pathBuf => exact string_np _
  | int sp => exact num_np sp _
  | float _ => exact float_np _ _
  | atomicBool => exact atomicBool_np _
  | flag => exact flag_np _
  | option t ih => exact option_np _ _ _ ih
  | ptr t ih => exact ptr_np _ _ ih
  | result t ih => exact result_np _ _ _ ih
  | resultMeta t ih => exact resultMeta_np _ _ _ ih
  | override t ih => exact override_np _ _ _ ih
  | spanned t ih => exact spanned_np _ _ ih
  | withOrig t ih => exact withOriginal_np _ _ ih
  | probe mask failing => exact probe_np mask failing
  | synExpr => exact expr_np _ _
  | synPath => exact path_np _ _
  | synIdent => exact ident_np _ _
  | identString => exact identString_np _ _
  | synExprTy v => exact synExpr_np v _ _
  | synParse _ => exact synParse_np _ _
  | wherePreds => exact wherePreds_np _ _
  | renameRule => exact renameRule_np _ _
  | punctuated _ => exact punctuated_np _ _
  | lit => exact lit_np _
  | litKind k => exact litKind_np k _
  | vecLit k => exact vecLit_np k _ _ _
  | numArray sp => exact numArray_np sp _ _ _
  | synMeta => exact meta_np _
  | ignored => exact ignored_np _
  | pathList => exact pathList_np _ _
  | callable => exact callable_np _
  | map key _ t ih => exact map_np key _ _ ih
  | vec _ => exact empty_np
  | recv n => exact hr n

/-- every built-in `from_meta` yields `Ok` or `Err`, whatever the item -/
theorem builtin_returns (o : Oracle) (recvHooks : String → Hooks Val) (hr : ∀ n, (recvHooks n).NP)
    (t : Ty) (m : Meta) : ((hooksOf o recvHooks t).fromMeta m).Returns :=
  (hooksOf_np o recvHooks hr t).fromMeta m

theorem builtin_nested_returns (o : Oracle) (recvHooks : String → Hooks Val) (hr : ∀ n, (recvHooks n).NP)
    (t : Ty) (n : NestedMeta) : ((hooksOf o recvHooks t).fromNestedMeta n).Returns :=
  (hooksOf_np o recvHooks hr t).fromNestedMeta n

end C07
