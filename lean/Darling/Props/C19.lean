import Darling.Usage
import Darling.Spec.C19
import Darling.Lemmas.List
/-
  C19 — Generic-parameter usage analysis is exact and drives exactly the needed bounds.
  For every type (any depth, every constructor of the mirror), every query set, both purposes.
-/
open Usage Spec.C19

namespace C19

theorem mem_identHits {S : List String} {i p : String} : p ∈ identHits S i ↔ p ∈ S ∧ unraw p = unraw i := by
  simp only [identHits, List.mem_filter, beq_iff_eq]

theorem mem_ltHits {L : List String} {l p : String} : p ∈ ltHits L l ↔ p ∈ L ∧ p = l := by
  simp only [ltHits, List.mem_filter, beq_iff_eq]

/-- some name in `l` is the same identifier as `p` (raw and plain spellings identified) -/
def Hit (p : String) (l : List String) : Prop := ∃ i, i ∈ l ∧ unraw p = unraw i

theorem hit_nil (p : String) : Hit p [] ↔ False :=
  ⟨fun ⟨_, h, _⟩ => (List.not_mem_nil h).elim, False.elim⟩

theorem hit_singleton (p i : String) : Hit p [i] ↔ unraw p = unraw i :=
  ⟨fun ⟨_, h, e⟩ => List.mem_singleton.mp h ▸ e, fun e => ⟨i, List.mem_singleton.mpr rfl, e⟩⟩

theorem hit_append (p : String) (a b : List String) : Hit p (a ++ b) ↔ Hit p a ∨ Hit p b := by
  simp only [Hit, List.mem_append, or_and_right, exists_or]

theorem append_eq_flatMap {α β : Type} {f : α → List β} {a b : List β} {x y : List α}
    (ha : a = x.flatMap f) (hb : b = y.flatMap f) : a ++ b = (x ++ y).flatMap f := by
  rw [ha, hb, List.flatMap_append]

theorem ite_eq_flatMap {α β : Type} {f : α → List β} {c : Bool} {a : List β} {x : List α}
    (h : a = x.flatMap f) : (if c then a else []) = (if c then x else []).flatMap f := by
  cases c
  · rfl
  · exact h

/-! ### type parameters

  The analysis and `occ` recurse in the same way and differ at the leaves only: where `occ` lists
  a name, the analysis lists the queried names it denotes.  So the answer *is* the occurrence
  list with `identHits S` put in for every name; the cases below hold by unfolding both sides. -/

theorem mem_flatMap_identHits {S l : List String} {p : String} :
    p ∈ l.flatMap (identHits S) ↔ p ∈ S ∧ Hit p l := by
  simp only [List.mem_flatMap, mem_identHits, Hit]
  exact ⟨fun ⟨i, hi, hs, e⟩ => ⟨hs, i, hi, e⟩, fun ⟨hs, i, hi, e⟩ => ⟨i, hi, hs, e⟩⟩

section
variable (d : Bool) (S : List String)
mutual
theorem tyParams_eq : (t : SType) →
    tyParams d S t = (occ d t).flatMap (identHits S)
  | .path q pa => append_eq_flatMap (pathParams_eq pa) (ite_eq_flatMap (optTyParams_eq q))
  | .ref _ e => tyParams_eq e
  | .ptr e => tyParams_eq e
  | .slice e => tyParams_eq e
  | .array e => tyParams_eq e
  | .tuple es => tysParams_eq es
  | .bareFn ins out => append_eq_flatMap (tysParams_eq ins) (optTyParams_eq out)
  | .paren e => tyParams_eq e
  | .group e => tyParams_eq e
  | .traitObject bs => boundsParams_eq bs
  | .implTrait bs => boundsParams_eq bs
  | .opaque => rfl
theorem optTyParams_eq : (t : Option SType) →
    optTyParams d S t = (occOpt d t).flatMap (identHits S)
  | none => rfl
  | some t => tyParams_eq t
theorem tysParams_eq : (ts : List SType) →
    tysParams d S ts = (occList d ts).flatMap (identHits S)
  | [] => rfl
  | t :: ts => append_eq_flatMap (tyParams_eq t) (tysParams_eq ts)
theorem pathParams_eq : (pa : SPath) →
    pathParams d S pa = (occPath d pa).flatMap (identHits S)
  | .mk _ [] => rfl
  | .mk true (.mk i a :: rest) => segsParams_eq (.mk i a :: rest)
  | .mk false (.mk i a :: rest) =>
      congrArg (identHits S i ++ ·) (segsParams_eq (.mk i a :: rest))
theorem segsParams_eq : (ss : List SSeg) →
    segsParams d S ss = (occSegs d ss).flatMap (identHits S)
  | [] => rfl
  | .mk _ args :: rest => append_eq_flatMap (argsParams_eq args) (segsParams_eq rest)
theorem argsParams_eq : (a : SArgs) →
    argsParams d S a = (occArgs d a).flatMap (identHits S)
  | .none => rfl
  | .angle as => gargsParams_eq as
  | .paren ins out => append_eq_flatMap (tysParams_eq ins) (optTyParams_eq out)
theorem gargsParams_eq : (as : List SGArg) →
    gargsParams d S as = (occGArgs d as).flatMap (identHits S)
  | [] => rfl
  | a :: as => append_eq_flatMap (gargParams_eq a) (gargsParams_eq as)
theorem gargParams_eq : (a : SGArg) →
    gargParams d S a = (occGArg d a).flatMap (identHits S)
  | .ty t => tyParams_eq t
  | .assocTy t => tyParams_eq t
  | .constraint bs => boundsParams_eq bs
  | .lifetime _ => rfl
  | .other => rfl
theorem boundsParams_eq : (bs : List SBound) →
    boundsParams d S bs = (occBounds d bs).flatMap (identHits S)
  | [] => rfl
  | b :: bs => append_eq_flatMap (boundParams_eq b) (boundsParams_eq bs)
theorem boundParams_eq : (b : SBound) →
    boundParams d S b = (occBound d b).flatMap (identHits S)
  | .trait _ pa => pathParams_eq pa
  | .lifetime _ => rfl
end
end

theorem opt_exact (d : Bool) (S : List String) (p : String) : (t : Option SType) →
    (p ∈ optTyParams d S t ↔ p ∈ S ∧ Hit p (occOpt d t)) :=
  fun t => by rw [optTyParams_eq, mem_flatMap_identHits]
theorem tys_exact (d : Bool) (S : List String) (p : String) : (ts : List SType) →
    (p ∈ tysParams d S ts ↔ p ∈ S ∧ Hit p (occList d ts)) :=
  fun ts => by rw [tysParams_eq, mem_flatMap_identHits]
theorem path_exact (d : Bool) (S : List String) (p : String) : (pa : SPath) →
    (p ∈ pathParams d S pa ↔ p ∈ S ∧ Hit p (occPath d pa)) :=
  fun pa => by rw [pathParams_eq, mem_flatMap_identHits]
theorem segs_exact (d : Bool) (S : List String) (p : String) : (ss : List SSeg) →
    (p ∈ segsParams d S ss ↔ p ∈ S ∧ Hit p (occSegs d ss)) :=
  fun ss => by rw [segsParams_eq, mem_flatMap_identHits]
theorem args_exact (d : Bool) (S : List String) (p : String) : (a : SArgs) →
    (p ∈ argsParams d S a ↔ p ∈ S ∧ Hit p (occArgs d a)) :=
  fun a => by rw [argsParams_eq, mem_flatMap_identHits]
theorem gargs_exact (d : Bool) (S : List String) (p : String) : (as : List SGArg) →
    (p ∈ gargsParams d S as ↔ p ∈ S ∧ Hit p (occGArgs d as)) :=
  fun as => by rw [gargsParams_eq, mem_flatMap_identHits]
theorem garg_exact (d : Bool) (S : List String) (p : String) : (a : SGArg) →
    (p ∈ gargParams d S a ↔ p ∈ S ∧ Hit p (occGArg d a)) :=
  fun a => by rw [gargParams_eq, mem_flatMap_identHits]
theorem bounds_exact (d : Bool) (S : List String) (p : String) : (bs : List SBound) →
    (p ∈ boundsParams d S bs ↔ p ∈ S ∧ Hit p (occBounds d bs)) :=
  fun bs => by rw [boundsParams_eq, mem_flatMap_identHits]
theorem bound_exact (d : Bool) (S : List String) (p : String) : (b : SBound) →
    (p ∈ boundParams d S b ↔ p ∈ S ∧ Hit p (occBound d b)) :=
  fun b => by rw [boundParams_eq, mem_flatMap_identHits]

/-- **exactness** (the headline): the analysis returns exactly those members of the queried set
    that occur where they denote the parameter (`r#T` and `T` denote the same parameter) -/
theorem uses_exact (declare : Bool) (S : List String) (t : SType) (p : String) :
    p ∈ tyParams declare S t ↔ p ∈ S ∧ ∃ i ∈ occ declare t, unraw p = unraw i := by
  rw [tyParams_eq]; exact mem_flatMap_identHits

/-- a queried name written literally at a use position is reported -/
theorem uses_of_mem_occ (declare : Bool) (S : List String) (t : SType) (p : String)
    (hs : p ∈ S) (h : p ∈ occ declare t) : p ∈ tyParams declare S t :=
  (uses_exact declare S t p).mpr ⟨hs, p, h, rfl⟩

/-- never a name outside the queried set -/
theorem uses_subset (declare : Bool) (S : List String) (t : SType) (p : String)
    (h : p ∈ tyParams declare S t) : p ∈ S := ((uses_exact declare S t p).mp h).1

/-- a qualified self counts only for declaration purposes -/
theorem qself_only_when_declaring (S : List String) (q : SType) (pa : SPath) (p : String) :
    p ∈ tyParams false S (.path (some q) pa) ↔ p ∈ pathParams false S pa := by
  show p ∈ pathParams false S pa ++ [] ↔ _
  rw [List.append_nil]

/-- a global path's leading segment is not looked up (here: a leading segment without arguments;
    `pathParams_eq` covers every path) -/
theorem global_leading_segment_ignored (d : Bool) (S : List String) (ident : String) (rest : List SSeg) :
    pathParams d S (.mk true (.mk ident .none :: rest)) = segsParams d S rest :=
  rfl

/-- in a path of two segments without arguments only the leading one is looked up (`pathParams_eq`
    covers every path: later segments contribute their arguments only) -/
theorem path_tail_ignored (d : Bool) (S : List String) (a b : String) :
    pathParams d S (.mk false [.mk a .none, .mk b .none]) = identHits S a :=
  List.append_nil _

/-! ### lifetimes -/

theorem mem_flatMap_ltHits {L l : List String} {p : String} :
    p ∈ l.flatMap (ltHits L) ↔ p ∈ L ∧ p ∈ l := by
  simp only [List.mem_flatMap, mem_ltHits]
  exact ⟨fun ⟨_, hi, hl, e⟩ => ⟨hl, e ▸ hi⟩, fun ⟨hl, hi⟩ => ⟨p, hi, hl, rfl⟩⟩

theorem ltsHits_eq (L : List String) : (ls : List String) → ltsHits L ls = ls.flatMap (ltHits L)
  | [] => rfl
  | l :: ls => congrArg (ltHits L l ++ ·) (ltsHits_eq L ls)

theorem binderLts_eq (L : List String) : (b : List (String × List String)) →
    binderLts L b = (occBinder b).flatMap (ltHits L)
  | [] => rfl
  | (l, bs) :: rest =>
      append_eq_flatMap (x := l :: bs) (congrArg (ltHits L l ++ ·) (ltsHits_eq L bs))
        (binderLts_eq L rest)

theorem mem_ltsHits {L : List String} {p : String} {ls : List String} :
    p ∈ ltsHits L ls ↔ p ∈ L ∧ p ∈ ls := by
  rw [ltsHits_eq, mem_flatMap_ltHits]

theorem mem_binderLts {L : List String} {p : String} {b : List (String × List String)} :
    p ∈ binderLts L b ↔ p ∈ L ∧ p ∈ occBinder b := by
  rw [binderLts_eq, mem_flatMap_ltHits]

section
variable (d : Bool) (L : List String)
mutual
theorem tyLts_eq : (t : SType) →
    tyLts d L t = (ltOcc d t).flatMap (ltHits L)
  | .path q pa => append_eq_flatMap (pathLts_eq pa) (ite_eq_flatMap (optTyLts_eq q))
  | .ref none e => tyLts_eq e
  | .ref (some l) e => congrArg (ltHits L l ++ ·) (tyLts_eq e)
  | .ptr e => tyLts_eq e
  | .slice e => tyLts_eq e
  | .array e => tyLts_eq e
  | .tuple es => tysLts_eq es
  | .bareFn ins out => append_eq_flatMap (tysLts_eq ins) (optTyLts_eq out)
  | .paren e => tyLts_eq e
  | .group e => tyLts_eq e
  | .traitObject bs => boundsLts_eq bs
  | .implTrait bs => boundsLts_eq bs
  | .opaque => rfl
theorem optTyLts_eq : (t : Option SType) →
    optTyLts d L t = (ltOpt d t).flatMap (ltHits L)
  | none => rfl
  | some t => tyLts_eq t
theorem tysLts_eq : (ts : List SType) →
    tysLts d L ts = (ltList d ts).flatMap (ltHits L)
  | [] => rfl
  | t :: ts => append_eq_flatMap (tyLts_eq t) (tysLts_eq ts)
theorem pathLts_eq : (pa : SPath) →
    pathLts d L pa = (ltPath d pa).flatMap (ltHits L)
  | .mk _ segs => segsLts_eq segs
theorem segsLts_eq : (ss : List SSeg) →
    segsLts d L ss = (ltSegs d ss).flatMap (ltHits L)
  | [] => rfl
  | .mk _ args :: rest => append_eq_flatMap (argsLts_eq args) (segsLts_eq rest)
theorem argsLts_eq : (a : SArgs) →
    argsLts d L a = (ltArgs d a).flatMap (ltHits L)
  | .none => rfl
  | .angle as => gargsLts_eq as
  | .paren ins out => append_eq_flatMap (tysLts_eq ins) (optTyLts_eq out)
theorem gargsLts_eq : (as : List SGArg) →
    gargsLts d L as = (ltGArgs d as).flatMap (ltHits L)
  | [] => rfl
  | a :: as => append_eq_flatMap (gargLts_eq a) (gargsLts_eq as)
theorem gargLts_eq : (a : SGArg) →
    gargLts d L a = (ltGArg d a).flatMap (ltHits L)
  | .ty t => tyLts_eq t
  | .assocTy t => tyLts_eq t
  | .constraint bs => boundsLts_eq bs
  | .lifetime l => (List.append_nil (ltHits L l)).symm
  | .other => rfl
theorem boundsLts_eq : (bs : List SBound) →
    boundsLts d L bs = (ltBounds d bs).flatMap (ltHits L)
  | [] => rfl
  | b :: bs => append_eq_flatMap (boundLts_eq b) (boundsLts_eq bs)
theorem boundLts_eq : (b : SBound) →
    boundLts d L b = (ltBound d b).flatMap (ltHits L)
  | .trait binder pa => append_eq_flatMap (pathLts_eq pa) (binderLts_eq L binder)
  | .lifetime l => (List.append_nil (ltHits L l)).symm
end
end

theorem lt_opt_exact (d : Bool) (L : List String) (p : String) : (t : Option SType) →
    (p ∈ optTyLts d L t ↔ p ∈ L ∧ p ∈ ltOpt d t) :=
  fun t => by rw [optTyLts_eq, mem_flatMap_ltHits]
theorem lt_tys_exact (d : Bool) (L : List String) (p : String) : (ts : List SType) →
    (p ∈ tysLts d L ts ↔ p ∈ L ∧ p ∈ ltList d ts) :=
  fun ts => by rw [tysLts_eq, mem_flatMap_ltHits]
theorem lt_path_exact (d : Bool) (L : List String) (p : String) : (pa : SPath) →
    (p ∈ pathLts d L pa ↔ p ∈ L ∧ p ∈ ltPath d pa) :=
  fun pa => by rw [pathLts_eq, mem_flatMap_ltHits]
theorem lt_segs_exact (d : Bool) (L : List String) (p : String) : (ss : List SSeg) →
    (p ∈ segsLts d L ss ↔ p ∈ L ∧ p ∈ ltSegs d ss) :=
  fun ss => by rw [segsLts_eq, mem_flatMap_ltHits]
theorem lt_args_exact (d : Bool) (L : List String) (p : String) : (a : SArgs) →
    (p ∈ argsLts d L a ↔ p ∈ L ∧ p ∈ ltArgs d a) :=
  fun a => by rw [argsLts_eq, mem_flatMap_ltHits]
theorem lt_gargs_exact (d : Bool) (L : List String) (p : String) : (as : List SGArg) →
    (p ∈ gargsLts d L as ↔ p ∈ L ∧ p ∈ ltGArgs d as) :=
  fun as => by rw [gargsLts_eq, mem_flatMap_ltHits]
theorem lt_garg_exact (d : Bool) (L : List String) (p : String) : (a : SGArg) →
    (p ∈ gargLts d L a ↔ p ∈ L ∧ p ∈ ltGArg d a) :=
  fun a => by rw [gargLts_eq, mem_flatMap_ltHits]
theorem lt_bounds_exact (d : Bool) (L : List String) (p : String) : (bs : List SBound) →
    (p ∈ boundsLts d L bs ↔ p ∈ L ∧ p ∈ ltBounds d bs) :=
  fun bs => by rw [boundsLts_eq, mem_flatMap_ltHits]
theorem lt_bound_exact (d : Bool) (L : List String) (p : String) : (b : SBound) →
    (p ∈ boundLts d L b ↔ p ∈ L ∧ p ∈ ltBound d b) :=
  fun b => by rw [boundLts_eq, mem_flatMap_ltHits]

theorem lifetimes_exact (declare : Bool) (L : List String) (t : SType) (p : String) :
    p ∈ tyLts declare L t ↔ p ∈ L ∧ p ∈ ltOcc declare t := by
  rw [tyLts_eq, mem_flatMap_ltHits]

/-! ### bounds: exactly the declared parameters used by fields that are actually parsed -/

theorem mem_tysParams {d : Bool} {S : List String} {p : String} {ts : List SType} :
    p ∈ tysParams d S ts ↔ ∃ t, t ∈ ts ∧ p ∈ tyParams d S t :=
  List.mem_of_cons_append_rec rfl (fun _ _ => rfl) p ts

theorem mem_usedInFields (declared : List String) (fs : List BField) (p : String) :
    p ∈ usedInFields declared fs ↔ ∃ f, (f ∈ fs ∧ f.skip = false) ∧ p ∈ tyParams false declared f.ty := by
  simp only [usedInFields, mem_tysParams, List.mem_map, List.mem_filter, Bool.not_eq_true']
  exact ⟨fun ⟨_, ⟨f, hf, e⟩, hp⟩ => ⟨f, hf, e ▸ hp⟩, fun ⟨f, hf, hp⟩ => ⟨f.ty, ⟨f, hf, rfl⟩, hp⟩⟩

theorem bounded_exact (declared : List String) (fields : List BField) (p : String) :
    p ∈ boundedParams declared (usedInFields declared fields) ↔
      p ∈ declared ∧ ∃ f ∈ fields, f.skip = false ∧ ∃ i ∈ occ false f.ty, unraw p = unraw i := by
  simp only [boundedParams, List.mem_filter, List.contains_iff_mem, mem_usedInFields, uses_exact]
  exact ⟨fun ⟨hd, f, ⟨hf, hs⟩, _, ho⟩ => ⟨hd, f, hf, hs, ho⟩,
    fun ⟨hd, f, hf, hs, ho⟩ => ⟨hd, f, ⟨hf, hs⟩, hd, ho⟩⟩

/-- a skipped field contributes no bound -/
theorem skipped_field_contributes_nothing (declared : List String) (f : BField) (fs : List BField)
    (h : f.skip = true) : usedInFields declared (f :: fs) = usedInFields declared fs := by
  simp [usedInFields, List.filter, h]

/-- the emitted parameter list keeps the declaration order and never invents a parameter -/
theorem bounded_sublist (declared used : List String) : (boundedParams declared used).Sublist declared :=
  List.filter_sublist

/-! ### non-vacuity -/
def tyVecT : SType := .path none (.mk false [.mk "Vec" (.angle [.ty (.path none (.mk false [.mk "T" .none]))])])
def tyAssoc : SType := .path (some (.path none (.mk false [.mk "U" .none])))
  (.mk false [.mk "Iterator" .none, .mk "Item" .none])
example : tyParams false ["T", "U"] tyVecT = ["T"] := by decide
example : tyParams false ["T", "U"] tyAssoc = [] := by decide
example : tyParams true ["T", "U"] tyAssoc = ["U"] := by decide
example : tyParams false ["T"] (.path none (.mk true [.mk "T" .none])) = [] := by decide
example : tyLts false ["'a", "'b"] (.ref (some "'a") tyVecT) = ["'a"] := by decide
/-- raw and plain spellings denote the same parameter: `Vec<r#T>` queried for `T`, `Vec<T>` for `r#T` -/
def tyVecRawT : SType := .path none (.mk false [.mk "Vec" (.angle [.ty (.path none (.mk false [.mk "r#T" .none]))])])
example : tyParams false ["T", "U"] tyVecRawT = ["T"] := by decide
example : tyParams false ["r#T", "U"] tyVecT = ["r#T"] := by decide
example : boundedParams ["T", "U"] (usedInFields ["T", "U"] [⟨tyVecRawT, false⟩, ⟨tyVecT, true⟩]) = ["T"] := by decide

end C19
