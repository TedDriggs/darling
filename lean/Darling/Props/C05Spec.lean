import Darling.Props.C05
import Darling.Lemmas.List
/-
  C05, positional form — a specification of the accumulator written from the property text, and
  the end-to-end theorems `model = spec` for every history (any length, any number of
  checkpoints, any starting content).

  Vocabulary (none of it calls `Accum.run`, `Accum.finishWith`, `Accum.finishOp`, `Accum.dropOut`
  or `Err.multiple`):
    * `put op`, `putAll ops`     the errors one operation / a list of operations puts into the
                                 accumulator ("pushed, handled or extended into it"), in order
    * `Records op`, `Untouched`  "an error was pushed, handled or extended" as a predicate
    * `answer op`                what a borrowing operation hands back when it does not end the
                                 history: `handle` hands back the value exactly when given `Ok`,
                                 a passing `checkpoint` hands back a fresh accumulator
    * `Blocked errs ops i`       position `i` is a `checkpoint` reached with something recorded
    * `blockedAt errs ops`       the first such position (`blockedAt_eq_some_iff`,
                                 `blockedAt_eq_none_iff` say that this is what it computes)
    * `members b`                what iterating an error yields (`IntoIterator for Error`)
    * `endSpec rec e`            what the end of the history must yield when `rec` was recorded
    * `traceSpec errs ops e`     the whole trace, by position: the answers up to the first blocked
                                 checkpoint and an error whose members are everything recorded
                                 before it; or, if there is none, all answers and `endSpec`

  `run_eq_collapse_spec` is exact and unconditional: `run = traceSpec` up to the one place where
  the library departs from the text — a bundle of exactly one error is that error itself
  (`collapse`).  `run_asBundle_eq_spec_iff`: `run`, read through `members`, equals `traceSpec` if
  and only if the history is `Harmless`: the one list that gets bundled is not a single error that
  is itself a bundle.  `discrepancy_*` is the concrete history on which text and library differ.

  The induction over the history is `run_eq_collapse_spec` (and `run_append_of_unblocked`, for a
  prefix); its step asks only whether the head is a blocked checkpoint
  (`(isCp op && !errs.isEmpty)`, see `blockedAt_cons`).  The clauses are then read off `run_eq`:
  the answers to the first `answered errs ops` operations, followed by
  `collapse (lastSpec errs ops e)`.
-/
open Accum

namespace C05

/-! ## 1. vocabulary taken from the text -/

/-- the errors one operation puts into the accumulator -/
def put : AOp → List Err
  | .push e => [e]
  | .handleErr e => [e]
  | .handleInErr e => [e]
  | .extend es => es
  | .handleOk _ => []
  | .handleInOk _ => []
  | .checkpoint => []

/-- everything a list of operations puts into the accumulator, in the order of the operations -/
def putAll (ops : List AOp) : List Err := (ops.map put).flatten

/-- "an error was pushed, handled or extended into it" -/
def Records : AOp → Prop
  | .push _ => True
  | .handleErr _ => True
  | .handleInErr _ => True
  | .extend es => es ≠ []
  | .handleOk _ => False
  | .handleInOk _ => False
  | .checkpoint => False

/-- "no error was ever pushed, handled or extended into it" -/
def Untouched (ops : List AOp) : Prop := ∀ op ∈ ops, ¬ Records op

/-- what an operation hands back when it does not end the history -/
def answer : AOp → AOut
  | .push _ => .unit
  | .extend _ => .unit
  | .handleOk v => .some v
  | .handleInOk v => .some v
  | .handleErr _ => .none
  | .handleInErr _ => .none
  | .checkpoint => .fresh

def isCp : AOp → Bool
  | .checkpoint => true
  | _ => false

/-- position `i` holds a `checkpoint`, and something was recorded before it (counting what the
    accumulator held at the start) -/
def Blocked (errs : List Err) (ops : List AOp) (i : Nat) : Prop :=
  ops[i]? = some .checkpoint ∧ errs ++ putAll (ops.take i) ≠ []

def blockedB (errs : List Err) (ops : List AOp) (i : Nat) : Bool :=
  (match ops[i]? with
   | some op => isCp op
   | none => false) && !(errs ++ putAll (ops.take i)).isEmpty

/-- the first blocked position -/
def blockedAt (errs : List Err) (ops : List AOp) : Option Nat :=
  (List.range ops.length).find? (blockedB errs ops)

/-- what iterating an error yields (`impl IntoIterator for Error`): the children of a bundle,
    the error itself otherwise -/
def members : Err → List Err
  | .multi cs _ _ => cs
  | e => [e]

theorem members_eq_intoIter (e : Err) : members e = e.intoIter := by
  cases e <;> rfl

/-- the drop bomb's message for `n` lost errors (the wording is the library's; the text asks that
    there be a panic in both cases and that the count be stated when it is not zero) -/
def bombMsg (n : Nat) : String :=
  if n = 0 then "darling::error::Accumulator dropped without being finished"
  else "darling::error::Accumulator dropped without being finished. " ++ toString n ++ " errors were lost."

/-- what the end of a history must yield, given everything that was recorded -/
def endSpec (rec : List Err) : AEnd → AOut
  | .finish => if rec.isEmpty then .okUnit else .err (.multi rec [] none)
  | .finishWith v => if rec.isEmpty then .ok v else .err (.multi rec [] none)
  | .intoInner => .errs rec
  | .drop false => .panic (bombMsg rec.length)
  | .drop true => .quiet

theorem endSpec_finish (rec : List Err) :
    endSpec rec .finish = if rec.isEmpty then .okUnit else .err (.multi rec [] none) := rfl
theorem endSpec_finishWith (rec : List Err) (v : Nat) :
    endSpec rec (.finishWith v) = if rec.isEmpty then .ok v else .err (.multi rec [] none) := rfl

/-- the whole trace, by position -/
def traceSpec (errs : List Err) (ops : List AOp) (e : AEnd) : List AOut :=
  match blockedAt errs ops with
  | none => ops.map answer ++ [endSpec (errs ++ putAll ops) e]
  | some i => (ops.take i).map answer ++ [.err (.multi (errs ++ putAll (ops.take i)) [] none)]

/-- read an error result through its members -/
def asBundle : AOut → AOut
  | .err b => .err (.multi (members b) [] none)
  | o => o

/-- the library's rule for a bundle of exactly one error: it is that error -/
def collapse : AOut → AOut
  | .err (.multi [x] [] none) => .err x
  | o => o

/-- a list consisting of one error that is itself a bundle -/
def SoleBundle (l : List Err) : Prop := ∃ cs ls s, l = [.multi cs ls s]

/-- no error result demanded by the specification is the bundle of a sole bundle -/
def Harmless (errs : List Err) (ops : List AOp) (e : AEnd) : Prop :=
  ∀ r, AOut.err (.multi r [] none) ∈ traceSpec errs ops e → ¬ SoleBundle r

/-- a history whose end is `finish` or `finish_with` -/
def Finishes (e : AEnd) : Prop := e = .finish ∨ ∃ v, e = .finishWith v

/-! ## 2. the vocabulary means what it says -/

@[simp] theorem putAll_nil : putAll [] = [] := rfl
@[simp] theorem putAll_cons (op : AOp) (ops : List AOp) : putAll (op :: ops) = put op ++ putAll ops := by
  simp only [putAll, List.map_cons, List.flatten_cons]
theorem putAll_append (a b : List AOp) : putAll (a ++ b) = putAll a ++ putAll b := by
  simp only [putAll, List.map_append, List.flatten_append]

theorem put_eq_nil_iff (op : AOp) : put op = [] ↔ ¬ Records op := by
  cases op <;> simp [put, Records]

theorem putAll_eq_nil_iff (ops : List AOp) : putAll ops = [] ↔ Untouched ops := by
  induction ops with
  | nil => exact ⟨fun _ _ h => (nomatch h), fun _ => rfl⟩
  | cons op ops ih =>
      simp only [putAll_cons, List.append_eq_nil_iff, ih, put_eq_nil_iff, Untouched,
        List.mem_cons, forall_eq_or_imp]

theorem putAll_eq_recorded (ops : List AOp) : putAll ops = recorded ops := by
  induction ops with
  | nil => rfl
  | cons op ops ih =>
      rw [putAll_cons, recorded_cons, ih]
      cases op <;> rfl

theorem putAll_take_prefix (ops : List AOp) (i : Nat) :
    putAll ops = putAll (ops.take i) ++ putAll (ops.drop i) := by
  rw [← putAll_append, List.take_append_drop]

theorem isCp_eq_true_iff (op : AOp) : isCp op = true ↔ op = .checkpoint := by
  constructor
  · intro h
    cases op with
    | checkpoint => rfl
    | _ => cases h
  · rintro rfl; rfl

theorem blockedB_iff (errs ops i) : blockedB errs ops i = true ↔ Blocked errs ops i := by
  unfold blockedB Blocked
  rw [Bool.and_eq_true, Bool.not_eq_true', ← Bool.not_eq_true, List.isEmpty_iff]
  refine and_congr ?_ Iff.rfl
  cases ops[i]? with
  | none => exact ⟨nofun, nofun⟩
  | some op => exact (isCp_eq_true_iff op).trans ⟨fun h => h ▸ rfl, fun h => Option.some.inj h⟩

theorem not_blockedB_iff (errs ops i) : (!blockedB errs ops i) = true ↔ ¬ Blocked errs ops i := by
  rw [Bool.not_eq_true', ← Bool.not_eq_true, blockedB_iff]

theorem lt_length_of_blocked {errs ops i} (h : Blocked errs ops i) : i < ops.length :=
  (List.getElem?_eq_some_iff.1 h.1).1

theorem blockedAt_eq_some_iff (errs ops i) :
    blockedAt errs ops = some i ↔ Blocked errs ops i ∧ ∀ j, j < i → ¬ Blocked errs ops j := by
  unfold blockedAt
  rw [List.find?_range_eq_some, blockedB_iff, List.mem_range]
  constructor
  · rintro ⟨h1, _, h3⟩
    exact ⟨h1, fun j hj => (not_blockedB_iff _ _ _).1 (h3 j hj)⟩
  · rintro ⟨h1, h3⟩
    exact ⟨h1, lt_length_of_blocked h1, fun j hj => (not_blockedB_iff _ _ _).2 (h3 j hj)⟩

theorem blockedAt_eq_none_iff (errs ops) :
    blockedAt errs ops = none ↔ ∀ i, ¬ Blocked errs ops i := by
  unfold blockedAt
  rw [List.find?_range_eq_none]
  constructor
  · intro h i hb
    exact (not_blockedB_iff _ _ _).1 (h i (lt_length_of_blocked hb)) hb
  · intro h i _
    exact (not_blockedB_iff _ _ _).2 (h i)

theorem blocked_of_blockedAt {errs ops i} (h : blockedAt errs ops = some i) : Blocked errs ops i :=
  ((blockedAt_eq_some_iff errs ops i).1 h).1

theorem answer_ne_err (op : AOp) (b : Err) : answer op ≠ .err b := by
  intro h; cases op <;> cases h

theorem answer_ne_panic (op : AOp) (m : String) : answer op ≠ .panic m := by
  intro h; cases op <;> cases h

theorem answer_eq_some_iff (op : AOp) (v : Nat) :
    answer op = .some v ↔ op = .handleOk v ∨ op = .handleInOk v := by
  constructor
  · intro h
    cases op with
    | handleOk w => cases h; exact Or.inl rfl
    | handleInOk w => cases h; exact Or.inr rfl
    | _ => cases h
  · rintro (rfl | rfl) <;> rfl

theorem endSpec_eq_err_iff (rec : List Err) (e : AEnd) (b : Err) :
    endSpec rec e = .err b ↔ Finishes e ∧ rec ≠ [] ∧ b = .multi rec [] none := by
  constructor
  · intro h
    cases e with
    | finish =>
        cases rec with
        | nil => cases h
        | cons x xs => cases h; exact ⟨Or.inl rfl, List.cons_ne_nil x xs, rfl⟩
    | finishWith v =>
        cases rec with
        | nil => cases h
        | cons x xs => cases h; exact ⟨Or.inr ⟨v, rfl⟩, List.cons_ne_nil x xs, rfl⟩
    | intoInner => cases h
    | drop u => cases u <;> cases h
  · rintro ⟨he, hne, rfl⟩
    cases rec with
    | nil => exact absurd rfl hne
    | cons x xs => rcases he with rfl | ⟨v, rfl⟩ <;> rfl

/-! ## 3. how the specification unfolds along a history -/

theorem blockedAt_nil (errs : List Err) : blockedAt errs [] = none := rfl

theorem blockedB_zero (errs op ops) : blockedB errs (op :: ops) 0 = (isCp op && !errs.isEmpty) := by
  unfold blockedB
  rw [List.take_zero, putAll_nil, List.append_nil]
  rfl

theorem blockedB_succ (errs op ops i) :
    blockedB errs (op :: ops) (i + 1) = blockedB (errs ++ put op) ops i := by
  unfold blockedB
  rw [List.take_succ_cons, putAll_cons, List.append_assoc]
  rfl

theorem blockedAt_cons (errs : List Err) (op : AOp) (ops : List AOp) :
    blockedAt errs (op :: ops) =
      if (isCp op && !errs.isEmpty) = true then some 0
      else (blockedAt (errs ++ put op) ops).map (· + 1) := by
  unfold blockedAt
  rw [List.length_cons, List.range_succ_eq_map, List.find?_cons, List.find?_map, blockedB_zero,
    show (blockedB errs (op :: ops) ∘ Nat.succ) = blockedB (errs ++ put op) ops from
      funext (blockedB_succ errs op ops)]
  cases (isCp op && !errs.isEmpty) <;> rfl

/-- the last output the specification demands -/
def lastSpec (errs : List Err) (ops : List AOp) (e : AEnd) : AOut :=
  match blockedAt errs ops with
  | none => endSpec (errs ++ putAll ops) e
  | some i => .err (.multi (errs ++ putAll (ops.take i)) [] none)

/-- how many operations get an answer: all of them, or those before the first blocked checkpoint -/
def answered (errs : List Err) (ops : List AOp) : Nat :=
  match blockedAt errs ops with
  | none => ops.length
  | some i => i

theorem traceSpec_eq (errs ops e) :
    traceSpec errs ops e = (ops.take (answered errs ops)).map answer ++ [lastSpec errs ops e] := by
  unfold traceSpec answered lastSpec
  cases blockedAt errs ops with
  | none => rw [List.take_length]
  | some i => rfl

theorem answered_of_unblocked {errs : List Err} {ops : List AOp} (h : blockedAt errs ops = none) :
    answered errs ops = ops.length := by
  unfold answered
  rw [h]

theorem answered_le (errs ops) : answered errs ops ≤ ops.length := by
  unfold answered
  cases h : blockedAt errs ops with
  | none => exact Nat.le_refl _
  | some i => exact Nat.le_of_lt (lt_length_of_blocked (blocked_of_blockedAt h))

theorem traceSpec_nil (errs : List Err) (e : AEnd) : traceSpec errs [] e = [endSpec errs e] := by
  show [] ++ [endSpec (errs ++ putAll []) e] = _
  rw [putAll_nil, List.append_nil, List.nil_append]

theorem traceSpec_cons_of_unblocked (errs : List Err) (op : AOp) (ops : List AOp) (e : AEnd)
    (hb : (isCp op && !errs.isEmpty) = false) :
    traceSpec errs (op :: ops) e = answer op :: traceSpec (errs ++ put op) ops e := by
  unfold traceSpec
  rw [blockedAt_cons, hb, if_neg Bool.false_ne_true]
  cases blockedAt (errs ++ put op) ops with
  | none => simp only [Option.map_none, putAll_cons, List.append_assoc, List.map_cons, List.cons_append]
  | some i =>
      simp only [Option.map_some, List.take_succ_cons, putAll_cons, List.append_assoc, List.map_cons,
        List.cons_append]

/-- a `checkpoint` on a non-empty accumulator ends the history with everything it holds -/
theorem traceSpec_cons_of_blocked (errs : List Err) (op : AOp) (ops : List AOp) (e : AEnd)
    (hb : (isCp op && !errs.isEmpty) = true) :
    traceSpec errs (op :: ops) e = [.err (.multi errs [] none)] := by
  unfold traceSpec
  rw [blockedAt_cons, hb, if_pos rfl]
  show [] ++ [AOut.err (.multi (errs ++ putAll []) [] none)] = _
  rw [putAll_nil, List.append_nil, List.nil_append]

/-! ## 4. model = specification -/

theorem collapse_answer (op : AOp) : collapse (answer op) = answer op := by
  cases op <;> rfl

/-- what the library makes of a non-empty list of errors (`Error::multiple`): the single error
    itself, or a fresh bundle of the two or more -/
def bundleOf : List Err → Err
  | [x] => x
  | r => .multi r [] none

theorem collapse_err_multi (r : List Err) :
    collapse (.err (.multi r [] none)) = .err (bundleOf r) := by
  cases r with
  | nil => rfl
  | cons x t => cases t <;> rfl

/-- the end of a history, exactly -/
theorem finishOp_eq_collapse_endSpec (errs : List Err) (e : AEnd) :
    finishOp errs e = collapse (endSpec errs e) := by
  cases e with
  | finish =>
      cases errs with
      | nil => rfl
      | cons x r => cases r <;> rfl
  | finishWith v =>
      cases errs with
      | nil => rfl
      | cons x r => cases r <;> rfl
  | intoInner => rfl
  | drop u =>
      cases u with
      | true => rfl
      | false =>
          cases errs with
          | nil => rfl
          | cons x xs => rfl

theorem run_cons_of_unblocked (errs : List Err) (op : AOp) (ops : List AOp) (e : AEnd)
    (hb : (isCp op && !errs.isEmpty) = false) :
    run errs (op :: ops) e = answer op :: run (errs ++ put op) ops e := by
  cases op with
  | checkpoint =>
      cases errs with
      | nil => rfl
      | cons x xs => cases hb
  -- on every other operation `answer`, `put` compute what `opOut`, `records` of `Props/C05` do
  | _ => exact run_cons errs ops e rfl

theorem run_cons_of_blocked (errs : List Err) (op : AOp) (ops : List AOp) (e : AEnd)
    (hb : (isCp op && !errs.isEmpty) = true) :
    run errs (op :: ops) e = [collapse (.err (.multi errs [] none))] := by
  cases op with
  | checkpoint =>
      cases errs with
      | nil => cases hb
      | cons x r => cases r <;> rfl
  | _ => cases hb

/-- **model = specification, exactly and for every history**: the trace of the model is the
    specified trace, except that where the specification demands the bundle of exactly one error
    the library hands back that error itself -/
theorem run_eq_collapse_spec (errs : List Err) (ops : List AOp) (e : AEnd) :
    run errs ops e = (traceSpec errs ops e).map collapse := by
  induction ops generalizing errs with
  | nil => rw [traceSpec_nil, List.map_singleton, ← finishOp_eq_collapse_endSpec]; rfl
  | cons op ops ih =>
      cases hb : (isCp op && !errs.isEmpty) with
      | false =>
          rw [run_cons_of_unblocked _ _ _ _ hb, traceSpec_cons_of_unblocked _ _ _ _ hb,
            List.map_cons, collapse_answer, ih]
      | true => rw [run_cons_of_blocked _ _ _ _ hb, traceSpec_cons_of_blocked _ _ _ _ hb]; rfl

/-! ## 5. the faithful reading: an error result is judged by its members -/

/-- the outputs the specification can demand: an error result is always a fresh bundle -/
def SpecShaped (x : AOut) : Prop := ∀ b, x = .err b → ∃ r, b = .multi r [] none

/-- operations never answer with an error, so an error in the specified trace is its last entry -/
theorem err_mem_traceSpec_iff (errs ops e) (b : Err) :
    AOut.err b ∈ traceSpec errs ops e ↔ lastSpec errs ops e = .err b := by
  rw [traceSpec_eq, List.mem_append, List.mem_singleton]
  constructor
  · rintro (h | h)
    · obtain ⟨op, _, hop⟩ := List.mem_map.1 h
      exact absurd hop (answer_ne_err op b)
    · exact h.symm
  · exact fun h => Or.inr h.symm

theorem specShaped_traceSpec (errs ops e) : ∀ x ∈ traceSpec errs ops e, SpecShaped x := by
  rintro x hx b rfl
  rw [err_mem_traceSpec_iff] at hx
  unfold lastSpec at hx
  cases hba : blockedAt errs ops with
  | none =>
      rw [hba] at hx
      exact ⟨_, ((endSpec_eq_err_iff _ _ _).1 hx).2.2⟩
  | some i =>
      rw [hba] at hx
      exact ⟨_, (AOut.err.inj hx).symm⟩

theorem multi_not_own_child (cs : List Err) (ls : List String) (s : Option Span) :
    cs ≠ [Err.multi cs ls s] := by
  intro h
  have := congrArg sizeOf h
  simp only [List.cons.sizeOf_spec, List.nil.sizeOf_spec, Err.multi.sizeOf_spec] at this
  omega

/-- the library's answer, read through its members, is the demanded bundle exactly when the
    bundled list is not a sole bundle -/
theorem asBundle_collapse_fixed_iff (r : List Err) :
    asBundle (collapse (.err (.multi r [] none))) = .err (.multi r [] none) ↔ ¬ SoleBundle r := by
  constructor
  · rintro h ⟨cs, ls, s, rfl⟩
    exact multi_not_own_child cs ls s (Err.multi.inj (AOut.err.inj h)).1
  · intro h
    cases r with
    | nil => rfl
    | cons x t =>
        cases t with
        | cons y t => rfl
        | nil =>
            cases x with
            | leaf k l sp => rfl
            | multi cs ls s => exact absurd ⟨cs, ls, s, rfl⟩ h

theorem members_bundleOf {r : List Err} (h : ¬ SoleBundle r) : members (bundleOf r) = r := by
  have hfix := (asBundle_collapse_fixed_iff r).2 h
  rw [collapse_err_multi] at hfix
  exact (Err.multi.inj (AOut.err.inj hfix)).1

theorem bundles_bundleOf {r : List Err} (h : r ≠ []) : Spec.C05.Bundles (bundleOf r) r := by
  cases r with
  | nil => exact absurd rfl h
  | cons x t =>
      cases t with
      | nil => exact ⟨h, Or.inl rfl⟩
      | cons y t => exact ⟨h, Or.inr ⟨Nat.le_add_left 2 t.length, rfl⟩⟩

theorem asBundle_collapse_of_ne_err (x : AOut) (h : ∀ b, x ≠ .err b) : asBundle (collapse x) = x := by
  cases x with
  | err b => exact absurd rfl (h b)
  | _ => rfl

theorem pointwise_fixed_iff (x : AOut) (hx : SpecShaped x) :
    asBundle (collapse x) = x ↔ ∀ r, x = .err (.multi r [] none) → ¬ SoleBundle r := by
  by_cases h : ∃ b, x = .err b
  · obtain ⟨b, rfl⟩ := h
    obtain ⟨r, rfl⟩ := hx b rfl
    rw [asBundle_collapse_fixed_iff]
    exact ⟨fun h r' hr' => Err.multi.inj (AOut.err.inj hr') |>.1 ▸ h, fun h => h r rfl⟩
  · have hne : ∀ b, x ≠ .err b := fun b hb => h ⟨b, hb⟩
    exact ⟨fun _ r hr => absurd hr (hne _), fun _ => asBundle_collapse_of_ne_err x hne⟩

/-- **the text's reading holds exactly on the harmless histories**: reading every error result
    through its members, the model's trace is the specified trace if and only if no bundled list
    is a sole bundle -/
theorem run_asBundle_eq_spec_iff (errs : List Err) (ops : List AOp) (e : AEnd) :
    (run errs ops e).map asBundle = traceSpec errs ops e ↔ Harmless errs ops e := by
  rw [run_eq_collapse_spec, List.map_map, List.map_eq_self_iff]
  unfold Harmless
  constructor
  · intro h r hr
    exact (pointwise_fixed_iff _ (specShaped_traceSpec _ _ _ _ hr)).1 (h _ hr) r rfl
  · intro h x hx
    refine (pointwise_fixed_iff x (specShaped_traceSpec _ _ _ _ hx)).2 ?_
    intro r hr
    exact h r (hr ▸ hx)

theorem run_asBundle_eq_spec_partial (errs : List Err) (ops : List AOp) (e : AEnd)
    (h : Harmless errs ops e) : (run errs ops e).map asBundle = traceSpec errs ops e :=
  (run_asBundle_eq_spec_iff errs ops e).2 h

theorem mem_traceSpec_err (errs ops e) (r : List Err)
    (h : AOut.err (.multi r [] none) ∈ traceSpec errs ops e) :
    r = errs ++ putAll (ops.take (answered errs ops)) ∧
      (ops[answered errs ops]? = some .checkpoint ∨ (answered errs ops = ops.length ∧ Finishes e)) := by
  have hl := (err_mem_traceSpec_iff _ _ _ _).1 h
  unfold lastSpec at hl
  unfold answered
  cases hb : blockedAt errs ops with
  | some i =>
      rw [hb] at hl
      cases hl
      exact ⟨rfl, Or.inl (blocked_of_blockedAt hb).1⟩
  | none =>
      rw [hb] at hl
      obtain ⟨he, _, hr⟩ := (endSpec_eq_err_iff _ _ _).1 hl
      cases hr
      exact ⟨by rw [List.take_length], Or.inr ⟨rfl, he⟩⟩

/-- a sufficient condition that does not mention the specification: no recorded error is itself
    a bundle -/
theorem harmless_of_no_bundle_recorded (errs ops e)
    (h : ∀ x ∈ errs ++ putAll ops, ∀ cs ls s, x ≠ Err.multi cs ls s) : Harmless errs ops e := by
  rintro r hr ⟨cs, ls, s, rfl⟩
  refine h (.multi cs ls s) ?_ cs ls s rfl
  -- what was recorded before some position was recorded in the whole history
  rw [putAll_take_prefix ops (answered errs ops), ← List.append_assoc,
    ← (mem_traceSpec_err errs ops e _ hr).1]
  exact List.mem_append_left _ (List.mem_singleton.2 rfl)

/-- a sufficient condition by positions: what is recorded before any `checkpoint`, and before a
    `finish`/`finish_with` end, is not a sole bundle -/
theorem harmless_of_positions (errs ops e)
    (hcp : ∀ i, ops[i]? = some .checkpoint → ¬ SoleBundle (errs ++ putAll (ops.take i)))
    (hend : (e = .finish ∨ ∃ v, e = .finishWith v) → ¬ SoleBundle (errs ++ putAll ops)) :
    Harmless errs ops e := by
  intro r hr
  obtain ⟨rfl, hpos | ⟨hlen, he⟩⟩ := mem_traceSpec_err errs ops e r hr
  · exact hcp _ hpos
  · rw [hlen, List.take_length]; exact hend he

/-! ## 6. the clauses of the property, about `run` itself -/

theorem run_eq (errs ops e) :
    run errs ops e = (ops.take (answered errs ops)).map answer ++ [collapse (lastSpec errs ops e)] := by
  rw [run_eq_collapse_spec, traceSpec_eq, List.map_append, List.map_map]
  congr 1
  apply List.map_congr_left
  intro op _
  exact collapse_answer op

theorem run_getLast (errs ops e) :
    (run errs ops e).getLast? = some (collapse (lastSpec errs ops e)) := by
  rw [run_eq, List.getLast?_concat]

theorem run_length (errs ops e) : (run errs ops e).length = answered errs ops + 1 := by
  rw [run_eq, List.length_append, List.length_map, List.length_take,
    Nat.min_eq_left (answered_le errs ops)]
  rfl

/-- something recorded before a blocked checkpoint is recorded in the whole history -/
theorem not_nil_of_blocked (errs ops i) (h : blockedAt errs ops = some i) :
    errs ++ putAll ops ≠ [] := by
  intro hnil
  apply (blocked_of_blockedAt h).2
  rw [putAll_take_prefix ops i, ← List.append_assoc] at hnil
  exact (List.append_eq_nil_iff.1 hnil).1

/-- nothing recorded: no checkpoint is blocked -/
theorem blockedAt_none_of_nil (errs ops) (h : errs ++ putAll ops = []) : blockedAt errs ops = none := by
  cases hb : blockedAt errs ops with
  | none => rfl
  | some i => exact absurd h (not_nil_of_blocked errs ops i hb)

theorem lastSpec_of_nil (errs ops e) (h : errs ++ putAll ops = []) :
    lastSpec errs ops e = endSpec [] e := by
  unfold lastSpec
  rw [blockedAt_none_of_nil errs ops h, h]

/-- **clause 2, in full** — with something recorded, a `finish`/`finish_with` history ends in an
    error: what the library makes of everything recorded before the answers stop (`k` operations
    in: at the first blocked checkpoint, or at the end), which is also the list the specification
    bundles there -/
theorem finish_err (errs ops e) (he : Finishes e) (hne : errs ++ putAll ops ≠ []) :
    ∃ k, k ≤ ops.length ∧ (blockedAt errs ops = none → k = ops.length) ∧
      errs ++ putAll (ops.take k) ≠ [] ∧
      AOut.err (.multi (errs ++ putAll (ops.take k)) [] none) ∈ traceSpec errs ops e ∧
      (run errs ops e).getLast? = some (.err (bundleOf (errs ++ putAll (ops.take k)))) := by
  refine ⟨answered errs ops, answered_le errs ops, answered_of_unblocked, ?_⟩
  rw [run_getLast, err_mem_traceSpec_iff]
  unfold lastSpec answered
  cases hb : blockedAt errs ops with
  | some i => exact ⟨(blocked_of_blockedAt hb).2, rfl, by rw [collapse_err_multi]⟩
  | none =>
      dsimp only -- reduces the two `match none with`
      rw [List.take_length, (endSpec_eq_err_iff _ _ _).2 ⟨he, hne, rfl⟩, collapse_err_multi]
      exact ⟨hne, rfl, rfl⟩

/-- **clause 1** — a history that is finished ends in success (`Ok(v)` for `finish_with(v)`,
    `Ok(())` for `finish()`) if and only if the accumulator was empty to begin with and no error
    was ever pushed, handled or extended into it -/
theorem finishes_ok_iff (errs : List Err) (ops : List AOp) (e : AEnd) (he : Finishes e) :
    (run errs ops e).getLast? = some (endSpec [] e) ↔ errs = [] ∧ Untouched ops := by
  rw [← putAll_eq_nil_iff, ← List.append_eq_nil_iff]
  constructor
  · intro h
    by_cases hnil : errs ++ putAll ops = []
    · exact hnil
    · obtain ⟨k, _, _, _, _, hlast⟩ := finish_err errs ops e he hnil
      rw [hlast] at h
      rcases he with rfl | ⟨v, rfl⟩ <;> cases h
  · intro h
    rw [run_getLast, lastSpec_of_nil errs ops e h]
    rcases he with rfl | ⟨v, rfl⟩ <;> rfl

theorem finish_with_ok_iff_untouched' (errs : List Err) (ops : List AOp) (v : Nat) :
    (run errs ops (.finishWith v)).getLast? = some (.ok v) ↔ errs = [] ∧ Untouched ops :=
  finishes_ok_iff errs ops (.finishWith v) (Or.inr ⟨v, rfl⟩)

theorem finish_with_ok_iff_untouched (ops : List AOp) (v : Nat) :
    (run [] ops (.finishWith v)).getLast? = some (.ok v) ↔ Untouched ops :=
  (finish_with_ok_iff_untouched' [] ops v).trans (and_iff_right rfl)

theorem finish_ok_iff_untouched' (errs : List Err) (ops : List AOp) :
    (run errs ops .finish).getLast? = some .okUnit ↔ errs = [] ∧ Untouched ops :=
  finishes_ok_iff errs ops .finish (Or.inl rfl)

theorem finish_ok_iff_untouched (ops : List AOp) :
    (run [] ops .finish).getLast? = some .okUnit ↔ Untouched ops :=
  (finish_ok_iff_untouched' [] ops).trans (and_iff_right rfl)

/-- **clause 2, faithful form** — otherwise the history ends with an error whose members are
    exactly the errors recorded up to that point, in recording order (all of them when the end
    of the history is reached) — provided that list is not a sole bundle -/
theorem finish_err_partial (errs ops e) (he : Finishes e) (hne : errs ++ putAll ops ≠ [])
    (hh : Harmless errs ops e) :
    ∃ k b, k ≤ ops.length ∧ (blockedAt errs ops = none → k = ops.length) ∧
      (run errs ops e).getLast? = some (.err b) ∧
      members b = errs ++ putAll (ops.take k) ∧ members b ≠ [] := by
  obtain ⟨k, hk, hall, hnek, hmem, hlast⟩ := finish_err errs ops e he hne
  have hmembers := members_bundleOf (hh _ hmem)
  exact ⟨k, _, hk, hall, hlast, hmembers, by rw [hmembers]; exact hnek⟩

/-- **clause 2, exact form** — what the library hands back in every case: the single recorded
    error itself, or a fresh bundle (no location, no span) of the two or more recorded errors -/
theorem finish_err_exact (errs ops e) (he : Finishes e) (hne : errs ++ putAll ops ≠ []) :
    ∃ k b, k ≤ ops.length ∧ (blockedAt errs ops = none → k = ops.length) ∧
      (run errs ops e).getLast? = some (.err b) ∧
      Spec.C05.Bundles b (errs ++ putAll (ops.take k)) := by
  obtain ⟨k, hk, hall, hnek, _, hlast⟩ := finish_err errs ops e he hne
  exact ⟨k, _, hk, hall, hlast, bundles_bundleOf hnek⟩

/-- **clause 3** — every operation that does not end the history gets the answer that belongs to
    it alone, whatever the accumulator holds -/
theorem answers_positional (errs ops e) (i : Nat) (hi : i + 1 < (run errs ops e).length) :
    (run errs ops e)[i]? = (ops[i]?).map answer := by
  rw [run_length] at hi
  have hi' : i < answered errs ops := Nat.lt_of_succ_lt_succ hi
  have hlen : i < ((ops.take (answered errs ops)).map answer).length := by
    rw [List.length_map, List.length_take, Nat.min_eq_left (answered_le errs ops)]
    exact hi'
  rw [run_eq, List.getElem?_append_left hlen, List.getElem?_map, List.getElem?_take_of_lt hi']

/-- **clause 3** — `handle` (and `handle_in`) hands back the value exactly when given `Ok` -/
theorem handle_returns_value_iff (errs ops e) (i : Nat) (op : AOp) (v : Nat)
    (hi : i + 1 < (run errs ops e).length) (hop : ops[i]? = some op) :
    (run errs ops e)[i]? = some (.some v) ↔ op = .handleOk v ∨ op = .handleInOk v := by
  rw [answers_positional errs ops e i hi, hop, Option.map_some, Option.some_inj]
  exact answer_eq_some_iff op v

/-- a prefix in which no checkpoint is blocked is answered operation by operation, and the rest
    goes on with everything recorded -/
theorem run_append_of_unblocked (errs : List Err) (pre post : List AOp) (e : AEnd)
    (h : blockedAt errs pre = none) :
    run errs (pre ++ post) e = pre.map answer ++ run (errs ++ putAll pre) post e := by
  induction pre generalizing errs with
  | nil => rw [putAll_nil, List.append_nil]; rfl
  | cons op pre ih =>
      rw [blockedAt_cons] at h
      cases hb : (isCp op && !errs.isEmpty) with
      | true => rw [hb, if_pos rfl] at h; cases h
      | false =>
          rw [hb, if_neg Bool.false_ne_true, Option.map_eq_none_iff] at h
          rw [List.cons_append, run_cons_of_unblocked _ _ _ _ hb, ih _ h, putAll_cons,
            List.append_assoc]
          rfl

theorem blocked_checkpoint {errs : List Err} (h : errs ≠ []) :
    (isCp .checkpoint && !errs.isEmpty) = true := by
  cases errs with
  | nil => exact absurd rfl h
  | cons x xs => rfl

/-- **clause 4** — `checkpoint`, after any prefix that got through: it fails with everything
    recorded so far and that ends the history, or (nothing recorded) it hands back a fresh
    accumulator and the rest of the history runs on that -/
theorem checkpoint_clause (errs : List Err) (pre post : List AOp) (e : AEnd)
    (h : blockedAt errs pre = none) :
    (errs ++ putAll pre = [] →
        run errs (pre ++ .checkpoint :: post) e = pre.map answer ++ .fresh :: run [] post e) ∧
    (errs ++ putAll pre ≠ [] →
        run errs (pre ++ .checkpoint :: post) e =
          pre.map answer ++ [collapse (.err (.multi (errs ++ putAll pre) [] none))]) := by
  rw [run_append_of_unblocked errs pre _ e h]
  constructor
  · intro hnil; rw [hnil]; rfl
  · intro hne
    rw [run_cons_of_blocked _ _ _ _ (blocked_checkpoint hne)]

/-- **clause 4** — the accumulator handed back by `checkpoint` is armed: dropping it at once
    panics with the message for an empty accumulator -/
theorem checkpoint_hands_back_armed (errs : List Err) (pre : List AOp)
    (h : blockedAt errs pre = none) (hnil : errs ++ putAll pre = []) :
    run errs (pre ++ [.checkpoint]) (.drop false) = pre.map answer ++ [.fresh, .panic (bombMsg 0)] := by
  rw [(checkpoint_clause errs pre [] (.drop false) h).1 hnil]
  rfl

/-- **clause 5** — an accumulator that goes out of scope unfinished panics, and the message is
    the one for the number of recorded errors -/
theorem drop_clause (errs ops) (h : blockedAt errs ops = none) :
    (run errs ops (.drop false)).getLast? = some (.panic (bombMsg (errs ++ putAll ops).length)) := by
  rw [run_getLast]; unfold lastSpec; rw [h]; rfl

/-- **clause 5** — except while the thread is already unwinding -/
theorem drop_unwinding_clause (errs ops) (h : blockedAt errs ops = none) :
    (run errs ops (.drop true)).getLast? = some .quiet := by
  rw [run_getLast]; unfold lastSpec; rw [h]; rfl

/-- a failed checkpoint consumed the accumulator: nothing is left to finish or to drop -/
theorem blocked_trace_indep_of_end (errs ops i) (e e' : AEnd) (h : blockedAt errs ops = some i) :
    run errs ops e = run errs ops e' := by
  rw [run_eq, run_eq]; unfold lastSpec; rw [h]

/-- "even when empty" -/
theorem bombMsg_zero : bombMsg 0 = "darling::error::Accumulator dropped without being finished" := rfl

/-- "stating how many errors were lost when not" -/
theorem bombMsg_states_count (n : Nat) (h : n ≠ 0) :
    ∃ pre post, bombMsg n = pre ++ toString n ++ post := by
  refine ⟨"darling::error::Accumulator dropped without being finished. ", " errors were lost.", ?_⟩
  simp only [bombMsg, if_neg h]

theorem collapse_endSpec_eq_panic_iff (rec : List Err) (e : AEnd) (m : String) :
    collapse (endSpec rec e) = .panic m ↔ e = .drop false ∧ m = bombMsg rec.length := by
  constructor
  · intro h
    cases e with
    | finish =>
        rw [← finishOp_eq_collapse_endSpec] at h
        exact absurd h (finishWith_ne_panic rec _ m (fun h => by cases h))
    | finishWith v =>
        rw [← finishOp_eq_collapse_endSpec] at h
        exact absurd h (finishWith_ne_panic rec _ m (fun h => by cases h))
    | intoInner => cases h
    | drop u =>
        cases u with
        | true => cases h
        | false => cases h; exact ⟨rfl, rfl⟩
  · rintro ⟨rfl, rfl⟩; rfl

/-- a panic occurs in a trace exactly at an unfinished, non-unwinding drop -/
theorem panic_mem_iff (errs ops e) (m : String) :
    AOut.panic m ∈ run errs ops e ↔
      blockedAt errs ops = none ∧ e = .drop false ∧ m = bombMsg (errs ++ putAll ops).length := by
  rw [run_eq, List.mem_append, List.mem_singleton]
  unfold lastSpec
  constructor
  · rintro (h | h)
    · obtain ⟨op, _, hop⟩ := List.mem_map.1 h
      exact absurd hop (answer_ne_panic op m)
    · cases hb : blockedAt errs ops with
      | some i => rw [hb, collapse_err_multi] at h; cases h
      | none =>
          rw [hb] at h
          exact ⟨rfl, (collapse_endSpec_eq_panic_iff _ _ _).1 h.symm⟩
  · rintro ⟨hb, rfl, rfl⟩
    rw [hb]
    exact Or.inr rfl

/-! ## 7. the reading under which text and library agree on every history: leaves

  `Error::flatten` / `Error::into_vec` see through the difference: the leaves of the returned
  error, each with the locations of its enclosing bundles, are the leaves of the recorded errors
  in recording order — also when the one recorded error is a bundle. -/

theorem intoVec_bundleOf (r : List Err) :
    Err.intoVec (bundleOf r) = Err.intoVecListP [] none r := by
  cases r with
  | nil => rfl
  | cons x t =>
      cases t with
      | nil =>
          show Err.intoVecP [] none x = Err.intoVecP [] none x ++ []
          rw [List.append_nil]
      | cons y t => rfl

theorem finish_err_leaves (errs ops e) (he : Finishes e) (hne : errs ++ putAll ops ≠ []) :
    ∃ k b, k ≤ ops.length ∧ (blockedAt errs ops = none → k = ops.length) ∧
      (run errs ops e).getLast? = some (.err b) ∧
      Err.intoVec b = Err.intoVecListP [] none (errs ++ putAll (ops.take k)) := by
  obtain ⟨k, hk, hall, _, _, hlast⟩ := finish_err errs ops e he hne
  exact ⟨k, _, hk, hall, hlast, intoVec_bundleOf _⟩

/-! ## 8. the discrepancy, concretely -/

/-- `Error::multiple(vec![a, b]).at("field")`: one error, which is a bundle -/
def nested : Err := .multi [e1, e2] ["field"] none

/-- one error is recorded -/
example : putAll [.push nested] = [nested] := rfl
/-- the text demands an error whose members are that one error -/
example : traceSpec [] [.push nested] (.finishWith 7) = [.unit, .err (.multi [nested] [] none)] := rfl
/-- the library hands back the recorded error itself … -/
example : run [] [.push nested] (.finishWith 7) = [.unit, .err nested] := rfl
/-- … whose members are its two children: two errors where one was recorded, and the location
    `field` is on neither of them -/
example : members nested = [e1, e2] := rfl
example : (run [] [.push nested] (.finishWith 7)).map asBundle = [.unit, .err (.multi [e1, e2] [] none)] := rfl
/-- the same through `handle` and a failing `checkpoint` -/
example : run [] [.handleErr nested, .checkpoint, .push e1] .finish = [.none, .err nested] := rfl
example : traceSpec [] [.handleErr nested, .checkpoint, .push e1] .finish
    = [.none, .err (.multi [nested] [] none)] := rfl

theorem discrepancy_not_harmless : ¬ Harmless [] [.push nested] (.finishWith 7) :=
  fun h => h [nested] ((err_mem_traceSpec_iff _ _ _ _).2 rfl) ⟨_, _, _, rfl⟩

theorem discrepancy_trace :
    (run [] [.push nested] (.finishWith 7)).map asBundle ≠ traceSpec [] [.push nested] (.finishWith 7) :=
  fun h => discrepancy_not_harmless ((run_asBundle_eq_spec_iff _ _ _).1 h)

/-- at the level of leaves nothing differs -/
example : Err.intoVec nested = Err.intoVecListP [] none [nested] := by
  simp [Err.intoVec, Err.intoVecListP, nested]

/-! ## 9. non-vacuity: every hypothesis of every theorem above is satisfiable (and the interesting
    ones are also refutable) -/

def h1 : List AOp := [.handleOk 3, .checkpoint, .push e1, .extend [e2, nested], .handleInErr e1]

-- `Harmless`: holds on a history with a passing checkpoint, errors and even a recorded bundle …
example : Harmless [] h1 .finish := by
  intro r hr
  obtain ⟨rfl, _⟩ := mem_traceSpec_err [] h1 .finish r hr
  rintro ⟨cs, ls, s, h⟩
  cases h
example : run [] h1 .finish
    = [.some 3, .fresh, .unit, .unit, .none, .err (.multi [e1, e2, nested, e1] [] none)] := rfl
example : traceSpec [] h1 .finish
    = [.some 3, .fresh, .unit, .unit, .none, .err (.multi [e1, e2, nested, e1] [] none)] := rfl
-- … and fails on `discrepancy_not_harmless`.

-- `harmless_of_no_bundle_recorded`: its hypothesis holds for leaf-only histories
example : ∀ x ∈ ([] : List Err) ++ putAll [.push e1, .checkpoint], ∀ cs ls s, x ≠ Err.multi cs ls s := by
  intro x hx cs ls s
  simp only [putAll_cons, putAll_nil, put, List.nil_append, List.append_nil, List.mem_singleton] at hx
  subst hx
  intro h; cases h

-- `blockedAt … = none` (hypothesis of `run_append_of_unblocked`, `checkpoint_clause`,
-- `checkpoint_hands_back_armed`, `drop_clause`, `drop_unwinding_clause`): true with checkpoints
-- present, false when an error precedes one
example : blockedAt [] [.handleOk 1, .checkpoint, .extend [], .checkpoint, .push e1] = none := rfl
example : blockedAt [] [.handleOk 1, .checkpoint, .push e1, .handleOk 2, .checkpoint, .checkpoint] = some 4 := rfl
example : blockedAt [e1] [.checkpoint] = some 0 := rfl
-- `errs ++ putAll pre = []` together with it (for `checkpoint_hands_back_armed`)
example : blockedAt [] [.handleOk 1, .checkpoint, .extend []] = none
    ∧ ([] : List Err) ++ putAll [.handleOk 1, .checkpoint, .extend []] = [] := ⟨rfl, rfl⟩
example : run [] ([.handleOk 1, .checkpoint, .extend []] ++ [.checkpoint]) (.drop false)
    = [.some 1, .fresh, .unit, .fresh, .panic "darling::error::Accumulator dropped without being finished"] := rfl
-- `blockedAt … = some i` (hypothesis of `blocked_trace_indep_of_end`)
example : run [] [.push e1, .checkpoint] (.drop false) = run [] [.push e1, .checkpoint] .intoInner :=
  blocked_trace_indep_of_end [] _ 1 _ _ rfl

-- `Finishes e` and `errs ++ putAll ops ≠ []` (hypotheses of `finish_err_partial`,
-- `finish_err_exact`, `finish_err_leaves`)
example : Finishes .finish := Or.inl rfl
example : Finishes (.finishWith 4) := Or.inr ⟨4, rfl⟩
example : ([] : List Err) ++ putAll [.handleOk 1, .handleErr e2] ≠ [] := by
  simp [put]

-- `Untouched`: true and false
example : Untouched [.handleOk 1, .checkpoint, .extend [], .handleInOk 2] :=
  (putAll_eq_nil_iff _).1 rfl
example : ¬ Untouched [.handleOk 1, .extend [e1]] :=
  fun h => nomatch (putAll_eq_nil_iff _).2 h

-- the index hypotheses of `answers_positional` / `handle_returns_value_iff`
example : (1 : Nat) + 1 < (run [] [.push e1, .handleOk 5, .handleErr e2] .finish).length
    ∧ [AOp.push e1, .handleOk 5, .handleErr e2][1]? = some (.handleOk 5) := ⟨by decide, rfl⟩
-- … and an operation behind a failed checkpoint is not answered
example : ¬ ((2 : Nat) + 1 < (run [] [.push e1, .checkpoint, .handleOk 5] .finish).length) := by decide

-- `n ≠ 0` in `bombMsg_states_count`
example : bombMsg 2 = "darling::error::Accumulator dropped without being finished. 2 errors were lost." := by
  rw [bombMsg, if_neg (by decide), show toString 2 = "2" from rfl]
  simp only [String.reduceAppend]
example : run [] [.push e1, .extend [e2, e1]] (.drop false)
    = [.unit, .unit, .panic "darling::error::Accumulator dropped without being finished. 3 errors were lost."] := by
  have : bombMsg 3 = "darling::error::Accumulator dropped without being finished. 3 errors were lost." := by
    rw [bombMsg, if_neg (by decide), show toString 3 = "3" from rfl]
    simp only [String.reduceAppend]
  rw [← this]
  rfl
example : run [] [.push e1, .extend [e2, e1]] (.drop true) = [.unit, .unit, .quiet] := rfl

end C05
