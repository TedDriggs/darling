import Darling.Derive.Outer
import Darling.Derive.Magic
import Darling.Lemmas.Error
/-
  C16 — Magic fields and body conversion mirror the input element faithfully.

  Body conversion (`ast::Fields::try_from`, `ast::Data::try_from`), for every entry converter
  (any `FromField` / `FromVariant` implementation that does not panic) and every body: every entry
  is converted; when all convert there is exactly one converted entry per input entry, in source
  order, and the kind (struct / enum) and the style are those of the input; otherwise *all* failures
  are reported, in source order, named fields located by their name; a union is always an error.
  Magic members: each declared magic member is exactly the corresponding component of the input
  element, and no other member is produced (`earlyParts_*`); a successful receiver is built from
  exactly these parts, unchanged (`finishOuter_mirrors`).
  The `ast::Generics` mirror: one entry per parameter in order, and the where-clause.
  Printing: the printed field list is the original fields in order, comma separated, in the
  original delimiters (with a trailing comma for a non-empty named body).
-/
open Derive Options

namespace C16
variable {ν : Type}

/-! ### `Fields::try_from` -/

/-- the values of the fields that convert, and the located errors of those that do not -/
def okVals (conv : FieldD → Outcome ν) : List FieldD → List ν
  | [] => []
  | f :: rest => match conv f with
      | .ok v => v :: okVals conv rest
      | _ => okVals conv rest

def failures (conv : FieldD → Outcome ν) : List FieldD → List Err
  | [] => []
  | f :: rest => match conv f with
      | .err e => located f e :: failures conv rest
      | _ => failures conv rest

def NoPanic (conv : α → Outcome ν) (xs : List α) : Prop := ∀ x ∈ xs, (conv x).isPanic = false

theorem NoPanic.head {conv : α → Outcome ν} {x : α} {xs : List α} (h : NoPanic conv (x :: xs)) (m : String) :
    conv x ≠ .panic m := by
  intro hc
  have hx := h x List.mem_cons_self
  rw [hc] at hx
  cases hx

theorem NoPanic.tail {conv : α → Outcome ν} {x : α} {xs : List α} (h : NoPanic conv (x :: xs)) :
    NoPanic conv xs :=
  fun y hy => h y (List.mem_cons_of_mem _ hy)

theorem fieldsTryFrom_spec (conv : FieldD → Outcome ν) (fs : List FieldD) (vs : List ν) (errs : List Err)
    (hnp : NoPanic conv fs) :
    fieldsTryFrom conv fs vs errs = .ok (vs ++ okVals conv fs, errs ++ failures conv fs) := by
  induction fs generalizing vs errs with
  | nil => simp only [fieldsTryFrom, okVals, failures, List.append_nil]
  | cons f rest ih =>
      unfold fieldsTryFrom okVals failures
      cases hc : conv f with
      | ok v => simp only []; rw [ih _ _ hnp.tail, List.append_assoc]; rfl
      | err e => simp only []; rw [ih _ _ hnp.tail, List.append_assoc]; rfl
      | panic m => exact absurd hc (hnp.head m)

/-- no failure ⇔ every field converts -/
theorem failures_nil_iff (conv : FieldD → Outcome ν) (fs : List FieldD) (hnp : NoPanic conv fs) :
    failures conv fs = [] ↔ ∀ f ∈ fs, (conv f).isOk = true := by
  induction fs with
  | nil => exact ⟨fun _ _ h => (nomatch h), fun _ => rfl⟩
  | cons f rest ih =>
      unfold failures
      rw [List.forall_mem_cons]
      cases hc : conv f with
      | ok v => exact (ih hnp.tail).trans ⟨fun h => ⟨rfl, h⟩, fun h => h.2⟩
      | err e => exact ⟨fun h => (nomatch h), fun h => nomatch h.1⟩
      | panic m => exact absurd hc (hnp.head m)

/-- when every field converts, the entries are exactly the converted fields, one per field, in order -/
theorem okVals_all (conv : FieldD → Outcome ν) (fs : List FieldD) (h : ∀ f ∈ fs, (conv f).isOk = true) :
    (okVals conv fs).map Outcome.ok = fs.map conv := by
  induction fs with
  | nil => rfl
  | cons f rest ih =>
      obtain ⟨hf, hr⟩ := List.forall_mem_cons.mp h
      unfold okVals
      cases hc : conv f with
      | ok v => simp only [List.map_cons, ih hr, hc]
      | err e => rw [hc] at hf; cases hf
      | panic m => rw [hc] at hf; cases hf

theorem okVals_length (conv : FieldD → Outcome ν) (fs : List FieldD) (h : ∀ f ∈ fs, (conv f).isOk = true) :
    (okVals conv fs).length = fs.length := by
  have := congrArg List.length (okVals_all conv fs h)
  rwa [List.length_map, List.length_map] at this

/-- the failures are one per failing field, in source order -/
theorem failures_length (conv : FieldD → Outcome ν) (fs : List FieldD) :
    (failures conv fs).length = (fs.filter (fun f => match conv f with | .err _ => true | _ => false)).length := by
  induction fs with
  | nil => rfl
  | cons f rest ih =>
      unfold failures
      cases hc : conv f <;> simp only [List.filter_cons, hc, ih, List.length_cons, if_true, Bool.false_eq_true, if_false]

/-- a named field's failure carries the field's name as its innermost location -/
theorem located_named (f : FieldD) (id : String) (h : f.ident = some id) (e : Err) :
    (located f e).locs = id :: e.locs := by
  unfold located; rw [h]; cases e <;> rfl

theorem located_unnamed (f : FieldD) (h : f.ident = none) (e : Err) : located f e = e := by
  unfold located; rw [h]

/-! ### `Data::try_from` -/

def vOkVals (conv : VariantD → Outcome ν) : List VariantD → List ν
  | [] => []
  | v :: rest => match conv v with
      | .ok x => x :: vOkVals conv rest
      | _ => vOkVals conv rest

def vFailures (conv : VariantD → Outcome ν) : List VariantD → List Err
  | [] => []
  | v :: rest => match conv v with
      | .err e => e :: vFailures conv rest
      | _ => vFailures conv rest

theorem variantsTryFrom_spec (conv : VariantD → Outcome ν) (vs : List VariantD) (acc : List ν) (errs : List Err)
    (hnp : NoPanic conv vs) :
    variantsTryFrom conv vs acc errs = .ok (acc ++ vOkVals conv vs, errs ++ vFailures conv vs) := by
  induction vs generalizing acc errs with
  | nil => simp only [variantsTryFrom, vOkVals, vFailures, List.append_nil]
  | cons v rest ih =>
      unfold variantsTryFrom vOkVals vFailures
      cases hc : conv v with
      | ok x => simp only []; rw [ih _ _ hnp.tail, List.append_assoc]; rfl
      | err e => simp only []; rw [ih _ _ hnp.tail, List.append_assoc]; rfl
      | panic m => exact absurd hc (hnp.head m)

theorem vFailures_nil_iff (conv : VariantD → Outcome ν) (vs : List VariantD) (hnp : NoPanic conv vs) :
    vFailures conv vs = [] ↔ ∀ v ∈ vs, (conv v).isOk = true := by
  induction vs with
  | nil => exact ⟨fun _ _ h => (nomatch h), fun _ => rfl⟩
  | cons v rest ih =>
      unfold vFailures
      rw [List.forall_mem_cons]
      cases hc : conv v with
      | ok x => exact (ih hnp.tail).trans ⟨fun h => ⟨rfl, h⟩, fun h => h.2⟩
      | err e => exact ⟨fun h => (nomatch h), fun h => nomatch h.1⟩
      | panic m => exact absurd hc (hnp.head m)

theorem vOkVals_all (conv : VariantD → Outcome ν) (vs : List VariantD) (h : ∀ v ∈ vs, (conv v).isOk = true) :
    (vOkVals conv vs).map Outcome.ok = vs.map conv := by
  induction vs with
  | nil => rfl
  | cons v rest ih =>
      obtain ⟨hf, hr⟩ := List.forall_mem_cons.mp h
      unfold vOkVals
      cases hc : conv v with
      | ok x => simp only [List.map_cons, ih hr, hc]
      | err e => rw [hc] at hf; cases hf
      | panic m => rw [hc] at hf; cases hf

section data
variable (fconv : FieldD → Outcome ν) (vconv : VariantD → Outcome ν)
  (mkStruct : Style → List ν → ν) (mkEnum : List ν → ν)

/-- a union is always an error (never a panic, never a value) -/
theorem data_union : dataTryFrom fconv vconv mkStruct mkEnum .union = .err (Err.custom "Unions are not supported") := rfl

/-- a struct body whose fields all convert becomes `Data::Struct` of the *same style* with exactly
    the converted fields in order -/
theorem data_struct_ok (style : Style) (fs : List FieldD) (hnp : NoPanic fconv fs)
    (h : ∀ f ∈ fs, (fconv f).isOk = true) :
    dataTryFrom fconv vconv mkStruct mkEnum (.struct style fs) = .ok (mkStruct style (okVals fconv fs)) := by
  simp only [dataTryFrom]
  rw [fieldsTryFrom_spec fconv fs [] [] hnp, (failures_nil_iff fconv fs hnp).mpr h]
  rfl

/-- otherwise the error is the bundle of *all* field failures, located -/
theorem data_struct_err (style : Style) (fs : List FieldD) (hnp : NoPanic fconv fs)
    (h : ¬ ∀ f ∈ fs, (fconv f).isOk = true) :
    dataTryFrom fconv vconv mkStruct mkEnum (.struct style fs) = Err.bundleErr (failures fconv fs) ∧
      failures fconv fs ≠ [] := by
  have hne : failures fconv fs ≠ [] := fun hn => h ((failures_nil_iff fconv fs hnp).mp hn)
  refine ⟨?_, hne⟩
  simp only [dataTryFrom]
  rw [fieldsTryFrom_spec fconv fs [] [] hnp]
  cases hfl : failures fconv fs with
  | nil => exact absurd hfl hne
  | cons e es => rfl

theorem data_enum_ok (vs : List VariantD) (hnp : NoPanic vconv vs) (h : ∀ v ∈ vs, (vconv v).isOk = true) :
    dataTryFrom fconv vconv mkStruct mkEnum (.enum vs) = .ok (mkEnum (vOkVals vconv vs)) := by
  simp only [dataTryFrom]
  rw [variantsTryFrom_spec vconv vs [] [] hnp, (vFailures_nil_iff vconv vs hnp).mpr h]
  rfl

theorem data_enum_err (vs : List VariantD) (hnp : NoPanic vconv vs) (h : ¬ ∀ v ∈ vs, (vconv v).isOk = true) :
    dataTryFrom fconv vconv mkStruct mkEnum (.enum vs) = Err.bundleErr (vFailures vconv vs) ∧
      vFailures vconv vs ≠ [] := by
  have hne : vFailures vconv vs ≠ [] := fun hn => h ((vFailures_nil_iff vconv vs hnp).mp hn)
  refine ⟨?_, hne⟩
  simp only [dataTryFrom]
  rw [variantsTryFrom_spec vconv vs [] [] hnp]
  cases hfl : vFailures vconv vs with
  | nil => exact absurd hfl hne
  | cons e es => rfl

/-- the entries of a body and whether all of them convert -/
def allConvert : BodyD → Prop
  | .struct _ fs => ∀ f ∈ fs, (fconv f).isOk = true
  | .enum vs => ∀ v ∈ vs, (vconv v).isOk = true
  | .union => False

def BodyNoPanic : BodyD → Prop
  | .struct _ fs => NoPanic fconv fs
  | .enum vs => NoPanic vconv vs
  | .union => True

/-- **Body conversion fails exactly when some field or variant fails or the element is a union**,
    and it never panics when the entry converters do not -/
theorem data_fails_iff (b : BodyD) (hnp : BodyNoPanic fconv vconv b) :
    ((dataTryFrom fconv vconv mkStruct mkEnum b).isOk = true ↔ allConvert fconv vconv b) ∧
    (dataTryFrom fconv vconv mkStruct mkEnum b).isPanic = false := by
  cases b with
  | union => exact ⟨⟨fun h => (nomatch h), fun h => nomatch h⟩, rfl⟩
  | struct style fs =>
      by_cases h : ∀ f ∈ fs, (fconv f).isOk = true
      · rw [data_struct_ok fconv vconv mkStruct mkEnum style fs hnp h]
        exact ⟨⟨fun _ => h, fun _ => rfl⟩, rfl⟩
      · obtain ⟨he, hne⟩ := data_struct_err fconv vconv mkStruct mkEnum style fs hnp h
        obtain ⟨e, hb, _⟩ := Err.bundleErr_of_ne_nil (α := ν) hne
        rw [he, hb]
        exact ⟨⟨fun hf => (nomatch hf), fun ha => absurd ha h⟩, rfl⟩
  | «enum» vs =>
      by_cases h : ∀ v ∈ vs, (vconv v).isOk = true
      · rw [data_enum_ok fconv vconv mkStruct mkEnum vs hnp h]
        exact ⟨⟨fun _ => h, fun _ => rfl⟩, rfl⟩
      · obtain ⟨he, hne⟩ := data_enum_err fconv vconv mkStruct mkEnum vs hnp h
        obtain ⟨e, hb, _⟩ := Err.bundleErr_of_ne_nil (α := ν) hne
        rw [he, hb]
        exact ⟨⟨fun hf => (nomatch hf), fun ha => absurd ha h⟩, rfl⟩

end data

/-! ### magic members -/

/-- the magic members a receiver of each element kind can declare, and the component each mirrors -/
def component : Elem → String → Option Val
  | .deriveInput d, "ident" => some (.toks d.ident)
  | .deriveInput d, "vis" => some (.toks d.vis)
  | .field f, "ident" => some (optToks f.ident)
  | .field f, "ty" => some (.toks f.tyToks)
  | .field f, "vis" => some (.toks f.vis)
  | .variant v, "ident" => some (.toks v.ident)
  | .variant v, "discriminant" => some (optToks v.discriminant)
  | .typeParam t, "ident" => some (.toks t.ident)
  | .typeParam t, "bounds" => some (.list (t.bounds.map .toks))
  | .typeParam t, "default" => some (optToks t.default)
  | _, _ => none

theorem mem_ite_singleton {α : Type} {c : Bool} {a x : α} :
    x ∈ (if c = true then [a] else []) ↔ c = true ∧ x = a := by
  cases c
  · exact ⟨fun h => (nomatch h), fun h => (nomatch h.1)⟩
  · exact ⟨fun h => ⟨rfl, List.mem_singleton.mp h⟩, fun h => List.mem_singleton.mpr h.2⟩

/-- every produced member is a declared magic member holding exactly the mirrored component -/
theorem earlyParts_sound (has : String → Bool) (el : Elem) (k : String) (v : Val)
    (h : (k, v) ∈ earlyParts has el) : has k = true ∧ component el k = some v := by
  -- one summand of `earlyParts` against its row of the table; the row is given by `rw [component]`,
  -- the table's equation
  have row {k' : String} {v' : Val} (h : (k, v) ∈ (if has k' = true then [(k', v')] else []))
      (hc : component el k' = some v') : has k = true ∧ component el k = some v := by
    obtain ⟨hk, hkv⟩ := mem_ite_singleton.mp h
    cases hkv
    exact ⟨hk, hc⟩
  cases el with
  | deriveInput d =>
      rcases List.mem_append.mp h with h | h
      · exact row h (by rw [component])
      · exact row h (by rw [component])
  | field f =>
      rcases List.mem_append.mp h with h | h
      · rcases List.mem_append.mp h with h | h
        · exact row h (by rw [component])
        · exact row h (by rw [component])
      · exact row h (by rw [component])
  | variant x =>
      rcases List.mem_append.mp h with h | h
      · exact row h (by rw [component])
      · exact row h (by rw [component])
  | typeParam t =>
      rcases List.mem_append.mp h with h | h
      · rcases List.mem_append.mp h with h | h
        · exact row h (by rw [component])
        · exact row h (by rw [component])
      · exact row h (by rw [component])
  | attrs as => cases h

/-- every declared magic member that the element kind has is produced -/
theorem earlyParts_complete (has : String → Bool) (el : Elem) (k : String) (v : Val)
    (hk : has k = true) (hc : component el k = some v) : (k, v) ∈ earlyParts has el := by
  have declared {kv : String × Val} : kv ∈ (if has k = true then [kv] else []) :=
    mem_ite_singleton.mpr ⟨hk, rfl⟩
  -- one case per row of the table, each the summand of `earlyParts` at its position
  unfold component at hc
  split at hc
  · cases hc; exact List.mem_append_left _ declared
  · cases hc; exact List.mem_append_right _ declared
  · cases hc; exact List.mem_append_left _ (List.mem_append_left _ declared)
  · cases hc; exact List.mem_append_left _ (List.mem_append_right _ declared)
  · cases hc; exact List.mem_append_right _ declared
  · cases hc; exact List.mem_append_left _ declared
  · cases hc; exact List.mem_append_right _ declared
  · cases hc; exact List.mem_append_left _ (List.mem_append_left _ declared)
  · cases hc; exact List.mem_append_left _ (List.mem_append_right _ declared)
  · cases hc; exact List.mem_append_right _ declared
  · cases hc

/-- the `?`-chained members (generics, body): all succeed ⇒ the values in order -/
theorem late_ok (parts : List (String × Outcome ν)) (l : List (String × ν))
    (h : lateValues parts = .ok l) : parts = l.map (fun kv => (kv.1, Outcome.ok kv.2)) := by
  induction parts generalizing l with
  | nil => cases h; rfl
  | cons p rest ih =>
      obtain ⟨k, o⟩ := p
      unfold lateValues at h
      cases o with
      | ok v =>
          simp only [] at h
          cases hr : lateValues rest with
          | ok l' => rw [hr] at h; cases h; rw [List.map_cons, ← ih l' hr]
          | err e => rw [hr] at h; cases h
          | panic m => rw [hr] at h; cases h
      | err e => cases h
      | panic m => cases h

theorem assemble_ok (r : SOuter ν) (st : PState ν) (attrsVal : Option ν)
    (lateParts : List (String × Outcome ν)) (early : List (String × ν)) (build : List (String × ν) → ν) (v : ν)
    (h : assemble r st attrsVal lateParts early build = .ok v) :
    ∃ a l inits, attrsPart r attrsVal = .ok a ∧ lateValues lateParts = .ok l ∧
      initFields r.fields st r.fields.fields = .ok inits ∧
      r.fields.post (build (early ++ a ++ l ++ inits)) = .ok v := by
  unfold assemble at h
  split at h
  · exact ⟨_, _, _, ‹_›, ‹_›, ‹_›, h⟩
  all_goals cases h

theorem finishChecked_ok (r : SOuter ν) (st : PState ν) (attrsVal : Option ν)
    (lateParts : List (String × Outcome ν)) (early : List (String × ν)) (build : List (String × ν) → ν) (v : ν)
    (h : finishChecked r st attrsVal lateParts early build = .ok v) :
    ∃ st', assemble r st' attrsVal lateParts early build = .ok v := by
  unfold finishChecked at h
  cases hf : flattenInit r.fields st with
  | error m => rw [hf] at h; cases h
  | ok st1 =>
      rw [hf] at h
      simp only [] at h
      cases he : (checkMissing r.fields.fields st1).errs with
      | nil => rw [he] at h; exact ⟨_, h⟩
      | cons e es => rw [he] at h; cases es <;> cases h

theorem finishOuter_ok (r : SOuter ν) (st : PState ν) (attrsVal : Option ν) (validate : Outcome Unit)
    (lateParts : List (String × Outcome ν)) (early : List (String × ν)) (build : List (String × ν) → ν) (v : ν)
    (h : finishOuter r st attrsVal validate lateParts early build = .ok v) :
    ∃ st' a l inits, attrsPart r attrsVal = .ok a ∧ lateValues lateParts = .ok l ∧
      initFields r.fields st' r.fields.fields = .ok inits ∧
      r.fields.post (build (early ++ a ++ l ++ inits)) = .ok v := by
  have hs : ∃ st', assemble r st' attrsVal lateParts early build = .ok v := by
    unfold finishOuter at h
    cases validate with
    | panic m => cases h
    | err e => exact finishChecked_ok _ _ _ _ _ _ _ h
    | ok u => exact finishChecked_ok _ _ _ _ _ _ _ h
  obtain ⟨st', hs⟩ := hs
  exact ⟨st', assemble_ok _ _ _ _ _ _ _ hs⟩

/-- **A successful receiver is built from the element's own parts, unchanged**: the record handed
    to `build` starts with exactly the pass-through members given (`earlyParts`), followed by the
    `attrs` member, the successfully converted late members (generics, body) and the ordinary
    fields — nothing is dropped, reordered or altered on the way. -/
theorem finishOuter_mirrors (r : SOuter ν) (st : PState ν) (attrsVal : Option ν) (validate : Outcome Unit)
    (lateParts : List (String × Outcome ν)) (early : List (String × ν)) (build : List (String × ν) → ν) (v : ν)
    (h : finishOuter r st attrsVal validate lateParts early build = .ok v) :
    ∃ a l inits, lateParts = l.map (fun kv => (kv.1, Outcome.ok kv.2)) ∧
      r.fields.post (build (early ++ a ++ l ++ inits)) = .ok v := by
  obtain ⟨_, a, l, inits, _, hl, _, hv⟩ := finishOuter_ok _ _ _ _ _ _ _ _ h
  exact ⟨a, l, inits, late_ok _ _ hl, hv⟩

/-! ### the `ast::Generics` mirror -/

theorem collectFirst_ok_iff {β γ : Type} (f : β → Outcome γ) (xs : List β) (vs : List γ) :
    collectFirst f xs = .ok vs ↔ xs.map f = vs.map Outcome.ok := by
  induction xs generalizing vs with
  | nil =>
      cases vs with
      | nil => exact ⟨fun _ => rfl, fun _ => rfl⟩
      | cons v vs => exact ⟨fun h => (nomatch h), fun h => (nomatch h)⟩
  | cons x rest ih =>
      unfold collectFirst
      constructor
      · intro h
        cases hx : f x with
        | ok v =>
            rw [hx] at h
            cases hr : collectFirst f rest with
            | ok ws => rw [hr] at h; cases h; rw [List.map_cons, List.map_cons, hx, (ih ws).mp hr]
            | err e => rw [hr] at h; cases h
            | panic m => rw [hr] at h; cases h
        | err e => rw [hx] at h; cases h
        | panic m => rw [hx] at h; cases h
      · intro h
        cases vs with
        | nil => cases h
        | cons w ws =>
            rw [List.map_cons, List.map_cons, List.cons.injEq] at h
            rw [h.1, (ih ws).mpr h.2]

/-- the mirror succeeds exactly with the record of one mirrored entry per parameter, in source
    order, and the input's where-clause — whether or not there are parameters -/
theorem genericsMirror_eq_ok_iff (wrap : Option (TypeParamD → Outcome Val)) (g : GenericsD) (v : Val) :
    genericsMirror wrap g = .ok v ↔
      ∃ ps, g.params.map (gparamMirror wrap) = ps.map Outcome.ok ∧
        v = .record "Generics" [("params", .list ps), ("where_clause", whereVal g)] := by
  unfold genericsMirror
  constructor
  · intro h
    cases hc : collectFirst (gparamMirror wrap) g.params with
    | ok ps => rw [hc] at h; cases h; exact ⟨ps, (collectFirst_ok_iff _ _ _).mp hc, rfl⟩
    | err e => rw [hc] at h; cases h
    | panic m => rw [hc] at h; cases h
  · rintro ⟨ps, hm, rfl⟩
    rw [(collectFirst_ok_iff _ _ _).mpr hm]

/-- a successful mirror has exactly one converted entry per input parameter, in source order, and
    the where-clause of the input — whether or not there are parameters -/
theorem genericsMirror_ok (wrap : Option (TypeParamD → Outcome Val)) (g : GenericsD) (v : Val)
    (h : genericsMirror wrap g = .ok v) :
    ∃ ps, v = .record "Generics" [("params", .list ps), ("where_clause", whereVal g)] ∧
      g.params.map (gparamMirror wrap) = ps.map Outcome.ok ∧ ps.length = g.params.length := by
  obtain ⟨ps, hm, hv⟩ := (genericsMirror_eq_ok_iff wrap g v).mp h
  have hlen := congrArg List.length hm
  rw [List.length_map, List.length_map] at hlen
  exact ⟨ps, hv, hm, hlen.symm⟩

theorem genericsMirror_none (g : GenericsD) :
    genericsMirror none g = .ok (.record "Generics"
      [("params", .list (g.params.map (fun p => match p with
          | .type t => Val.toks t.toks | .lifetime s => .toks s | .const s => .toks s))),
       ("where_clause", whereVal g)]) := by
  rw [genericsMirror_eq_ok_iff]
  refine ⟨_, ?_, rfl⟩
  rw [List.map_map]
  apply List.map_congr_left
  intro p _
  cases p <;> rfl

/-- the clone instance (`P = syn::GenericParam`) never fails and reproduces every parameter's tokens -/
theorem genericsMirror_clone (g : GenericsD) :
    ∃ ps, genericsMirror none g = .ok (.record "Generics" [("params", .list ps), ("where_clause", whereVal g)]) ∧
      ps.length = g.params.length :=
  ⟨_, genericsMirror_none g, List.length_map _⟩

/-- a where-clause without a parameter list is mirrored too -/
example : genericsMirror none { whereToks := "where String : Clone", hasWhere := true } =
    .ok (.record "Generics" [("params", .list []), ("where_clause", .some (.toks "where String : Clone"))]) := by
  simp [genericsMirror, collectFirst, whereVal]

/-! ### printing a converted field list -/

theorem printFields_named (fields : List String) (h : fields ≠ []) :
    printFields .named fields = "{" ++ ",".intercalate fields ++ "," ++ "}" := by
  cases fields with
  | nil => exact absurd rfl h
  | cons f fs => simp [printFields]

theorem printFields_named_empty : printFields .named [] = "{}" := by decide
theorem printFields_tuple (fields : List String) : printFields .tuple fields = "(" ++ ",".intercalate fields ++ ")" := rfl
theorem printFields_unit (fields : List String) : printFields .unit fields = "" := rfl

/-! ### non-vacuity -/

private def fA : FieldD := { ident := some "a", ty := default, tyToks := "u8", vis := "pub", attrs := [] }
private def fB : FieldD := { ident := some "b", ty := default, tyToks := "u16", vis := "", attrs := [] }
private def convToks (f : FieldD) : Outcome Val := if f.tyToks == "u16" then .err (Err.custom "no") else .ok (.toks f.tyToks)

example : NoPanic convToks [fA, fB] := by
  intro x hx
  simp at hx
  rcases hx with rfl | rfl <;> decide

example : failures convToks [fA, fB] = [(Err.custom "no").at "b"] := by
  simp [failures, convToks, fA, fB, located]
example : okVals convToks [fA, fA] = [.toks "u8", .toks "u8"] := by
  simp [okVals, convToks, fA]

end C16
