import Darling.FromMeta.SynTypes
import Darling.Spec.C15
import Darling.Lemmas.Error
/-
  C13 — Syntax-typed values reproduce the user's tokens; quoted and bare forms agree.

  The grammar parsers of `syn` on string contents (`parse`) and the printer (`toks`, carried by
  the syntax mirror) are external.  What is proved here, for every parser `parse`, every value
  injection `tok` and every expression: *which* tokens each implementor returns — the bare
  expression's own tokens, or the parser's output on the string's contents — and that every
  other literal kind / expression kind is rejected with a span.  PARTIAL: that syn's printer and
  parser round-trip (`parse (toks e) = toks e`) is a hypothesis (`hrt` of `expr_agree`), observed
  by the correspondence run, not proved.
-/
open SynTypes Spec.C15

namespace C13
variable {α : Type}

/-- a literal that is not a string -/
def notStr (l : Lit) : Prop := ∀ s, l.v ≠ .str s

/-- Induction on the invisible groups around a value.  Every `from_expr` below, `ungroup`,
    `strLitOf` and `Expr.toks` step through a group by definition, so the `group` case of a proof
    by this principle is its induction hypothesis.  (The recursion is that of `Expr.toks`.) -/
theorem group_induct {P : Expr → Prop} (group : ∀ g sp, P g → P (.group g sp))
    (lit : ∀ l, P (.lit l)) (path : ∀ p sp, P (.path p sp)) (qpath : ∀ p t sp, P (.qpath p t sp))
    (array : ∀ es t sp, P (.array es t sp)) (other : ∀ k t sp, P (.other k t sp)) (e : Expr) : P e :=
  Expr.toks.induct P lit path qpath group array other e

theorem match_notStr {β : Sort _} {l : Lit} (h : notStr l) (A : String → β) (B : β) :
    (match l.v with | .str s => A s | _ => B) = B := by
  obtain ⟨v, t, sp⟩ := l
  cases v <;> first | rfl | exact absurd rfl (h _)

theorem str_or_notStr (l : Lit) : (∃ s t sp, l = ⟨.str s, t, sp⟩) ∨ notStr l := by
  obtain ⟨v, t, sp⟩ := l
  cases v with
  | str s => exact .inl ⟨s, t, sp, rfl⟩
  | _ => exact .inr (fun _ h => by cases h)

theorem quoted_is_parsed (parse : String → Option String) (tok : String → α) (s t : String) (sp : Span) :
    parsedFromValue parse tok ⟨.str s, t, sp⟩ =
      match parse s with
      | some out => .ok (tok out)
      | none => .err (.leaf (.unknownValue s) [] (some sp)) := by
  show (match parse s with | some t => _ | none => _) = _
  cases parse s <;> rfl

theorem other_literal_rejected (parse : String → Option String) (tok : String → α) (l : Lit) (h : notStr l) :
    parsedFromValue parse tok l = .err (.leaf (.unexpectedType l.typeName) [] (some l.span)) :=
  match_notStr h _ _

theorem parsed_reject_spanned (parse : String → Option String) (tok : String → α) (l : Lit) (err : Err)
    (h : parsedFromValue parse tok l = .err err) : err.span = some l.span := by
  rcases str_or_notStr l with ⟨s, t, sp, rfl⟩ | hn
  · rw [quoted_is_parsed] at h
    cases hp : parse s with
    | none => rw [hp] at h; cases h; rfl
    | some out => rw [hp] at h; cases h
  · rw [other_literal_rejected parse tok l hn] at h
    cases h
    rfl

theorem expr_bare (parse : String → Option String) (tok : String → α) (e : Expr)
    (hs : ∀ l, ungroup e = .lit l → notStr l) :
    exprFromExpr parse tok e = .ok (tok (ungroup e).toks) := by
  induction e using group_induct with
  | group g sp ih => exact ih hs
  | lit l => exact match_notStr (hs l rfl) _ _
  | _ => rfl

theorem expr_quoted (parse : String → Option String) (tok : String → α) (s t : String) (sp : Span) :
    exprFromExpr parse tok (.lit ⟨.str s, t, sp⟩) = parsedFromValue parse tok ⟨.str s, t, sp⟩ := rfl

/-- where both spellings are accepted they produce equal values — given that syn re-parses what
    it printed (`hrt`) -/
theorem expr_agree (parse : String → Option String) (tok : String → α) (e : Expr)
    (hs : ∀ l, ungroup e = .lit l → notStr l) (t : String) (sp : Span)
    (hrt : parse (ungroup e).toks = some (ungroup e).toks) :
    exprFromExpr parse tok e = exprFromExpr parse tok (.lit ⟨.str (ungroup e).toks, t, sp⟩) := by
  rw [expr_bare parse tok e hs, expr_quoted, quoted_is_parsed, hrt]

theorem path_bare (parse : String → Option String) (tok : String → α) (p : Path) (sp : Span) :
    pathFromExpr parse tok (.path p sp) = .ok (tok (Expr.path p sp).toks) := rfl

theorem path_accepts_only (parse : String → Option String) (tok : String → α) (e : Expr) (v : α)
    (h : pathFromExpr parse tok e = .ok v) :
    (∃ p sp, ungroup e = .path p sp ∧ v = tok (ungroup e).toks)
      ∨ (∃ s t sp out, ungroup e = .lit ⟨.str s, t, sp⟩ ∧ parse s = some out ∧ v = tok out) := by
  induction e using group_induct with
  | group g sp ih => exact ih h
  | lit l =>
      have h' : parsedFromValue parse tok l = .ok v := h
      rcases str_or_notStr l with ⟨s, t, sp, rfl⟩ | hn
      · rw [quoted_is_parsed] at h'
        cases hp : parse s with
        | none => rw [hp] at h'; cases h'
        | some out => rw [hp] at h'; cases h'; exact .inr ⟨s, t, sp, out, rfl, hp, rfl⟩
      · rw [other_literal_rejected parse tok l hn] at h'
        cases h'
  | path p sp => cases h; exact .inl ⟨p, sp, rfl, rfl⟩
  | _ => cases h

theorem path_reject_at (parse : String → Option String) (tok : String → α) (e : Expr) (err : Err)
    (h : pathFromExpr parse tok e = .err err) : err.span = some (ungroup e).span := by
  induction e using group_induct with
  | group g sp ih => exact ih h
  | lit l => exact parsed_reject_spanned parse tok l err h
  | path p sp => cases h
  | _ => cases h; rfl

theorem path_reject_spanned (parse : String → Option String) (tok : String → α) (e : Expr) (err : Err)
    (h : pathFromExpr parse tok e = .err err) : err.span ≠ none := by
  rw [path_reject_at parse tok e err h]
  exact Option.some_ne_none _

theorem synExpr_on_bare (v : ExprVariant) (parse : String → Option String) (tok : String → α) (e : Expr)
    (hl : ∀ l, e ≠ .lit l) (hg : ∀ g s, e ≠ .group g s) :
    synExprFromExpr v parse tok e =
      if v.isVariant e then .ok (tok e.toks) else .err (Err.unexpectedExprType e) := by
  cases e with
  | lit l => exact absurd rfl (hl l)
  | group g s => exact absurd rfl (hg g s)
  | _ => rfl

theorem synExpr_bare (v : ExprVariant) (parse : String → Option String) (tok : String → α) (e : Expr)
    (hv : v.isVariant e = true) (hl : ∀ l, e ≠ .lit l) (hg : ∀ g s, e ≠ .group g s) :
    synExprFromExpr v parse tok e = .ok (tok e.toks) := by
  rw [synExpr_on_bare v parse tok e hl hg, if_pos hv]

theorem synExpr_other_rejected (v : ExprVariant) (parse : String → Option String) (tok : String → α) (e : Expr)
    (hv : v.isVariant e = false) (hl : ∀ l, e ≠ .lit l) (hg : ∀ g s, e ≠ .group g s) :
    synExprFromExpr v parse tok e = .err (Err.unexpectedExprType e) := by
  rw [synExpr_on_bare v parse tok e hl hg, hv]
  rfl

theorem synExpr_group_transparent (v : ExprVariant) (parse : String → Option String) (tok : String → α) (g : Expr) (s : Span) :
    synExprFromExpr v parse tok (.group g s) = synExprFromExpr v parse tok g := rfl

/-- string-only syntax types (`from_syn_parse!`: types, visibility, where-clause) -/
theorem synParse_quoted (parse : String → Option String) (tok : String → α) (s t : String) (sp : Span) :
    (synParseHooks parse tok).fromValue ⟨.str s, t, sp⟩ =
      match parse s with
      | some out => .ok (tok out)
      | none => .err (.leaf (.unknownValue s) [] (some sp)) :=
  quoted_is_parsed parse tok s t sp

/-- the trait's default `from_expr` rejects a value that is not a literal at the value as
    written: the spans of the groups around it come too late -/
theorem fromExprD_bare (h : Hooks α) (e : Expr) (hl : ∀ l, ungroup e ≠ .lit l) :
    ∃ err, h.fromExprD e = .err err ∧ err.span = some (ungroup e).span := by
  induction e using group_induct with
  | group g sp ih =>
      obtain ⟨err, he, hs⟩ := ih hl
      refine ⟨err, ?_, hs⟩
      show (h.fromExprD g).mapErr _ = _
      rw [he]
      show Outcome.err (err.withSpan sp) = _
      rw [Err.withSpan_of_spanned (hs ▸ Option.some_ne_none _)]
  | lit l => exact absurd rfl (hl l)
  | _ => exact ⟨_, rfl, rfl⟩

/-- a bare (non-literal) expression is rejected with a span -/
theorem synParse_bare_rejected (parse : String → Option String) (tok : String → α) (e : Expr)
    (hl : ∀ l, ungroup e ≠ .lit l) :
    ∃ err, (synParseHooks parse tok).fromExpr e = .err err ∧ err.span ≠ none := by
  obtain ⟨err, he, hs⟩ := fromExprD_bare (synParseHooks parse tok) e hl
  exact ⟨err, he, by rw [hs]; exact Option.some_ne_none _⟩

theorem litKind_exact (k : LitKind) (tok : String → α) (l : Lit) :
    litKindFromValue k tok l =
      if k.matchesLit l then .ok (tok l.toks) else .err (.leaf (.unexpectedType l.typeName) [] (some l.span)) := rfl

theorem lit_any (tok : String → α) (l : Lit) : (litHooks tok).fromValue l = .ok (tok l.toks) := rfl

/-- whole meta items come back as written -/
theorem meta_identity (tok : String → α) (m : Meta) : (metaHooks tok).fromMeta m = .ok (tok m.toks) := rfl

/-- the test of `parse_str_literal`: the value, its invisible groups peeled, is a string literal -/
theorem strLitOf_some (e : Expr) (l : Lit) :
    strLitOf e = some l ↔ ungroup e = .lit l ∧ ∃ s, l.v = .str s := by
  induction e using group_induct with
  | group g sp ih => exact ih
  | lit l' =>
      constructor
      · intro h
        rcases str_or_notStr l' with ⟨s, t, sp, rfl⟩ | hn
        · cases h; exact ⟨rfl, s, rfl⟩
        · rw [show strLitOf (.lit l') = none from match_notStr hn _ _] at h
          cases h
      · intro ⟨h, s, hs⟩
        cases h
        show (match l.v with | .str _ => some l | _ => none) = some l
        rw [hs]
  | _ => exact ⟨fun h => (by cases h), fun h => (by cases h.1)⟩

theorem strLitOf_none (e : Expr) :
    strLitOf e = none ↔ ∀ s t sp, ungroup e ≠ .lit ⟨.str s, t, sp⟩ := by
  constructor
  · intro h s t sp hu
    have := (strLitOf_some e ⟨.str s, t, sp⟩).mpr ⟨hu, s, rfl⟩
    rw [h] at this; cases this
  · intro h
    cases hs : strLitOf e with
    | none => rfl
    | some l =>
        obtain ⟨hu, s, hv⟩ := (strLitOf_some e l).mp hs
        obtain ⟨v, t, sp⟩ := l
        cases hv
        exact absurd hu (h s t sp)

/-- an invisible group prints as its contents -/
theorem toks_ungroup (e : Expr) : (ungroup e).toks = e.toks := by
  induction e using group_induct with
  | group g sp ih => exact ih
  | _ => rfl

/-- off string literals — any other literal included, grouped or not — the two helpers return the
    same thing: the value as written -/
theorem helpers_agree_off_strings (parse : String → Option String) (tok : String → α) (m : Meta)
    (h : ∀ p e t' sp', m = .nameValue p e t' sp' → ∀ s t sp, ungroup e ≠ .lit ⟨.str s, t, sp⟩) :
    parseStrLiteral parse tok m = preserveStrLiteral tok m := by
  cases m with
  | path p => rfl
  | list _ _ _ _ _ _ => rfl
  | nameValue p e t sp =>
      show (match strLitOf e with | some l => _ | none => _) = _
      rw [(strLitOf_none e).mpr (h p e t sp rfl)]
      rfl

/-- in particular a literal that is not a string is returned as written by both -/
theorem helpers_agree_on_other_literals (parse : String → Option String) (tok : String → α)
    (p : Path) (l : Lit) (hl : notStr l) (t : String) (sp : Span) :
    parseStrLiteral parse tok (.nameValue p (.lit l) t sp) = .ok (tok l.toks) ∧
    preserveStrLiteral tok (.nameValue p (.lit l) t sp) = .ok (tok l.toks) := by
  refine ⟨?_, rfl⟩
  rw [helpers_agree_off_strings parse tok _ ?_]
  · rfl
  · intro p' e t' sp' hm s lt lsp hu
    cases hm
    cases hu
    exact hl s rfl

/-- on a string literal, at any depth of invisible groups, one helper keeps the literal … -/
theorem helper_preserve_keeps_string (tok : String → α) (p : Path) (e : Expr) (s t : String) (sp : Span)
    (he : ungroup e = .lit ⟨.str s, t, sp⟩) (t' : String) (sp' : Span) :
    preserveStrLiteral tok (.nameValue p e t' sp') = .ok (tok t) := by
  show Outcome.ok (tok e.toks) = _
  rw [← toks_ungroup e, he]
  rfl

/-- … and the other parses its contents -/
theorem helper_parse_parses_string (parse : String → Option String) (tok : String → α) (p : Path)
    (e : Expr) (s t : String) (sp : Span) (he : ungroup e = .lit ⟨.str s, t, sp⟩) (t' : String) (sp' : Span) :
    parseStrLiteral parse tok (.nameValue p e t' sp') = parsedFromValue parse tok ⟨.str s, t, sp⟩ := by
  show (match strLitOf e with | some l => _ | none => _) = _
  rw [(strLitOf_some e ⟨.str s, t, sp⟩).mpr ⟨he, s, rfl⟩]

/-- the parsing helper reads a value exactly like `syn::Expr::from_meta` reads it -/
theorem helper_parse_is_expr_target (parse : String → Option String) (tok : String → α) (p : Path)
    (e : Expr) (t : String) (sp : Span) :
    parseStrLiteral parse tok (.nameValue p e t sp) = exprFromExpr parse tok e := by
  induction e using group_induct with
  | group g gsp ih => exact ih
  | lit l =>
      obtain ⟨v, lt, lsp⟩ := l
      cases v <;> rfl
  | _ => rfl

/-! ### `syn::Path` on a bare path, on its quoted spelling, and on a qualified path -/
def pAB : Path := { global := false, segs := ["a", "b"], plain := true, toks := "a :: b", span := ⟨4, 8⟩ }
example : pathFromExpr (fun s => if s = "a::b" then some "a :: b" else none) id (.path pAB ⟨4, 8⟩) = .ok "a :: b" := rfl
example : pathFromExpr (fun s => if s = "a::b" then some "a :: b" else none) id
    (.lit ⟨.str "a::b", "\"a::b\"", ⟨4, 10⟩⟩) = .ok "a :: b" := by
  simp [pathFromExpr, parsedFromValue]
example : ∃ e, pathFromExpr (fun _ => none) (id : String → String) (.qpath pAB "< T > :: a :: b" ⟨4, 12⟩) = .err e := ⟨_, rfl⟩

end C13
