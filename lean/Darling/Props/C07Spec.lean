import Darling.Props.C07
import Darling.Props.C07Universe
import Darling.Props.C07Outer
import Darling.Props.C07Recv
import Darling.Props.C07OuterRun
/-
  C07 — an independent reading of the property text, and `model ⊨ text` end to end.

  The text: "for every derived receiver and every built-in conversion, and for every syntax tree
  a macro can be handed […] the parsing entry points return a value or an error.  They never
  panic, never trip an unfinished accumulator, and never rely on an `expect`/`unreachable` that
  some input can reach."

  What the result must be (no step function of the model is mentioned):

    * `Total o`              — the outcome `o` is `Ok v` or `Err e`;
    * `EntryPointsTotal h`   — *every* parsing entry point of a `FromMeta` implementor
                               (`from_nested_meta`, `from_meta`, `from_word`, `from_list`,
                               `from_value`, `from_expr`, `from_char`, `from_string`, `from_bool`,
                               as routed by the trait's default bodies) is total on every input;
    * `UserPanic`, `OuterUserPanic`
                             — what a panic that does come out of a generated parser must be:
                               never one of the `expect` / `unreachable!` / `unwrap_err` / `panic!`
                               sites that belong to darling itself, *whatever the user-supplied
                               functions do* (they may panic; then their message comes out).

  Main theorems:

    * `entryPointsTotal_iff_np`        the text's notion (every entry point, as a caller reaches it)
                                       coincides with the model's working notion `Hooks.NP`;
    * `builtin_entryPoints_total`      every built-in conversion, every entry point, every input;
                                       nested receivers from any corpus at any depth; no hypothesis;
    * `receiver_entryPoints_total`     every derived `FromMeta` receiver of every corpus, at every
                                       nesting depth, every entry point; no hypothesis;
    * `receiver_is_assembled`, `derived_receiver_total`
                                       … and this is about the hooks a successful derive assembles,
                                       not about the empty stand-in of a failed derive;
    * `element_total_partial`          every element-level receiver on every element, under the one
                                       side condition `CorpusDerives` (every declaration of the
                                       corpus went through its derive macro without a panic);
    * `element_panic_only_from_derive` the side condition is the only way to a panic;
    * `discrepancy_F8`                 the side condition cannot be dropped (the derive-time panic of
                                       `ident_case`, finding F8, is the model's run-time outcome);
    * `struct_panic_origin`, `finishStruct_panic_origin`, `variant_panic_origin`,
      `outer_panic_origin`, `derived_struct_panic_origin`
                                       a panic of a generated parser is a panic of a user-supplied
                                       piece on an argument it was handed: both generated `expect`s
                                       are dead without assuming anything about user code (the totality
                                       theorems of C07Outer assume `ConvsReturn`: user code never
                                       panics at all).

  Not expressible in the run-time model, hence no theorem here: "never trip an unfinished
  accumulator".  The generated parsers keep their errors in a plain list (`PState.errs`); the drop
  bomb of `Accumulator` exists only in `Darling/Accum.lean` (C05), which no generated path uses.
  That every path from `Error::accumulator()` reaches `finish` is a syntactic fact about the
  templates (no `?` / `return` in between).
-/
open Derive Options Scalars Wrappers SynTypes

namespace C07
variable {α : Type}

/-! ## 1. the text's predicate -/

/-- "every input yields Ok or Err" -/
def Total (o : Outcome α) : Prop := (∃ v, o = .ok v) ∨ (∃ e, o = .err e)

theorem total_iff_returns (o : Outcome α) : Total o ↔ o.Returns := by
  constructor
  · rintro (⟨v, rfl⟩ | ⟨e, rfl⟩)
    · exact Outcome.returns_ok v
    · exact Outcome.returns_err e
  · intro h
    cases o with
    | ok v => exact Or.inl ⟨v, rfl⟩
    | err e => exact Or.inr ⟨e, rfl⟩
    | panic m => exact absurd rfl (h m)

/-- "never a panic" -/
theorem Total.not_panic {o : Outcome α} (h : Total o) (m : String) : o ≠ .panic m :=
  (total_iff_returns o).1 h m

/-- every parsing entry point of a `FromMeta` implementor, as a caller reaches it (an overridden
    method, or the trait's default body routing to the other methods) -/
structure EntryPointsTotal (h : Hooks α) : Prop where
  fromNestedMeta : ∀ n, Total (h.fromNestedMeta n)
  fromMeta : ∀ m, Total (h.fromMeta m)
  fromWord : Total h.fromWord
  fromList : ∀ items, Total (h.fromList items)
  fromValue : ∀ l, Total (h.fromValue l)
  fromExpr : ∀ e, Total (h.fromExpr e)
  fromChar : ∀ c, Total (h.fromChar c)
  fromString : ∀ s, Total (h.fromString s)
  fromBool : ∀ b, Total (h.fromBool b)

/-- the model's working notion (`Hooks.NP`: every *overridden* method returns) says exactly that
    every *entry point* is total: closure under the default routing in one direction, an
    overridden method *is* the entry point in the other -/
theorem entryPointsTotal_iff_np (h : Hooks α) : EntryPointsTotal h ↔ h.NP := by
  constructor
  · intro t
    constructor
    · intro f hf n
      have := (total_iff_returns _).1 (t.fromNestedMeta n)
      simpa only [Hooks.fromNestedMeta, hf] using this
    · intro f hf m
      have := (total_iff_returns _).1 (t.fromMeta m)
      simpa only [Hooks.fromMeta, hf] using this
    · intro r hr
      have := (total_iff_returns _).1 t.fromWord
      simpa only [Hooks.fromWord, hr] using this
    · intro f hf items
      have := (total_iff_returns _).1 (t.fromList items)
      simpa only [Hooks.fromList, hf] using this
    · intro f hf l
      have := (total_iff_returns _).1 (t.fromValue l)
      simpa only [Hooks.fromValue, hf] using this
    · intro f hf e
      have := (total_iff_returns _).1 (t.fromExpr e)
      simpa only [Hooks.fromExpr, hf] using this
    · intro f hf c
      have := (total_iff_returns _).1 (t.fromChar c)
      simpa only [Hooks.fromChar, hf] using this
    · intro f hf s
      have := (total_iff_returns _).1 (t.fromString s)
      simpa only [Hooks.fromString, hf] using this
    · intro f hf b
      have := (total_iff_returns _).1 (t.fromBool b)
      simpa only [Hooks.fromBool, hf] using this
  · intro np
    exact
      { fromNestedMeta := fun n => (total_iff_returns _).2 (np.fromNestedMeta n)
        fromMeta := fun m => (total_iff_returns _).2 (np.fromMeta m)
        fromWord := (total_iff_returns _).2 np.fromWord
        fromList := fun items => (total_iff_returns _).2 (np.fromList items)
        fromValue := fun l => (total_iff_returns _).2 (np.fromValue l)
        fromExpr := fun e => (total_iff_returns _).2 (np.fromExpr e)
        fromChar := fun c => (total_iff_returns _).2 (np.fromChar c)
        fromString := fun s => (total_iff_returns _).2 (np.fromString s)
        fromBool := fun b => (total_iff_returns _).2 (np.fromBool b) }

/-! ## 2. every built-in conversion -/

/-- **every built-in conversion is total at every entry point**, for every target type of the
    universe (scalars, the 24 integer and 2 float targets, wrappers at any nesting, syntax types,
    literal vectors, keyed collections), with derived receivers of *any* corpus nested at *any*
    depth inside it.  No hypothesis. -/
theorem builtin_entryPoints_total (o : Oracle) (env : Env.T) (fuel : Nat) (t : Ty) :
    EntryPointsTotal (hooksOf o (Env.recvHooksF fuel env) t) :=
  (entryPointsTotal_iff_np _).2 (hooksOf_np o _ (fun n => recvHooksF_np env fuel n) t)

/-- the same relative to arbitrary nested implementors (user-written `FromMeta` impls included),
    as long as *their* entry points are total -/
theorem builtin_entryPoints_total_rel (o : Oracle) (rh : String → Hooks Val)
    (hr : ∀ n, EntryPointsTotal (rh n)) (t : Ty) : EntryPointsTotal (hooksOf o rh t) :=
  (entryPointsTotal_iff_np _).2 (hooksOf_np o rh (fun n => (entryPointsTotal_iff_np _).1 (hr n)) t)

/-! ## 3. every derived `FromMeta` receiver -/

/-- **every derived `FromMeta` receiver of every corpus is total at every entry point**, at every
    nesting depth (`fuel`), on every input.  No hypothesis. -/
theorem receiver_entryPoints_total (env : Env.T) (fuel : Nat) (name : String) :
    EntryPointsTotal (Env.recvHooksF fuel env name) :=
  (entryPointsTotal_iff_np _).2 (recvHooksF_np env fuel name)

/-- the theorem above is about the assembled receiver whenever there is one: a name that resolves
    to a declaration the derive macro accepts denotes the hooks built from what the macro resolved
    (and not the empty stand-in the model uses for unknown names, failed derives and exhausted fuel) -/
theorem receiver_is_assembled (env : Env.T) (fuel : Nat) (name n : String) (t : Trait) (d : DeclD)
    (sp : DeclSpans) (r : RFromMeta) (hf : env.decls.find? (·.1 == name) = some (n, t, d, sp))
    (hd : Options.derive t env.oracle (fun _ => none) sp d = .ok (.fromMeta r)) :
    Env.recvHooksF (fuel + 1) env name = Env.fromMetaHooks env (Env.recvHooksF fuel env) r := by
  simp only [Env.recvHooksF, hf, hd]

/-- **the receiver a successful derive assembles is total**, whatever total implementors its field
    types resolve to: stated on the declaration, with no corpus, no fuel and no stand-in -/
theorem derived_receiver_total (env : Env.T) (rh : String → Hooks Val) (hr : ∀ n, EntryPointsTotal (rh n))
    (t : Trait) (sim : String → Option (Nat × String)) (sp : DeclSpans) (d : DeclD) (r : RFromMeta)
    (hd : Options.derive t env.oracle sim sp d = .ok (.fromMeta r)) :
    EntryPointsTotal (Env.fromMetaHooks env rh r) :=
  (entryPointsTotal_iff_np _).2
    (fromMetaHooks_np env rh (fun n => (entryPointsTotal_iff_np _).1 (hr n)) r
      (derive_linked t env.oracle sim sp d r hd))

/-! ## 4. every element-level receiver -/

/-- the `did-you-mean` oracle `Env.outerRunF` hands to the derive model -/
def simOf (env : Env.T) : String → Option (Nat × String) :=
  fun n => Suggest.didYouMean env.thr [("with", env.oracle.score n "with")]

/-- the corpus exists: every declaration went through its derive macro without a panic (the macro
    may well have rejected it with diagnostics).  A receiver whose derive panicked was never
    compiled, so it is not among "all receivers in the corpus". -/
def CorpusDerives (env : Env.T) : Prop :=
  ∀ x ∈ env.decls, ∀ m, Options.derive x.2.1 env.oracle (simOf env) x.2.2.2 x.2.2.1 ≠ .panic m

/-- `C06.DeclSafe` (a condition on the identifiers) is sufficient, not necessary -/
theorem corpusDerives_of_declSafe (env : Env.T) (h : ∀ x ∈ env.decls, C06.DeclSafe x.2.2.1) :
    CorpusDerives env :=
  fun x hx => C06.derive_returns _ _ _ _ _ (h x hx)

/-- **every element-level receiver (`FromDeriveInput`, `FromField`, `FromVariant`, `FromTypeParam`,
    `FromAttributes`) of every corpus is total on every element** — any data shape (unions, empty
    enums), any attribute list (bodies that are not meta syntax, name-value and bare forms), any
    nesting depth of delegation — under the one side condition that the corpus exists -/
theorem element_total_partial (env : Env.T) (hc : CorpusDerives env) (fuel : Nat) (name : String) (el : Elem) :
    Total (Env.outerRunF fuel env name el) :=
  (total_iff_returns _).2 (outerRunF_returns_of_derives env hc fuel name el)

/-- **the side condition is the only way to a panic**: a panicking outcome of the element-level
    model is a panic of some derive macro of the corpus (a compile-time event), never of the
    generated `from_*` -/
theorem element_panic_only_from_derive (env : Env.T) (fuel : Nat) (name : String) (el : Elem) (m : String)
    (h : Env.outerRunF fuel env name el = .panic m) :
    ∃ x ∈ env.decls, ∃ m', Options.derive x.2.1 env.oracle (simOf env) x.2.2.2 x.2.2.1 = .panic m' := by
  apply Classical.byContradiction
  intro hno
  have hc : CorpusDerives env := by
    intro x hx m' hd
    exact hno ⟨x, hx, m', hd⟩
  exact outerRunF_returns_of_derives env hc fuel name el m h

/-- a derive-time panic of the receiver's declaration is the outcome of its run -/
theorem outerRunF_of_derive_panic (env : Env.T) (fuel : Nat) (name : String) (el : Elem)
    {x : String × Trait × DeclD × DeclSpans} {m : String}
    (hf : env.decls.find? (·.1 == name) = some x)
    (hd : Options.derive x.2.1 env.oracle (simOf env) x.2.2.2 x.2.2.1 = .panic m) :
    Env.outerRunF (fuel + 1) env name el = .panic m := by
  unfold Env.outerRunF
  rw [hf]
  show (match Options.derive x.2.1 env.oracle (simOf env) x.2.2.2 x.2.2.1 with
    | .ok (.outer r) => _ | .ok (.fromMeta _) => _ | .err e => _ | .panic m => _) = _
  rw [hd]

/-- **the receiver a successful derive assembles is total on every element**, whatever total
    receivers and entry converters it delegates to -/
theorem derived_element_total (env : Env.T) (run conv : String → Elem → Outcome Val)
    (hrun : ∀ n el, Total (run n el)) (hconv : ∀ n el, Total (conv n el))
    (t : Trait) (sim : String → Option (Nat × String)) (sp : DeclSpans) (d : DeclD) (r : ROuter)
    (hd : Options.derive t env.oracle sim sp d = .ok (.outer r)) (el : Elem) :
    Total (Env.runOuter env run conv r el) :=
  (total_iff_returns _).2
    (runOuter_returns env run conv (fun n el => (total_iff_returns _).1 (hrun n el))
      (fun n el => (total_iff_returns _).1 (hconv n el)) r
      (derive_outer_linked t env.oracle sim sp d r hd) el)

/-! ## 5. darling's own `expect`s are dead whatever user code does

  The totality theorems of C07Outer (`struct_fromList_returns`, `outer_returns`) assume that every
  converter, every `with` / `map` / `and_then` function and every nested implementor returns on
  *all* inputs (`ConvsReturn`).  The text asks for more: the
  generated code must not *rely* on an `expect` that some input can reach.  Here nothing is assumed
  about the user-supplied pieces — they may panic — and the conclusion is that a panic that comes
  out of a generated parser is one of *their* panics, on an argument they were actually handed.
  Both readings are instances of one walk over the generated code (`C07Outer`, `PanicsIn`). -/

section Origin
variable {ν : Type}

/-- the panic message `m` is the panic of a user-supplied piece of the struct parser `s`: a field
    converter (`with` function, post-transform or the field type's `from_meta`) on some item, the
    `from_list` of the flatten field's type on some item list, or the container's post-transform -/
inductive UserPanic (s : SStruct ν) (m : String) : Prop where
  | conv (f : SField ν) (hf : f ∈ s.fields) (x : Meta) (h : f.conv x = .panic m)
  | list (f : SField ν) (hf : f ∈ s.fields) (xs : List NestedMeta) (h : f.fromList xs = .panic m)
  | post (v : ν) (h : s.post v = .panic m)

theorem UserPanic.panicsIn (s : SStruct ν) : PanicsIn s (UserPanic s) :=
  ⟨fun f hf x _ h => .conv f hf x h, fun f hf xs _ h => .list f hf xs h, fun v _ h => .post v h⟩

/-- everything after the item walk (`require_fields`, `check_errors`, defaults, the struct literal
    with its `expect`s, the post-transform): from a state the walk can leave behind, a panic is a
    user panic -/
theorem finishStruct_panic_origin (s : SStruct ν) (hd : DefaultsHaveSource s) (flattenHere : Bool)
    (loc : Option String) (st : PState ν) (hg : Good st) (m : String)
    (h : finishStruct s flattenHere loc st = .panic m) : UserPanic s m :=
  finishStruct_panic s (UserPanic.panicsIn s) hd flattenHere loc st hg m h

/-- **a derived struct parser relies on no `expect` of its own**: whatever the item list and
    whatever the user-supplied pieces do, a panic of the emitted `from_list` is a user panic.
    The one hypothesis is the derive-time fact about inherited defaults (`derive_linked`). -/
theorem struct_panic_origin (s : SStruct ν) (hd : DefaultsHaveSource s) (items : List NestedMeta) (m : String)
    (h : Derive.fromList s items = .panic m) : UserPanic s m :=
  fromList_panic s (UserPanic.panicsIn s) hd items m h

/-- `struct_fromList_returns` (under `ConvsReturn`) is the special case "no user-supplied piece ever
    panics" -/
theorem struct_total_of_user_total (s : SStruct ν) (hd : DefaultsHaveSource s)
    (hu : ∀ m, ¬ UserPanic s m) (items : List NestedMeta) : Total (Derive.fromList s items) :=
  (total_iff_returns _).2 (fun m h => hu m (struct_panic_origin s hd items m h))

theorem convsReturn_no_userPanic (s : SStruct ν) (hc : ConvsReturn s) (m : String) : ¬ UserPanic s m := by
  intro u
  cases u with
  | conv f hf x h => exact hc.conv f hf x m h
  | list f hf xs h => exact hc.list f hf xs m h
  | post v h => exact hc.post v m h

/-- **the arm of an enum variant relies on no `expect` of its own** -/
theorem variant_panic_origin (v : SVariant ν) (nested : Meta) (m : String) (h : dataArm v nested = .panic m) :
    match v.kind with
    | .unit _ => False
    | .newtype fromMeta _ _ => fromMeta nested = .panic m
    | .struct s => DefaultsHaveSource s → UserPanic s m := by
  rcases dataArm_panic v nested m h with ⟨fm, fn, wrap, hk, hp⟩ | ⟨s, hk, hs⟩
  · rw [hk]
    exact hp
  · rw [hk]
    exact hs _ (UserPanic.panicsIn s)

/-- where a panic of a generated `from_derive_input` / `from_field` / `from_variant` /
    `from_type_param` / `from_attributes` can come from: the user-supplied pieces of its field
    parser, the `with` function of its `attrs` field on the forwarded attributes, the shape
    validator, or the conversion of a pass-through member (generics, body) -/
inductive OuterUserPanic (r : SOuter ν) (validate : Outcome Unit) (late : List (String × Outcome ν))
    (m : String) : Prop where
  | fields (u : UserPanic r.fields m)
  | attrsFn (mk : List Attr → Outcome ν) (as : List Attr) (h : r.attrsField = some mk) (hp : mk as = .panic m)
  | validate (h : validate = .panic m)
  | late (p : String × Outcome ν) (hp : p ∈ late) (h : p.2 = .panic m)

/-- what a generated element-level `from_*` computes from the attribute list and the pieces the
    element contributes (the composition `Env.runOuter` performs) -/
def outerOutcome (r : SOuter ν) (attrs : List Attr) (validate : Outcome Unit)
    (late : List (String × Outcome ν)) (early : List (String × ν)) (build : List (String × ν) → ν) : Outcome ν :=
  match extract r attrs with
  | .error m => .panic m
  | .ok (st, av) => finishOuter r st av validate late early build

/-- **an element-level receiver relies on no `expect` of its own**: neither
    `attrs.expect("Errors were already checked")` nor the initialiser's `expect` can be reached by
    any attribute list, whatever the user-supplied pieces do -/
theorem outer_panic_origin (r : SOuter ν) (hd : DefaultsHaveSource r.fields) (attrs : List Attr)
    (validate : Outcome Unit) (late : List (String × Outcome ν)) (early : List (String × ν))
    (build : List (String × ν) → ν) (m : String)
    (h : outerOutcome r attrs validate late early build = .panic m) : OuterUserPanic r validate late m := by
  have hp : PanicsIn r.fields (OuterUserPanic r validate late) :=
    ⟨fun f hf x _ h => .fields (.conv f hf x h), fun f hf xs _ h => .fields (.list f hf xs h),
      fun v _ h => .fields (.post v h)⟩
  have h1 := extract_okOr r hp (fun mk hmk as _ h => .attrsFn mk as hmk h) attrs
  unfold outerOutcome at h
  cases he : extract r attrs with
  | error m' => rw [he] at h h1; cases h; exact h1
  | ok x =>
      rw [he] at h h1
      exact finishOuter_panic r hp hd late (fun p hpl _ h => .late p hpl h) early build x.1 x.2 h1.1 h1.2
        validate (fun _ h => .validate h) m h

end Origin

/-- `Env.runOuter`'s main arm is this composition (so `outer_panic_origin` speaks about the function
    the model driver executes) -/
theorem mainArm_is_outerOutcome (env : Env.T) (conv : String → Elem → Outcome Val) (r : ROuter)
    (fields : List RField) (el : Elem) :
    mainArm env conv r fields el =
      outerOutcome (soOf env r fields el) el.attrsOf (validateOf r el) (lateOf env conv r el)
        (earlyParts (fun m => r.magic.contains m) el) (fun kvs => .record r.base.ident (Env.sortKvs kvs)) := by
  unfold mainArm outerOutcome
  cases extract (soOf env r fields el) el.attrsOf with
  | error m => rfl
  | ok x => obtain ⟨st, av⟩ := x; rfl

/-! ### … for the receivers of a corpus, with arbitrary (possibly panicking) nested implementors -/

/-- **every struct `FromMeta` receiver a derive accepts relies on no `expect` of its own**, whatever
    its field types' implementors do (user-written `FromMeta` impls that panic included): a panic of
    its emitted `from_list` is a panic of one of those pieces on an argument it was handed -/
theorem derived_struct_panic_origin (env : Env.T) (rh : String → Hooks Val) (t : Trait)
    (sim : String → Option (Nat × String)) (sp : DeclSpans) (d : DeclD) (r : RFromMeta)
    (hd : Options.derive t env.oracle sim sp d = .ok (.fromMeta r))
    (style : Style) (fields : List RField) (hdata : r.base.data = .struct style fields)
    (build : List (String × Val) → Val) (items : List NestedMeta) (m : String)
    (h : Derive.fromList (Env.semStruct env rh r.base fields build) items = .panic m) :
    UserPanic (Env.semStruct env rh r.base fields build) m := by
  have hl := derive_linked t env.oracle sim sp d r hd
  unfold Linked at hl
  rw [hdata] at hl
  exact struct_panic_origin _ (semStruct_dflt_source env rh r.base fields build hl) items m h

/-- the hypothesis of `outer_panic_origin` holds for the field parser `soOf` builds from a declaration
    the derive accepts -/
theorem derived_outer_defaultsHaveSource (env : Env.T) (t : Trait) (sim : String → Option (Nat × String))
    (sp : DeclSpans) (d : DeclD) (r : ROuter) (hd : Options.derive t env.oracle sim sp d = .ok (.outer r))
    (style : Style) (fields : List RField) (hdata : r.base.data = .struct style fields) (el : Elem) :
    DefaultsHaveSource (soOf env r fields el).fields := by
  have hl := derive_outer_linked t env.oracle sim sp d r hd style fields hdata
  have h0 := semStruct_dflt_source env (Env.recvHooks env) r.base fields
    (fun kvs => .record r.base.ident (Env.sortKvs kvs)) hl
  intro f hf hinh
  exact cdfltOf_isSome env r el _ (h0 f hf hinh)

/-! ## 6. non-vacuity, weakest hypotheses, discrepancies -/

section Examples

private def pth (name : String) : Path :=
  { global := false, segs := [name], plain := true, toks := name, span := ⟨0, 0⟩ }
private def strLit (s : String) : Lit := ⟨.str s, "\"" ++ s ++ "\"", ⟨0, 0⟩⟩
private def nv (name : String) (l : Lit) : NestedMeta := .item (.nameValue (pth name) (.lit l) "" ⟨0, 0⟩)
private def word (name : String) : NestedMeta := .item (.path (pth name))
private def lst (name : String) (items : List NestedMeta) : Meta := .list (pth name) items none none "" ⟨0, 0⟩
private def mkA (name : String) (items : List NestedMeta) : Attr :=
  { path := pth name, body := lst name items, toks := "", span := ⟨0, 0⟩ }
private def fld (id : String) (ty : Ty) (tyToks : String := "") : FieldD :=
  { ident := some id, ty := ty, tyToks := tyToks, vis := "", attrs := [] }
private def u128 : IntSpec := ⟨"u128", false, 128, false⟩

/-! ### `Total` distinguishes the three outcomes -/
example : Total (Outcome.ok 1 : Outcome Nat) := Or.inl ⟨1, rfl⟩
example : Total (Outcome.err (Err.custom "e") : Outcome Nat) := Or.inr ⟨_, rfl⟩
example : ¬ Total (Outcome.panic "p" : Outcome Nat) := fun h => h.not_panic "p" rfl

/-! ### "numbers beyond every integer width": 2¹²⁸ into `u128` is an error, not a panic -/
private theorem int_fromValue_digits (o : Oracle) (rh : String → Hooks Val) (sp : IntSpec) (ds sfx toks : String)
    (span : Span) :
    (hooksOf o rh (.int sp)).fromValue ⟨.int ds sfx, toks, span⟩ =
      (match parseIntStd sp ds with
        | .ok v => Outcome.ok (Val.int v)
        | .error e => .err (.leaf (.custom e.msg) [] (some span))).mapErr (·.withSpan span) := by rfl

example : (hooksOf {} (fun _ => {}) (.int u128)).fromValue
      ⟨.int "340282366920938463463374607431768211456" "", "", ⟨0, 0⟩⟩ =
    .err (.leaf (.custom "number too large to fit in target type") [] (some ⟨0, 0⟩)) := by
  rw [int_fromValue_digits, parseIntStd]
  -- a string literal is `String.ofList` of its characters
  rw [show "340282366920938463463374607431768211456".toList = _ from String.toList_ofList]
  rfl
/-- … and the largest `u128` is a value -/
example : ((hooksOf {} (fun _ => {}) (.int u128)).fromValue
      ⟨.int "340282366920938463463374607431768211455" "", "", ⟨0, 0⟩⟩).isOk = true := by
  rw [int_fromValue_digits, parseIntStd]
  rw [show "340282366920938463463374607431768211455".toList = _ from String.toList_ofList]
  rfl

/-! ### "name-value or bare forms", "bodies that are not meta syntax" reach the built-ins -/
example : ((hooksOf {} (fun _ => {}) .bool).fromMeta (.path (pth "flag"))).isOk = true := by rfl
example : ((hooksOf {} (fun _ => {}) .bool).fromMeta
      (.list (pth "flag") [] (some ("unexpected token", ⟨3, 4⟩)) none "" ⟨0, 9⟩)).isOk = false := by rfl
example : Total ((hooksOf {} (fun _ => {}) .bool).fromMeta
      (.list (pth "flag") [] (some ("unexpected token", ⟨3, 4⟩)) none "" ⟨0, 9⟩)) :=
  (builtin_entryPoints_total {} exampleEnv 0 .bool).fromMeta _

/-! ### a derived `FromMeta` receiver: the theorem is about the assembled hooks, which do work -/
example : ((Env.recvHooks exampleEnv "R").fromList [nv "a" ⟨.bool true, "true", ⟨0, 0⟩⟩]).isOk = true := by decide
example : ((Env.recvHooks exampleEnv "R").fromList [nv "zz" ⟨.bool true, "true", ⟨0, 0⟩⟩]).isOk = false := by decide
example (items : List NestedMeta) : Total ((Env.recvHooks exampleEnv "R").fromList items) :=
  (receiver_entryPoints_total exampleEnv _ "R").fromList items

/-! ### element-level receivers: any data shape, unions and empty enums included -/

/-- `#[derive(FromDeriveInput)] #[darling(supports(struct_named, enum_unit))] struct R { data: ast::Data<(), ()>, x: Option<bool> }`
    and `#[derive(FromDeriveInput)] struct Q { data: ast::Data<(), ()> }` -/
private def fdiEnv : Env.T :=
  { decls :=
      [("R", .fromDeriveInput,
        { ident := "R", attrs := [mkA "darling" [.item (lst "supports" [word "struct_named", word "enum_unit"])]],
          body := .struct .named [fld "data" .unit "ast::Data<(),()>", fld "x" (.option .bool)] }, {}),
       ("Q", .fromDeriveInput,
        { ident := "Q", attrs := [], body := .struct .named [fld "data" .unit "ast::Data<(),()>"] }, {})],
    oracle := {}, thr := 0 }

private def unionInput : Elem := .deriveInput { ident := "U", attrs := [], body := .union }
private def emptyEnumInput : Elem := .deriveInput { ident := "E", attrs := [], body := .enum [] }

private theorem fdiEnv_derives : CorpusDerives fdiEnv := by
  apply corpusDerives_of_declSafe
  intro x hx
  simp only [fdiEnv, List.mem_cons, List.not_mem_nil, or_false] at hx
  have hdata : C06.IdentSafe "data" :=
    C06.identSafe_of_camel ⟨C06.returns_of_eq_ok rfl, C06.returns_of_eq_ok rfl⟩
  have hx' : C06.IdentSafe "x" :=
    C06.identSafe_of_camel ⟨C06.returns_of_eq_ok rfl, C06.returns_of_eq_ok rfl⟩
  rcases hx with rfl | rfl
  · intro f hf
    simp only [fld, List.mem_cons, List.not_mem_nil, or_false] at hf
    rcases hf with rfl | rfl
    · exact hdata
    · exact hx'
  · intro f hf
    simp only [fld, List.mem_cons, List.not_mem_nil, or_false] at hf
    subst hf
    exact hdata

/-- the side condition of `element_total_partial` holds of this corpus, so the theorem applies … -/
example (name : String) (el : Elem) : Total (Env.outerRun fdiEnv name el) :=
  element_total_partial fdiEnv fdiEnv_derives _ name el

/-- … and the receivers are really run: a union is refused by `supports(..)` with an error, by
    `Data::try_from` with another error; an empty enum is a value -/
private theorem fdiEnv_R :
    Env.outerRun fdiEnv "R" unionInput = .err (.leaf (.unsupportedShape "union" none) [] none) ∧
    (Env.outerRun fdiEnv "R" emptyEnumInput).isOk = true := ⟨by rfl, by rfl⟩
private theorem fdiEnv_Q :
    Env.outerRun fdiEnv "Q" unionInput = .err (.leaf (.custom "Unions are not supported") [] none) ∧
    (Env.outerRun fdiEnv "Q" emptyEnumInput).isOk = true := ⟨by rfl, by rfl⟩
example : Env.outerRun fdiEnv "R" unionInput = .err (.leaf (.unsupportedShape "union" none) [] none) := fdiEnv_R.1
example : Env.outerRun fdiEnv "Q" unionInput = .err (.leaf (.custom "Unions are not supported") [] none) := fdiEnv_Q.1
example : (Env.outerRun fdiEnv "R" emptyEnumInput).isOk = true := fdiEnv_R.2
example : (Env.outerRun fdiEnv "Q" emptyEnumInput).isOk = true := fdiEnv_Q.2

/-! ### DISCREPANCY 1 (model vs text, known finding F8): `CorpusDerives` cannot be dropped

  `#[derive(FromField)] #[darling(rename_all = "camelCase")] struct R { __: bool }`:
  the derive macro itself panics (inside `ident_case`), and the element-level model hands that
  derive-time panic out as the outcome of `from_field`.  The text speaks of run time: such a
  receiver is never compiled, so it is outside the quantifier — hence a side condition, not a
  violation of C07 (it is the recorded violation F8 of C06). -/

private def f8Decl : DeclD :=
  { ident := "R", attrs := [mkA "darling" [nv "rename_all" (strLit "camelCase")]],
    body := .struct .named [fld "__" .bool] }

private def f8Env : Env.T := { decls := [("R", .fromField, f8Decl, {})], oracle := {}, thr := 0 }

private theorem f8_derive :
    Options.derive .fromField f8Env.oracle (simOf f8Env) {} f8Decl = .panic "byte index 1 is out of bounds" := by
  rfl

theorem discrepancy_F8 :
    Env.outerRun f8Env "R" (.field (fld "x" .bool)) = .panic "byte index 1 is out of bounds" :=
  outerRunF_of_derive_panic f8Env 1 "R" _ (x := ("R", .fromField, f8Decl, {})) (by rfl) f8_derive

example : ¬ CorpusDerives f8Env :=
  fun h => h ("R", .fromField, f8Decl, {}) List.mem_cons_self _ f8_derive

/-- the characterisation finds the culprit -/
example : ∃ x ∈ f8Env.decls, ∃ m', Options.derive x.2.1 f8Env.oracle (simOf f8Env) x.2.2.2 x.2.2.1 = .panic m' :=
  element_panic_only_from_derive f8Env _ "R" _ _ discrepancy_F8

/-! ### `DefaultsHaveSource` is the weakest hypothesis of the panic-origin theorems, and
    `UserPanic` is inhabited -/

/-- one field `a` that inherits its default; `cd` = the container default, if any; `conv` = the
    field's converter -/
private def oneField (cd : Option (String → Nat)) (conv : Meta → Outcome Nat) (dflt : Option (DefaultSrc Nat)) :
    SStruct Nat :=
  { fields := [{ ident := "a", name := "a", conv := conv, fromNone := none, fromList := fun _ => .ok 0,
                 dflt := dflt, skip := false, multiple := false, flatten := false }],
    allowUnknown := false, containerDefault := cd, build := fun kvs => kvs.length, mkList := List.length,
    post := .ok, score := fun _ _ => 0, thr := 0 }

/-- with a container default the hypothesis holds … -/
example : DefaultsHaveSource (oneField (some fun _ => 7) (fun _ => .ok 1) (some .inherit)) := by
  intro f _ _; rfl

/-- … without one it fails, and then the generated code would indeed reach a panic that is nobody's
    but its own (in the real library this declaration is a compile error, see DISCREPANCY 2) -/
example : Derive.fromList (oneField none (fun _ => .ok 1) (some .inherit)) [] =
    .panic "`__default` is not declared" := by rfl
example : ¬ DefaultsHaveSource (oneField none (fun _ => .ok 1) (some .inherit)) := by
  intro h
  have := h _ List.mem_cons_self rfl
  cases this

/-- a user converter that panics: its message comes out, and the theorem names it -/
example : Derive.fromList (oneField none (fun _ => .panic "boom") none) [word "a"] = .panic "boom" := by rfl
example : UserPanic (oneField none (fun _ => .panic "boom") none) "boom" := by
  refine struct_panic_origin _ ?_ [word "a"] "boom" (by rfl)
  intro f hf hd
  simp only [oneField, List.mem_cons, List.not_mem_nil, or_false] at hf
  subst hf
  cases hd

/-- the same converter on an input that never reaches it: the parser returns (here: the missing
    field), although `ConvsReturn` fails for this receiver and `struct_fromList_returns` is silent -/
example : (Derive.fromList (oneField none (fun _ => .panic "boom") none) []).isPanic = false := by rfl
example : ¬ ConvsReturn (oneField none (fun _ => .panic "boom") none) := by
  intro h
  exact h.conv _ List.mem_cons_self (.path (pth "a")) "boom" rfl

/-! ### DISCREPANCY 2 (model vs real library; not a run-time panic): container `default` on an enum

  `#[derive(FromMeta)] #[darling(default)] enum E { A { x: u8 } }`.  Every field of a struct variant
  inherits its default from the container, but the generated `from_list` of an *enum* never declares
  `__default`.  The model (`Env.fromMetaHooks`, enum arm: `dflt := core.dflt`) hands the variant's
  field parser a container default all the same, which is what lets `derive_linked` discharge
  `DefaultsHaveSource`; it therefore computes a value where the real derive output does not compile
  (rustc E0425 "cannot find value `__default`").  So the model's panic site
  "`__default` is not declared" stands for a compile error, never for a run-time panic, and C07 is
  not violated; but the declaration is accepted by the derive without a diagnostic. -/

private def enumDefaultEnv : Env.T :=
  { decls :=
      [("E", .fromMeta,
        { ident := "E", attrs := [mkA "darling" [word "default"]],
          body := .enum [{ ident := "A", style := .named, fields := [fld "x" (.int ⟨"u8", false, 8, false⟩)],
                           attrs := [], discriminant := none }] }, {})],
    oracle := {}, thr := 0 }

example : (Env.recvHooks enumDefaultEnv "E").fromList [.item (lst "a" [])] =
    .ok (.variant "E" "A" (.record "A" [("x", .unit)])) := by rfl

end Examples

end C07
