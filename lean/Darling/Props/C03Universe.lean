import Darling.Props.C03Recv
import Darling.FromMeta.Universe
import Darling.FromMeta.SpanWF
import Darling.Lemmas.NoPanic
import Darling.Props.C14
/-
  C03, built-in conversions — discharge of the converter contract `C03.ConvSpans` for the whole
  universe of built-in target types: every span that occurs anywhere in an error returned by a
  built-in conversion of an item lies inside that item.

  Vocabulary (executable `Bool` functions, so that a driver can evaluate them):
    * `Err.allWithin A e`   — every node of the error tree `e` that has a span has it inside `A`;
    * `Err.unspanned e`     — no node of `e` has a span;
    * `Expr.spanWF`, `Meta.spanWF`, `NestedMeta.spanWF` — children lie inside their parents;
  and the oracle hypothesis the theorems take, a `Prop`:
    * `OracleArrWithin o A` — every array the `LitStr::parse::<ExprArray>` oracle can return is
      span-well-formed and lies inside `A` (trusted fact about syn: `LitStr::parse` re-spans the
      parsed tokens to the literal, which lies inside the item); `oracle_arrsWithin` derives it
      from the executable check `Oracle.arrsWithin o A` of a finite oracle.

  The contract `Hooks.SpansIn A h` is stated relative to an *ambient* span `A` (the item under
  consideration): handed a span-well-formed piece of syntax that lies inside `A`, every overridden
  method of `h` returns only errors all of whose spans lie inside `A`; the methods that are handed
  no syntax (`from_word`, `from_string`, `from_bool`, `from_char`) return errors without any span
  (their caller's default method then attaches the item's span).  Quantified over all `A` this is
  the tight statement "inside the piece of syntax that was handed in" (`SpansIn.tight_*`); the
  ambient form is what survives the two implementors that consult the array oracle, whose answer
  is keyed by the string contents alone.
-/
open Scalars Wrappers SynTypes

/-! ### vocabulary -/

/-- the oracle hypothesis, for the item with span `A` under consideration -/
def OracleArrWithin (o : Oracle) (A : Span) : Prop :=
  ∀ s x, o.parseArr s = some x → x.spanWF = true ∧ x.span.within A = true

namespace Outcome
variable {α β : Type}
/-- every error this outcome can be has all its spans inside `A` -/
def ErrsIn (A : Span) (o : Outcome α) : Prop := ∀ e, o = .err e → e.AllWithin A
/-- every error this outcome can be has no span at all -/
def ErrsUnspanned (o : Outcome α) : Prop := ∀ e, o = .err e → e.Unspanned
end Outcome

namespace Hooks
variable {α : Type}

/-- **the span contract of an implementor**, relative to the ambient item span `A`: every
    overridden method that is handed well-formed syntax inside `A` returns only errors whose spans
    all lie inside `A`; the methods that are handed no syntax return span-less errors -/
structure SpansIn (A : Span) (h : Hooks α) : Prop where
  nested : ∀ f, h.fromNestedMeta? = some f →
    ∀ n, n.spanWF = true → n.span.within A = true → (f n).ErrsIn A
  meta_ : ∀ f, h.fromMeta? = some f →
    ∀ m, m.spanWF = true → m.span.within A = true → (f m).ErrsIn A
  word : ∀ r, h.fromWord? = some r → r.ErrsUnspanned
  list : ∀ f, h.fromList? = some f →
    ∀ items, NestedMeta.spanWFList A items = true → (f items).ErrsIn A
  value : ∀ f, h.fromValue? = some f → ∀ l, l.span.within A = true → (f l).ErrsIn A
  expr : ∀ f, h.fromExpr? = some f →
    ∀ x, x.spanWF = true → x.span.within A = true → (f x).ErrsIn A
  char : ∀ f, h.fromChar? = some f → ∀ c, (f c).ErrsUnspanned
  string : ∀ f, h.fromString? = some f → ∀ s, (f s).ErrsUnspanned
  bool : ∀ f, h.fromBool? = some f → ∀ b, (f b).ErrsUnspanned

/-- `SpansIn` with one obligation per overridden method (as `NP.Overrides`) -/
structure SpansIn.Overrides (A : Span) (h : Hooks α) : Prop where
  nested : Overridden (fun f => ∀ n, n.spanWF = true → n.span.within A = true → (f n).ErrsIn A)
    h.fromNestedMeta? := by exact trivial
  meta_ : Overridden (fun f => ∀ m, m.spanWF = true → m.span.within A = true → (f m).ErrsIn A)
    h.fromMeta? := by exact trivial
  word : Overridden Outcome.ErrsUnspanned h.fromWord? := by exact trivial
  list : Overridden (fun f => ∀ items, NestedMeta.spanWFList A items = true → (f items).ErrsIn A)
    h.fromList? := by exact trivial
  value : Overridden (fun f => ∀ l, l.span.within A = true → (f l).ErrsIn A) h.fromValue? := by exact trivial
  expr : Overridden (fun f => ∀ x, x.spanWF = true → x.span.within A = true → (f x).ErrsIn A)
    h.fromExpr? := by exact trivial
  char : Overridden (fun f => ∀ c, (f c).ErrsUnspanned) h.fromChar? := by exact trivial
  string : Overridden (fun f => ∀ s, (f s).ErrsUnspanned) h.fromString? := by exact trivial
  bool : Overridden (fun f => ∀ b, (f b).ErrsUnspanned) h.fromBool? := by exact trivial

theorem SpansIn.of_overrides {A : Span} {h : Hooks α} (o : SpansIn.Overrides A h) : h.SpansIn A :=
  ⟨fun _ hf => o.nested.get hf, fun _ hf => o.meta_.get hf, fun _ hf => o.word.get hf,
    fun _ hf => o.list.get hf, fun _ hf => o.value.get hf, fun _ hf => o.expr.get hf,
    fun _ hf => o.char.get hf, fun _ hf => o.string.get hf, fun _ hf => o.bool.get hf⟩

end Hooks

namespace C03
variable {α β : Type}

/-! ### spans -/

theorem within_trans {a b c : Span} (h1 : a.within b = true) (h2 : b.within c = true) :
    a.within c = true := by
  simp only [Span.within, Bool.and_eq_true, decide_eq_true_eq] at *
  omega

/-! ### error trees -/

theorem unspanned_allWithin (A : Span) : (e : Err) → e.unspanned = true → e.allWithin A = true := by
  intro e
  induction e using Err.rec
    (motive_2 := fun es => Err.unspannedList es = true → Err.allWithinList A es = true) with
  | leaf _ _ s =>
      intro h
      cases s with
      | none => simp only [Err.allWithin, Span.okIn]
      | some s => simp [Err.unspanned] at h
  | multi cs _ s ih =>
      intro h
      cases s with
      | none =>
          simp only [Err.unspanned, Option.isNone_none, Bool.true_and] at h
          simp only [Err.allWithin, Span.okIn, Bool.true_and]
          exact ih h
      | some s => simp [Err.unspanned] at h
  | nil => rfl
  | cons c cs ihc ihcs =>
      rename_i h
      simp only [Err.unspannedList, Bool.and_eq_true] at h
      simp only [Err.allWithinList, Bool.and_eq_true]
      exact ⟨ihc h.1, ihcs h.2⟩

theorem unspannedList_allWithin (A : Span) :
    (es : List Err) → Err.unspannedList es = true → Err.allWithinList A es = true := by
  intro es
  induction es with
  | nil => exact fun _ => rfl
  | cons c cs ih =>
      intro h
      simp only [Err.unspannedList, Bool.and_eq_true] at h
      simp only [Err.allWithinList, Bool.and_eq_true]
      exact ⟨unspanned_allWithin A c h.1, ih h.2⟩

theorem _root_.Err.Unspanned.allWithin {e : Err} (h : e.Unspanned) (A : Span) : e.AllWithin A :=
  unspanned_allWithin A e h

theorem okIn_mono {A B : Span} (hAB : A.within B = true) :
    (s : Option Span) → Span.okIn A s = true → Span.okIn B s = true
  | none, _ => rfl
  | some _, h => within_trans h hAB

theorem allWithin_mono {A B : Span} (hAB : A.within B = true) :
    (e : Err) → e.allWithin A = true → e.allWithin B = true := by
  intro e
  induction e using Err.rec
    (motive_2 := fun es => Err.allWithinList A es = true → Err.allWithinList B es = true) with
  | leaf _ _ s =>
      intro h
      simp only [Err.allWithin] at h ⊢
      exact okIn_mono hAB s h
  | multi cs _ s ih =>
      intro h
      simp only [Err.allWithin, Bool.and_eq_true] at h ⊢
      exact ⟨okIn_mono hAB s h.1, ih h.2⟩
  | nil => rfl
  | cons c cs ihc ihcs =>
      rename_i h
      simp only [Err.allWithinList, Bool.and_eq_true] at h ⊢
      exact ⟨ihc h.1, ihcs h.2⟩

theorem allWithinList_mono {A B : Span} (hAB : A.within B = true) :
    (es : List Err) → Err.allWithinList A es = true → Err.allWithinList B es = true := by
  intro es
  induction es with
  | nil => exact fun _ => rfl
  | cons c cs ih =>
      intro h
      simp only [Err.allWithinList, Bool.and_eq_true] at h ⊢
      exact ⟨allWithin_mono hAB c h.1, ih h.2⟩

theorem _root_.Err.AllWithin.mono {A B : Span} {e : Err} (h : e.AllWithin A) (hAB : A.within B = true) :
    e.AllWithin B := allWithin_mono hAB e h

/-- the top node's span, in particular, lies inside `A` -/
theorem _root_.Err.AllWithin.span {A : Span} {e : Err} (h : e.AllWithin A) (s : Span) (hs : e.span = some s) :
    s.within A = true := by
  cases e with
  | leaf k ls sp =>
      simp only [Err.span] at hs; subst hs
      simpa only [Err.AllWithin, Err.allWithin, Span.okIn] using h
  | multi cs ls sp =>
      simp only [Err.span] at hs; subst hs
      simp only [Err.AllWithin, Err.allWithin, Span.okIn, Bool.and_eq_true] at h
      exact h.1

theorem _root_.Err.AllWithin.withSpan {A sp : Span} {e : Err} (h : e.AllWithin A) (hs : sp.within A = true) :
    (e.withSpan sp).AllWithin A := by
  cases e with
  | leaf k ls s =>
      cases s with
      | none => simpa only [Err.withSpan, Err.AllWithin, Err.allWithin, Span.okIn] using hs
      | some s => exact h
  | multi cs ls s =>
      cases s with
      | none =>
          simp only [Err.AllWithin, Err.allWithin, Span.okIn, Bool.true_and] at h
          simp only [Err.withSpan, Err.AllWithin, Err.allWithin, Span.okIn, Bool.and_eq_true]
          exact ⟨hs, h⟩
      | some s => exact h

theorem _root_.Err.AllWithin.at {A : Span} {e : Err} (h : e.AllWithin A) (l : String) : (e.at l).AllWithin A := by
  cases e with
  | leaf k ls s => exact h
  | multi cs ls s => exact h

theorem allWithinList_of_forall (A : Span) :
    (es : List Err) → (∀ e ∈ es, e.AllWithin A) → Err.allWithinList A es = true := by
  intro es
  induction es with
  | nil => exact fun _ => rfl
  | cons c cs ih =>
      intro h
      simp only [Err.allWithinList, Bool.and_eq_true]
      exact ⟨h c (List.mem_cons_self ..), ih fun e he => h e (List.mem_cons_of_mem _ he)⟩

/-- every error of the list has all its spans inside `A` -/
def ErrsAll (A : Span) (es : List Err) : Prop := ∀ e ∈ es, e.AllWithin A

theorem ErrsAll.push {A : Span} {es : List Err} {e : Err} (h : ErrsAll A es) (he : e.AllWithin A) :
    ErrsAll A (es ++ [e]) := by
  intro x hx
  rcases List.mem_append.mp hx with h1 | h1
  · exact h x h1
  · rw [List.mem_singleton.mp h1]; exact he

/-- `Error::multiple` of errors inside `A` is inside `A` (the fresh bundle has no span) -/
theorem multiple_allWithin {A : Span} {es : List Err} {e : Err} (h : ErrsAll A es)
    (hm : Err.multiple es = .ok e) : e.AllWithin A := by
  rcases Err.multiple_cases hm with rfl | ⟨_, rfl⟩
  · exact h e (List.mem_singleton_self e)
  · exact (Bool.true_and _).trans (allWithinList_of_forall A es h)

/-! the error constructors -/

theorem unsp_new (k : Kind) : (Err.new k).Unspanned := rfl
theorem unsp_unsupportedFormat (f : String) : (Err.unsupportedFormat f).Unspanned := rfl
theorem unsp_unknownValue (v : String) : (Err.unknownValue v).Unspanned := rfl
theorem unsp_custom (v : String) : (Err.custom v).Unspanned := rfl

theorem leaf_allWithin {A s : Span} (k : Kind) (ls : List String) (h : s.within A = true) :
    (Err.leaf k ls (some s)).AllWithin A := h
theorem unexpectedLitType_allWithin {A : Span} (l : Lit) (h : l.span.within A = true) :
    (Err.unexpectedLitType l).AllWithin A := h
theorem unexpectedExprType_allWithin {A : Span} (x : Expr) (h : x.span.within A = true) :
    (Err.unexpectedExprType x).AllWithin A := h
theorem unknownLitStr_allWithin {A : Span} (s : String) (l : Lit) (h : l.span.within A = true) :
    (unknownLitStr s l).AllWithin A := h

/-! ### outcomes -/

theorem errsIn_ok (A : Span) (a : α) : (Outcome.ok a).ErrsIn A := by intro e h; cases h
theorem errsIn_panic (A : Span) (m : String) : (Outcome.panic m : Outcome α).ErrsIn A := by
  intro e h; cases h
theorem errsIn_err {A : Span} {e : Err} (h : e.AllWithin A) : (Outcome.err e : Outcome α).ErrsIn A := by
  intro e' h'; cases h'; exact h
theorem unsp_ok (a : α) : (Outcome.ok a).ErrsUnspanned := by intro e h; cases h
theorem unsp_err {e : Err} (h : e.Unspanned) : (Outcome.err e : Outcome α).ErrsUnspanned := by
  intro e' h'; cases h'; exact h

theorem _root_.Outcome.ErrsIn.map {A : Span} {o : Outcome α} (h : o.ErrsIn A) (f : α → β) : (o.map f).ErrsIn A := by
  cases o with
  | ok a => exact errsIn_ok A _
  | err e => exact errsIn_err (h e rfl)
  | panic m => exact errsIn_panic A m

theorem _root_.Outcome.ErrsUnspanned.map {o : Outcome α} (h : o.ErrsUnspanned) (f : α → β) : (o.map f).ErrsUnspanned := by
  cases o with
  | ok a => exact unsp_ok _
  | err e => exact unsp_err (h e rfl)
  | panic m => intro e h'; cases h'

/-- `.map_err(|e| e.with_span(x))` with `x` inside `A` -/
theorem _root_.Outcome.ErrsIn.withSpan {A sp : Span} {o : Outcome α} (h : o.ErrsIn A) (hs : sp.within A = true) :
    (o.mapErr (·.withSpan sp)).ErrsIn A := by
  cases o with
  | ok a => exact errsIn_ok A _
  | err e => exact errsIn_err ((h e rfl).withSpan hs)
  | panic m => exact errsIn_panic A m

/-- `.map_err(|e| e.at(l))` -/
theorem _root_.Outcome.ErrsIn.at {A : Span} {o : Outcome α} (h : o.ErrsIn A) (l : String) :
    (o.mapErr (·.at l)).ErrsIn A := by
  cases o with
  | ok a => exact errsIn_ok A _
  | err e => exact errsIn_err ((h e rfl).at l)
  | panic m => exact errsIn_panic A m

theorem _root_.Outcome.ErrsUnspanned.errsIn {o : Outcome α} (h : o.ErrsUnspanned) (A : Span) : o.ErrsIn A :=
  fun e he => (h e he).allWithin A

/-- a span-less error that the default method then spans with the item -/
theorem _root_.Outcome.ErrsUnspanned.withSpan {A sp : Span} {o : Outcome α} (h : o.ErrsUnspanned) (hs : sp.within A = true) :
    (o.mapErr (·.withSpan sp)).ErrsIn A := (h.errsIn A).withSpan hs

/-! ### well-formed lists -/

theorem exprWFList_mem {A : Span} : (es : List Expr) → Expr.spanWFList A es = true →
    ∀ e ∈ es, e.spanWF = true ∧ e.span.within A = true := by
  intro es
  induction es with
  | nil => exact fun _ _ he => nomatch he
  | cons x xs ih =>
      intro h e he
      simp only [Expr.spanWFList, Bool.and_eq_true] at h
      rcases List.mem_cons.mp he with rfl | he'
      · exact ⟨h.1.2, h.1.1⟩
      · exact ih h.2 e he'

theorem nestedWFList_mem {A : Span} : (ns : List NestedMeta) → NestedMeta.spanWFList A ns = true →
    ∀ n ∈ ns, n.spanWF = true ∧ n.span.within A = true := by
  intro ns
  induction ns with
  | nil => exact fun _ _ hn => nomatch hn
  | cons x xs ih =>
      intro h n hn
      simp only [NestedMeta.spanWFList, Bool.and_eq_true] at h
      rcases List.mem_cons.mp hn with rfl | hn'
      · exact ⟨h.1.2, h.1.1⟩
      · exact ih h.2 n hn'

theorem nestedWFList_of_mem {A : Span} : (ns : List NestedMeta) →
    (∀ n ∈ ns, n.spanWF = true ∧ n.span.within A = true) → NestedMeta.spanWFList A ns = true := by
  intro ns
  induction ns with
  | nil => exact fun _ => rfl
  | cons x xs ih =>
      intro h
      simp only [NestedMeta.spanWFList, Bool.and_eq_true]
      exact ⟨(h x List.mem_cons_self).symm, ih fun n hn => h n (List.mem_cons_of_mem _ hn)⟩

/-- a list that is well-formed inside `B` is well-formed inside any `A` that contains `B` -/
theorem nestedWFList_mono {A B : Span} (hBA : B.within A = true) :
    (ns : List NestedMeta) → NestedMeta.spanWFList B ns = true → NestedMeta.spanWFList A ns = true :=
  fun ns h => nestedWFList_of_mem ns fun n hn =>
    ⟨(nestedWFList_mem ns h n hn).1, within_trans (nestedWFList_mem ns h n hn).2 hBA⟩

theorem exprWFList_mono {A B : Span} (hBA : B.within A = true) :
    (es : List Expr) → Expr.spanWFList B es = true → Expr.spanWFList A es = true := by
  intro es
  induction es with
  | nil => exact fun _ => rfl
  | cons x xs ih =>
      intro h
      simp only [Expr.spanWFList, Bool.and_eq_true] at h ⊢
      exact ⟨⟨within_trans h.1.1 hBA, h.1.2⟩, ih h.2⟩

/-- induction over the invisible groups around a well-formed expression inside `A`: the inner
    expression of a group is well-formed and lies inside `A` again -/
theorem ungroup_ind {A : Span} {P : Expr → Prop}
    (hg : ∀ e sp, sp.within A = true → P e → P (.group e sp))
    (h : ∀ x, x.spanWF = true → x.span.within A = true → (∀ e sp, x ≠ .group e sp) → P x) :
    (x : Expr) → x.spanWF = true → x.span.within A = true → P x := by
  intro x
  -- the recursor of the nested type; nothing is asked of the element lists of arrays
  induction x using Expr.rec (motive_2 := fun _ => True) with
  | group e sp ih =>
      intro hwf hA
      simp only [Expr.spanWF, Bool.and_eq_true] at hwf
      exact hg e sp hA (ih hwf.2 (within_trans hwf.1 hA))
  | nil => trivial
  | cons => trivial
  | _ => exact fun hwf hA => h _ hwf hA nofun

/-! ### closure of the contract under the default routing (`trait FromMeta`'s default methods) -/

section routing
variable {A : Span} {h : Hooks α}
open Hooks

theorem _root_.Hooks.SpansIn.fromWord (c : h.SpansIn A) : h.fromWord.ErrsUnspanned := by
  unfold Hooks.fromWord
  cases hw : h.fromWord? with
  | some r => exact c.word r hw
  | none => exact unsp_err (unsp_unsupportedFormat _)

theorem _root_.Hooks.SpansIn.fromList (c : h.SpansIn A) (items : List NestedMeta)
    (hi : NestedMeta.spanWFList A items = true) : (h.fromList items).ErrsIn A := by
  unfold Hooks.fromList
  cases hw : h.fromList? with
  | some f => exact c.list f hw items hi
  | none => exact errsIn_err ((unsp_unsupportedFormat _).allWithin A)

theorem _root_.Hooks.SpansIn.fromChar (c : h.SpansIn A) (ch : Char) : (h.fromChar ch).ErrsUnspanned := by
  unfold Hooks.fromChar
  cases hw : h.fromChar? with
  | some f => exact c.char f hw ch
  | none => exact unsp_err (unsp_new _)

theorem _root_.Hooks.SpansIn.fromString (c : h.SpansIn A) (s : String) : (h.fromString s).ErrsUnspanned := by
  unfold Hooks.fromString
  cases hw : h.fromString? with
  | some f => exact c.string f hw s
  | none => exact unsp_err (unsp_new _)

theorem _root_.Hooks.SpansIn.fromBool (c : h.SpansIn A) (b : Bool) : (h.fromBool b).ErrsUnspanned := by
  unfold Hooks.fromBool
  cases hw : h.fromBool? with
  | some f => exact c.bool f hw b
  | none => exact unsp_err (unsp_new _)

theorem _root_.Hooks.SpansIn.fromValue (c : h.SpansIn A) (l : Lit) (hl : l.span.within A = true) :
    (h.fromValue l).ErrsIn A := by
  unfold Hooks.fromValue
  cases hw : h.fromValue? with
  | some f => exact c.value f hw l hl
  | none =>
      exact fromValueD_ind h l (fun _ => (c.fromBool _).errsIn A) (fun _ => (c.fromString _).errsIn A)
        (fun _ => (c.fromChar _).errsIn A) (errsIn_err (unexpectedLitType_allWithin l hl))
        fun _ ho => ho.withSpan hl

theorem _root_.Hooks.SpansIn.fromExprD (c : h.SpansIn A) :
    (x : Expr) → x.spanWF = true → x.span.within A = true → (h.fromExprD x).ErrsIn A :=
  ungroup_ind (fun _ _ hsp ih => ih.withSpan hsp) fun x _ hA hng => by
    cases x with
    | group g sp => exact absurd rfl (hng g sp)
    | lit l => exact (c.fromValue l hA).withSpan hA
    | path _ _ => exact (errsIn_err (unexpectedExprType_allWithin _ hA)).withSpan hA
    | qpath _ _ _ => exact (errsIn_err (unexpectedExprType_allWithin _ hA)).withSpan hA
    | array _ _ _ => exact (errsIn_err (unexpectedExprType_allWithin _ hA)).withSpan hA
    | other _ _ _ => exact (errsIn_err (unexpectedExprType_allWithin _ hA)).withSpan hA

theorem _root_.Hooks.SpansIn.fromExpr (c : h.SpansIn A) (x : Expr) (hwf : x.spanWF = true)
    (hA : x.span.within A = true) : (h.fromExpr x).ErrsIn A := by
  unfold Hooks.fromExpr
  cases hw : h.fromExpr? with
  | some f => exact c.expr f hw x hwf hA
  | none => exact c.fromExprD x hwf hA

/-- **closure under the default `from_meta`** -/
theorem _root_.Hooks.SpansIn.fromMeta (c : h.SpansIn A) (m : Meta) (hwf : m.spanWF = true)
    (hA : m.span.within A = true) : (h.fromMeta m).ErrsIn A := by
  unfold Hooks.fromMeta
  cases hw : h.fromMeta? with
  | some f => exact c.meta_ f hw m hwf hA
  | none =>
      unfold Hooks.fromMetaD
      cases m with
      | path p => exact c.fromWord.withSpan hA
      | list p items bad ts t sp =>
          simp only [Meta.span] at hA
          simp only [Meta.spanWF, Bool.and_eq_true] at hwf
          cases bad with
          | some b =>
              obtain ⟨msg, bs⟩ := b
              exact errsIn_err (leaf_allWithin _ _ (within_trans hwf.1.2 hA))
          | none => exact (c.fromList items (nestedWFList_mono hA items hwf.2)).withSpan hA
      | nameValue p e t sp =>
          simp only [Meta.span] at hA
          simp only [Meta.spanWF, Bool.and_eq_true] at hwf
          exact (c.fromExpr e hwf.2 (within_trans hwf.1.2 hA)).withSpan hA

theorem _root_.Hooks.SpansIn.fromNestedMeta (c : h.SpansIn A) (n : NestedMeta) (hwf : n.spanWF = true)
    (hA : n.span.within A = true) : (h.fromNestedMeta n).ErrsIn A := by
  unfold Hooks.fromNestedMeta
  cases hw : h.fromNestedMeta? with
  | some f => exact c.nested f hw n hwf hA
  | none =>
      unfold Hooks.fromNestedMetaD
      refine Outcome.ErrsIn.withSpan ?_ hA
      cases n with
      | lit l => exact c.fromValue l hA
      | item m => exact c.fromMeta m hwf hA

end routing

/-! ### scalars -/

theorem unit_spansIn (A : Span) (u : α) : (unitHooks u).SpansIn A :=
  .of_overrides { word := unsp_ok _ }

theorem bool_spansIn (A : Span) (inj : Bool → α) : (boolHooks inj).SpansIn A :=
  .of_overrides {
    word := unsp_ok _
    string := fun s => by
      show Outcome.ErrsUnspanned (if s = "true" then _ else if s = "false" then _ else _)
      exact ite_ind (unsp_ok _) (ite_ind (unsp_ok _) (unsp_err (unsp_unknownValue _)))
    bool := fun _ => unsp_ok _ }

theorem char_spansIn (A : Span) (inj : Char → α) : (charHooks inj).SpansIn A :=
  .of_overrides {
    char := fun _ => unsp_ok _
    string := fun s => by
      show Outcome.ErrsUnspanned (match s.toList with | [c] => _ | _ => _)
      split
      · exact unsp_ok _
      · exact unsp_err (unsp_new _) }

theorem string_spansIn (A : Span) (inj : String → α) : (stringHooks inj).SpansIn A :=
  .of_overrides { string := fun _ => unsp_ok _ }

theorem numFromString_unsp (sp : IntSpec) (inj : Int → α) (s : String) :
    (numFromString sp inj s).ErrsUnspanned := by
  unfold numFromString
  cases parseIntStd sp s
  · exact unsp_err (unsp_unknownValue _)
  · exact unsp_ok _

theorem numFromValue_errsIn {A : Span} (sp : IntSpec) (inj : Int → α) (l : Lit)
    (hl : l.span.within A = true) : (numFromValue sp inj l).ErrsIn A := by
  unfold numFromValue
  refine Outcome.ErrsIn.withSpan ?_ hl
  cases l.v
  case str s => exact (numFromString_unsp sp inj _).errsIn A
  case int d sfx =>
    simp only []
    split
    · exact errsIn_ok A _
    · exact errsIn_err (leaf_allWithin _ _ hl)
  all_goals exact errsIn_err (unexpectedLitType_allWithin l hl)

theorem num_spansIn (A : Span) (sp : IntSpec) (inj : Int → α) : (numHooks sp inj).SpansIn A :=
  .of_overrides { value := fun l hl => numFromValue_errsIn sp inj l hl, string := numFromString_unsp sp inj }

theorem float_spansIn (A : Span) (parseF : String → Option Nat) (inj : Nat → α) :
    (floatHooks parseF inj).SpansIn A := by
  have hs : ∀ s, (floatFromString parseF inj s).ErrsUnspanned := by
    intro s; unfold floatFromString
    cases parseF s
    · exact unsp_err (unsp_unknownValue _)
    · exact unsp_ok _
  refine .of_overrides { value := fun l hl => ?_, string := hs }
  · show (floatFromValue parseF _ inj l).ErrsIn A
    unfold floatFromValue
    refine Outcome.ErrsIn.withSpan ?_ hl
    cases l.v
    case str s => exact (hs _).errsIn A
    case float d sfx =>
      simp only []
      split
      · exact errsIn_ok A _
      · exact errsIn_err (leaf_allWithin _ _ hl)
    case int d sfx =>
      simp only []
      split
      · exact errsIn_ok A _
      · exact errsIn_err (leaf_allWithin _ _ hl)
    all_goals exact errsIn_err (unexpectedLitType_allWithin l hl)

/-! ### wrappers preserve the contract -/

theorem option_spansIn {A : Span} (some' : α → β) (none' : β) (h : Hooks α) (c : h.SpansIn A) :
    (optionOf some' none' h).SpansIn A :=
  .of_overrides { meta_ := fun m hwf hA => (c.fromMeta m hwf hA).map _ }

theorem ptr_spansIn {A : Span} (wrap : α → β) (h : Hooks α) (c : h.SpansIn A) : (ptrOf wrap h).SpansIn A :=
  .of_overrides {
    meta_ := fun m hwf hA => (c.fromMeta m hwf hA).map _
    list := fun items hi => (c.fromList items hi).map _ }

/-- `darling::Result<T>` never returns an error of its own -/
theorem result_spansIn {A : Span} (ok' : α → β) (err' : Err → β) (h : Hooks α) :
    (resultOf ok' err' h).SpansIn A := by
  have lift : ∀ o : Outcome α, (match o with
      | .ok v => Outcome.ok (ok' v) | .err e => .ok (err' e) | .panic m => .panic m : Outcome β).ErrsIn A := by
    intro o
    cases o with
    | ok v => exact errsIn_ok A _
    | err e => exact errsIn_ok A _
    | panic m => exact errsIn_panic A m
  exact .of_overrides { meta_ := fun _ _ _ => lift _, list := fun _ _ => lift _ }

theorem resultMeta_spansIn {A : Span} (ok' : α → β) (err' : Meta → β) (h : Hooks α) :
    (resultMetaOf ok' err' h).SpansIn A := by
  refine .of_overrides { meta_ := fun m _ _ => ?_ }
  show Outcome.ErrsIn A (match h.fromMeta m with | .ok v => _ | .err _ => _ | .panic p => _)
  cases h.fromMeta m with
  | ok v => exact errsIn_ok A _
  | err e => exact errsIn_ok A _
  | panic p => exact errsIn_panic A p

theorem override_spansIn {A : Span} (explicit' : α → β) (inherit' : β) (h : Hooks α) (c : h.SpansIn A) :
    (overrideOf explicit' inherit' h).SpansIn A :=
  .of_overrides {
    meta_ := fun m hwf hA => by
      cases m with
      | path p => exact errsIn_ok A _
      | list _ _ _ _ _ _ => exact (c.fromMeta _ hwf hA).map _
      | nameValue _ _ _ _ => exact (c.fromMeta _ hwf hA).map _
    word := unsp_ok _
    list := fun items hi => (c.fromList items hi).map _
    value := fun l hl => (c.fromValue l hl).map _
    char := fun ch => (c.fromChar ch).map _
    string := fun s => (c.fromString s).map _
    bool := fun b => (c.fromBool b).map _ }

theorem spanned_spansIn {A : Span} (mk : α → Option Span → β) (h : Hooks α) (c : h.SpansIn A) :
    (spannedOf mk h).SpansIn A :=
  .of_overrides {
    nested := fun n hwf hA => ((c.fromNestedMeta n hwf hA).map _).withSpan hA
    meta_ := fun m hwf hA => by
      have := (c.fromMeta m hwf hA).withSpan hA
      show Outcome.ErrsIn A (match (h.fromMeta m).mapErr (·.withSpan m.span) with
        | .ok v => _ | .err e => _ | .panic p => _)
      cases hm : (h.fromMeta m).mapErr (·.withSpan m.span) with
      | ok v => exact errsIn_ok A _
      | err e => exact errsIn_err (this e hm)
      | panic p => exact errsIn_panic A p
    value := fun l hl => ((c.fromValue l hl).map _).withSpan hl
    expr := fun x hwf hA => ((c.fromExpr x hwf hA).map _).withSpan hA }

theorem withOriginal_spansIn {A : Span} (mk : α → Meta → β) (h : Hooks α) (c : h.SpansIn A) :
    (withOriginalOf mk h).SpansIn A :=
  .of_overrides { meta_ := fun m hwf hA => (c.fromMeta m hwf hA).map _ }

/-- `Flag`: the error of `<()>::from_meta` on the same item is handed on unchanged -/
theorem flag_spansIn (A : Span) (mk : Option Span → β) : (flagHooks mk).SpansIn A := by
  have pass : ∀ o : Outcome Unit, o.ErrsIn A → (match o with
      | .err e => Outcome.err e
      | .ok _ => .panic "called `Result::unwrap_err()` on an `Ok` value"
      | .panic p => .panic p : Outcome β).ErrsIn A := by
    intro o ho
    cases o with
    | ok v => exact errsIn_panic A _
    | err e => exact errsIn_err (ho e rfl)
    | panic m => exact errsIn_panic A m
  refine .of_overrides { meta_ := fun m hwf hA => ?_ }
  cases m with
  | path p => exact errsIn_ok A _
  | list p items bad ts t s => exact pass _ ((unit_spansIn A ()).fromMeta _ hwf hA)
  | nameValue p e t s => exact pass _ ((unit_spansIn A ()).fromMeta _ hwf hA)

theorem atomicBool_spansIn (A : Span) (inj : Bool → β) : (atomicBoolHooks inj).SpansIn A :=
  .of_overrides { meta_ := fun m hwf hA => ((bool_spansIn A inj).fromMeta m hwf hA).withSpan hA }

/-! ### shared string-parsed conversions -/

theorem parsedFromValue_errsIn {A : Span} (parse : String → Option String) (tok : String → α) (l : Lit)
    (hl : l.span.within A = true) : (parsedFromValue parse tok l).ErrsIn A := by
  unfold parsedFromValue
  split
  · split
    · exact errsIn_ok A _
    · exact errsIn_err (unknownLitStr_allWithin _ l hl)
  · exact errsIn_err (unexpectedLitType_allWithin l hl)

theorem parsedFromString_unsp (parse : String → Option String) (tok : String → α) (s : String) :
    (parsedFromString parse tok s).ErrsUnspanned := by
  unfold parsedFromString
  split
  · exact unsp_ok _
  · exact unsp_err (unsp_unknownValue _)

/-! ### syn::Expr, syn::Path, syn::Ident, IdentString -/

theorem exprFromExpr_errsIn {A : Span} (parse : String → Option String) (tok : String → α) :
    (x : Expr) → x.spanWF = true → x.span.within A = true → (exprFromExpr parse tok x).ErrsIn A :=
  ungroup_ind (fun _ _ _ h => h) fun x _ hA hng => by
    cases x with
    | group g sp => exact absurd rfl (hng g sp)
    | lit l =>
        obtain ⟨v, toks, sp⟩ := l
        cases v
        case str s => exact parsedFromValue_errsIn parse tok _ hA
        all_goals exact errsIn_ok A _
    | path _ _ => exact errsIn_ok A _
    | qpath _ _ _ => exact errsIn_ok A _
    | array _ _ _ => exact errsIn_ok A _
    | other _ _ _ => exact errsIn_ok A _

theorem expr_spansIn (A : Span) (parse : String → Option String) (tok : String → α) :
    (exprHooks parse tok).SpansIn A :=
  .of_overrides {
    value := fun l hl => parsedFromValue_errsIn parse tok l hl
    expr := exprFromExpr_errsIn parse tok
    string := parsedFromString_unsp parse tok }

theorem pathFromExpr_errsIn {A : Span} (parse : String → Option String) (tok : String → α) :
    (x : Expr) → x.spanWF = true → x.span.within A = true → (pathFromExpr parse tok x).ErrsIn A :=
  ungroup_ind (fun _ _ _ h => h) fun x _ hA hng => by
    cases x with
    | group g sp => exact absurd rfl (hng g sp)
    | lit l => exact parsedFromValue_errsIn parse tok l hA
    | path _ _ => exact errsIn_ok A _
    | qpath _ _ _ => exact errsIn_err (unexpectedExprType_allWithin _ hA)
    | array _ _ _ => exact errsIn_err (unexpectedExprType_allWithin _ hA)
    | other _ _ _ => exact errsIn_err (unexpectedExprType_allWithin _ hA)

theorem path_spansIn (A : Span) (parse : String → Option String) (tok : String → α) :
    (pathHooks parse tok).SpansIn A :=
  .of_overrides {
    value := fun l hl => parsedFromValue_errsIn parse tok l hl
    expr := pathFromExpr_errsIn parse tok
    string := parsedFromString_unsp parse tok }

theorem identFromExpr_errsIn {A : Span} (parse : String → Option String) (tok : String → α) :
    (x : Expr) → x.spanWF = true → x.span.within A = true → (identFromExpr parse tok x).ErrsIn A :=
  ungroup_ind (fun _ _ _ h => h) fun x _ hA hng => by
    cases x with
    | group g sp => exact absurd rfl (hng g sp)
    | lit l => exact parsedFromValue_errsIn parse tok l hA
    | path p sp =>
        show (match p.getIdent with
          | some i => Outcome.ok (tok i)
          | none => .err (Err.unexpectedExprType (.path p sp))).ErrsIn A
        cases p.getIdent with
        | some i => exact errsIn_ok A _
        | none => exact errsIn_err (unexpectedExprType_allWithin _ hA)
    | qpath _ _ _ => exact errsIn_err (unexpectedExprType_allWithin _ hA)
    | array _ _ _ => exact errsIn_err (unexpectedExprType_allWithin _ hA)
    | other _ _ _ => exact errsIn_err (unexpectedExprType_allWithin _ hA)

theorem ident_spansIn (A : Span) (parse : String → Option String) (tok : String → α) :
    (identHooks parse tok).SpansIn A :=
  .of_overrides {
    value := fun l hl => parsedFromValue_errsIn parse tok l hl
    expr := identFromExpr_errsIn parse tok
    string := parsedFromString_unsp parse tok }

theorem identString_spansIn (A : Span) (parse : String → Option String) (tok : String → α) :
    (identStringHooks parse tok).SpansIn A :=
  .of_overrides { meta_ := fun m hwf hA => (ident_spansIn A parse tok).fromMeta m hwf hA }

/-! ### `from_syn_expr_type!`, `from_syn_parse!`, where-predicates, RenameRule, Punctuated -/

theorem synExprFromExpr_errsIn {A : Span} (v : ExprVariant) (parse : String → Option String)
    (tok : String → α) :
    (x : Expr) → x.spanWF = true → x.span.within A = true → (synExprFromExpr v parse tok x).ErrsIn A :=
  ungroup_ind (fun _ _ _ h => h) fun x _ hA hng => by
    have other : ∀ e : Expr, e.span.within A = true →
        (if v.isVariant e = true then Outcome.ok (tok e.toks) else .err (Err.unexpectedExprType e)).ErrsIn A := by
      intro e he
      split
      · exact errsIn_ok A _
      · exact errsIn_err (unexpectedExprType_allWithin _ he)
    cases x with
    | group g sp => exact absurd rfl (hng g sp)
    | lit l => exact parsedFromValue_errsIn parse tok l hA
    | path _ _ => exact other _ hA
    | qpath _ _ _ => exact other _ hA
    | array _ _ _ => exact other _ hA
    | other _ _ _ => exact other _ hA

theorem synExpr_spansIn (A : Span) (v : ExprVariant) (parse : String → Option String) (tok : String → α) :
    (synExprHooks v parse tok).SpansIn A :=
  .of_overrides {
    value := fun l hl => parsedFromValue_errsIn parse tok l hl
    expr := synExprFromExpr_errsIn v parse tok }

theorem synParse_spansIn (A : Span) (parse : String → Option String) (tok : String → α) :
    (synParseHooks parse tok).SpansIn A :=
  .of_overrides {
    value := fun l hl => parsedFromValue_errsIn parse tok l hl
    string := parsedFromString_unsp parse tok }

theorem wherePreds_spansIn (A : Span) (parsePreds : String → Option String) (tok : String → α) :
    (wherePredsHooks parsePreds tok).SpansIn A :=
  .of_overrides {
    value := fun l hl => by
      show Outcome.ErrsIn A (match l.v with | .str s => _ | _ => _)
      split
      · split
        · exact errsIn_ok A _
        · exact errsIn_err (unknownLitStr_allWithin _ l hl)
      · exact errsIn_err (unexpectedLitType_allWithin l hl)
    string := fun _ => parsedFromString_unsp parsePreds tok _ }

theorem renameRule_spansIn (A : Span) (known : List String) (mk : String → α) :
    (renameRuleHooks known mk).SpansIn A :=
  .of_overrides { string := fun _ => ite_ind (P := Outcome.ErrsUnspanned) (unsp_ok _) (unsp_err (unsp_unknownValue _)) }

theorem punctuated_spansIn (A : Span) (parse : String → Option String) (tok : String → α) :
    (punctuatedHooks parse tok).SpansIn A :=
  .of_overrides { value := fun l hl => parsedFromValue_errsIn parse tok l hl }

/-! ### literals -/

theorem lit_spansIn (A : Span) (tok : String → α) : (litHooks tok).SpansIn A :=
  .of_overrides { value := fun _ _ => errsIn_ok A _ }

theorem litKindFromValue_errsIn {A : Span} (k : LitKind) (tok : String → α) (l : Lit)
    (hl : l.span.within A = true) : (litKindFromValue k tok l).ErrsIn A := by
  unfold litKindFromValue
  split
  · exact errsIn_ok A _
  · exact errsIn_err (unexpectedLitType_allWithin l hl)

theorem litKind_spansIn (A : Span) (k : LitKind) (tok : String → α) : (litKindHooks k tok).SpansIn A :=
  .of_overrides { value := fun l hl => litKindFromValue_errsIn k tok l hl }

/-- `collect::<Result<Vec<_>>>()` hands on the first element error unchanged -/
theorem collectFirstErr_errsIn {A : Span} {γ δ : Type} (f : γ → Outcome δ) :
    (xs : List γ) → (∀ x ∈ xs, (f x).ErrsIn A) → (collectFirstErr f xs).ErrsIn A := by
  intro xs
  induction xs with
  | nil => exact fun _ => errsIn_ok A _
  | cons x xs ih =>
      intro hf
      simp only [collectFirstErr]
      have hx := hf x (List.mem_cons_self ..)
      cases h : f x with
      | ok v => exact (ih fun y hy => hf y (List.mem_cons_of_mem _ hy)).map _
      | err e => exact errsIn_err (hx e h)
      | panic m => exact errsIn_panic A m

/-- the elements of a well-formed array inside `A` are well-formed and inside `A` -/
theorem array_elems {A : Span} {es : List Expr} {t : String} {sp : Span}
    (hwf : (Expr.array es t sp).spanWF = true) (hA : (Expr.array es t sp).span.within A = true) :
    ∀ e ∈ es, e.spanWF = true ∧ e.span.within A = true := by
  simp only [Expr.spanWF] at hwf
  simp only [Expr.span] at hA
  exact exprWFList_mem es (exprWFList_mono hA es hwf)

theorem vecLitFromExpr_errsIn {A : Span} (k : LitKind) (parseArr : String → Option Expr)
    (hp : ∀ s x, parseArr s = some x → x.spanWF = true ∧ x.span.within A = true)
    (tok : String → α) (injL : List α → α) :
    (x : Expr) → x.spanWF = true → x.span.within A = true → (vecLitFromExpr k parseArr tok injL x).ErrsIn A :=
  ungroup_ind (fun _ _ _ ih => ih) fun x hwf hA hng => by
    have elems : ∀ es : List Expr, (∀ e ∈ es, e.spanWF = true ∧ e.span.within A = true) →
        ((collectFirstErr (fun e => (litKindHooks k tok).fromExpr e) es).map injL).ErrsIn A :=
      fun es hes => (collectFirstErr_errsIn _ es
        (fun e he => (litKind_spansIn A k tok).fromExpr e (hes e he).1 (hes e he).2)).map _
    cases x with
    | group g sp => exact absurd rfl (hng g sp)
    | array es t sp => exact elems es (array_elems hwf hA)
    | lit l =>
        simp only [vecLitFromExpr]
        split
        · split
          · rename_i s _ es t sp heq
            exact elems es (array_elems (hp _ _ heq).1 (hp _ _ heq).2)
          · exact errsIn_err (unknownLitStr_allWithin _ l hA)
        · exact errsIn_err (unexpectedLitType_allWithin l hA)
    | path _ _ => exact errsIn_err (unexpectedExprType_allWithin _ hA)
    | qpath _ _ _ => exact errsIn_err (unexpectedExprType_allWithin _ hA)
    | other _ _ _ => exact errsIn_err (unexpectedExprType_allWithin _ hA)

theorem vecLit_spansIn (A : Span) (k : LitKind) (parseArr : String → Option Expr)
    (hp : ∀ s x, parseArr s = some x → x.spanWF = true ∧ x.span.within A = true)
    (tok : String → α) (injL : List α → α) : (vecLitHooks k parseArr tok injL).SpansIn A :=
  .of_overrides {
    list := fun items hi =>
      have hn := nestedWFList_mem items hi
      (collectFirstErr_errsIn _ items
        (fun n hm => (litKind_spansIn A k tok).fromNestedMeta n (hn n hm).1 (hn n hm).2)).map _
    value := fun l hl => vecLitFromExpr_errsIn k parseArr hp tok injL (.lit l) rfl hl
    expr := vecLitFromExpr_errsIn k parseArr hp tok injL }

/-- the literal under the invisible groups of a well-formed element lies inside the element -/
theorem numElemLit_within {A : Span} (x : Expr) (l : Lit) (h : numElemLit x = some l) (hwf : x.spanWF = true)
    (hA : x.span.within A = true) : l.span.within A = true := by
  refine ungroup_ind (P := fun x => numElemLit x = some l → l.span.within A = true)
    (fun _ _ _ ih => ih) (fun x _ hA hng h => ?_) x hwf hA h
  cases x with
  | group g sp => exact absurd rfl (hng g sp)
  | lit l' => cases h; exact hA
  | path _ _ => cases h
  | qpath _ _ _ => cases h
  | array _ _ _ => cases h
  | other _ _ _ => cases h

theorem numElem_errsIn {A : Span} (sp : IntSpec) (inj : Int → α) (x : Expr) (hwf : x.spanWF = true)
    (hA : x.span.within A = true) : (numElem sp inj x).ErrsIn A := by
  have hu : ((Err.custom "Expected array of unsigned integers").withSpan x.span).AllWithin A :=
    ((unsp_custom _).allWithin A).withSpan hA
  unfold numElem
  split
  · rename_i l hl
    exact numFromValue_errsIn sp inj _ (numElemLit_within x l hl hwf hA)
  · exact errsIn_err hu

theorem numArrayFromExpr_errsIn {A : Span} (sp : IntSpec) (parseArr : String → Option Expr)
    (hp : ∀ s x, parseArr s = some x → x.spanWF = true ∧ x.span.within A = true)
    (inj : Int → α) (injL : List α → α) :
    (x : Expr) → x.spanWF = true → x.span.within A = true →
      (numArrayFromExpr sp parseArr inj injL x).ErrsIn A :=
  ungroup_ind (fun _ _ _ ih => ih) fun x hwf hA hng => by
    have elems : ∀ es : List Expr, (∀ e ∈ es, e.spanWF = true ∧ e.span.within A = true) →
        ((collectFirstErr (numElem sp inj) es).map injL).ErrsIn A :=
      fun es hes => (collectFirstErr_errsIn _ es
        (fun e he => numElem_errsIn sp inj e (hes e he).1 (hes e he).2)).map _
    cases x with
    | group g s => exact absurd rfl (hng g s)
    | array es t s => exact elems es (array_elems hwf hA)
    | lit l =>
        simp only [numArrayFromExpr]
        split
        · split
          · rename_i s _ es t asp heq
            exact elems es (array_elems (hp _ _ heq).1 (hp _ _ heq).2)
          · exact errsIn_err (unknownLitStr_allWithin _ l hA)
        · exact errsIn_err (unexpectedLitType_allWithin l hA)
    | path _ _ => exact errsIn_err (unexpectedExprType_allWithin _ hA)
    | qpath _ _ _ => exact errsIn_err (unexpectedExprType_allWithin _ hA)
    | other _ _ _ => exact errsIn_err (unexpectedExprType_allWithin _ hA)

theorem numArray_spansIn (A : Span) (sp : IntSpec) (parseArr : String → Option Expr)
    (hp : ∀ s x, parseArr s = some x → x.spanWF = true ∧ x.span.within A = true)
    (inj : Int → α) (injL : List α → α) : (numArrayHooks sp parseArr inj injL).SpansIn A :=
  .of_overrides {
    value := fun l hl => numArrayFromExpr_errsIn sp parseArr hp inj injL (.lit l) rfl hl
    expr := numArrayFromExpr_errsIn sp parseArr hp inj injL }

/-! ### syn::Meta, Ignored, PathList, Callable -/

theorem meta_spansIn (A : Span) (tok : String → α) : (metaHooks tok).SpansIn A :=
  .of_overrides { meta_ := fun _ _ _ => errsIn_ok A _ }

theorem ignored_spansIn (A : Span) (v : α) : (ignoredHooks v).SpansIn A :=
  .of_overrides { meta_ := fun _ _ _ => errsIn_ok A _ }

theorem pathListFromList_errsIn {A : Span} {γ : Type} (f : Path → γ) :
    (items : List NestedMeta) → NestedMeta.spanWFList A items = true → (pathListFromList f items).ErrsIn A := by
  intro items
  induction items with
  | nil => exact fun _ => errsIn_ok A _
  | cons n rest ih =>
      intro hi
      simp only [NestedMeta.spanWFList, Bool.and_eq_true] at hi
      cases n with
      | lit _ => exact errsIn_err (((unsp_new _).allWithin A).withSpan hi.1.1)
      | item m =>
          cases m with
          | path p => exact (ih hi.2).map _
          | list _ _ _ _ _ _ => exact errsIn_err (((unsp_new _).allWithin A).withSpan hi.1.1)
          | nameValue _ _ _ _ => exact errsIn_err (((unsp_new _).allWithin A).withSpan hi.1.1)

theorem pathList_spansIn (A : Span) (tok : String → α) (injL : List α → α) :
    (pathListHooks tok injL).SpansIn A :=
  .of_overrides { list := fun items hi => (pathListFromList_errsIn _ items hi).map _ }

theorem callableFromExpr_errsIn {A : Span} (tok : String → α) :
    (x : Expr) → x.spanWF = true → x.span.within A = true → (callableFromExpr tok x).ErrsIn A :=
  ungroup_ind (fun _ _ _ ih => ih) fun x _ hA hng => by
    cases x with
    | group g sp => exact absurd rfl (hng g sp)
    | other k t s =>
        unfold callableFromExpr
        -- the arms of `callableFromExpr`, in order; the first three are for other forms of expression
        split
        · rename_i heq
          cases heq
        · exact errsIn_ok A _
        · exact errsIn_ok A _
        · exact errsIn_ok A _
        · exact errsIn_err (unexpectedExprType_allWithin _ hA)
    | path _ _ => exact errsIn_ok A _
    | qpath _ _ _ => exact errsIn_ok A _
    | lit _ => exact errsIn_err (unexpectedExprType_allWithin _ hA)
    | array _ _ _ => exact errsIn_err (unexpectedExprType_allWithin _ hA)

theorem callable_spansIn (A : Span) (tok : String → α) : (callableHooks tok).SpansIn A :=
  .of_overrides { expr := callableFromExpr_errsIn tok }

/-! ### keyed collections (`map!`) -/

/-- the name of a well-formed item lies inside the item -/
theorem path'_within {m : Meta} (hwf : m.spanWF = true) : m.path'.span.within m.span = true := by
  cases m with
  | path p => exact within_refl _
  | list p items bad ts t sp =>
      simp only [Meta.spanWF, Bool.and_eq_true] at hwf; exact hwf.1.1
  | nameValue p e t sp =>
      simp only [Meta.spanWF, Bool.and_eq_true] at hwf; exact hwf.1.1

theorem keyOf_error {A : Span} (k : Maps.KeyKind) (p : Path) (e : Err) (hp : p.span.within A = true)
    (h : Maps.keyOf k p = .error e) : e.AllWithin A := by
  cases k with
  | string => simp [Maps.keyOf] at h
  | path => simp [Maps.keyOf] at h
  | ident =>
      simp only [Maps.keyOf] at h
      split at h
      · cases h
      · cases h; exact leaf_allWithin _ _ hp

/-- one iteration of the `map!` loop keeps every recorded error inside `A` -/
theorem mapStep_errsAll {A : Span} (k : Maps.KeyKind) (h : Hooks α) (c : h.SpansIn A) (s s' : Maps.St α)
    (item : NestedMeta) (hwf : item.spanWF = true) (hA : item.span.within A = true)
    (hs : ErrsAll A s.errs) (hstep : Maps.step k h s item = .cont s') : ErrsAll A s'.errs := by
  cases item with
  | lit l => cases hstep; exact hs.push ((unsp_unsupportedFormat _).allWithin A)
  | item inner =>
      have hpA : inner.path'.span.within A = true := within_trans (path'_within hwf) hA
      have hdup : ∀ key, ErrsAll A (s.errs ++ if s.seen.contains key then [C14.dupErr k key inner.path'] else []) :=
        fun key => by
          cases s.seen.contains key with
          | true => exact hs.push (((unsp_new _).allWithin A).withSpan hpA)
          | false => exact (List.append_nil _).symm ▸ hs
      have hv := c.fromMeta inner hwf hA
      cases hval : h.fromMeta inner with
      | panic msg => rw [C14.step_panic k s hval] at hstep; cases hstep
      | ok v =>
          cases hk : Maps.keyOf k inner.path' with
          | error ke =>
              rw [C14.step_badKey_ok k s hk hval] at hstep; cases hstep
              exact hs.push (keyOf_error k _ ke hpA hk)
          | ok key => rw [C14.step_key_ok k s hk hval] at hstep; cases hstep; exact hdup key
      | err ve =>
          have hve : (ve.at inner.path'.toStr).AllWithin A := (hv ve hval).at _
          cases hk : Maps.keyOf k inner.path' with
          | error ke =>
              rw [C14.step_badKey_err k s hk hval] at hstep; cases hstep
              exact (hs.push (keyOf_error k _ ke hpA hk)).push hve
          | ok key => rw [C14.step_key_err k s hk hval] at hstep; cases hstep; exact (hdup key).push hve

theorem mapLoop_errsAll {A : Span} (k : Maps.KeyKind) (h : Hooks α) (c : h.SpansIn A) :
    (items : List NestedMeta) → NestedMeta.spanWFList A items = true → ∀ (s s' : Maps.St α),
      ErrsAll A s.errs → Maps.loop k h s items = .cont s' → ErrsAll A s'.errs := by
  intro items
  induction items with
  | nil =>
      intro _ s s' hs hl
      simp only [Maps.loop, Maps.Step.cont.injEq] at hl; subst hl; exact hs
  | cons item rest ih =>
      intro hi s s' hs hl
      simp only [NestedMeta.spanWFList, Bool.and_eq_true] at hi
      simp only [Maps.loop] at hl
      cases hst : Maps.step k h s item with
      | panic m => rw [hst] at hl; cases hl
      | cont s1 =>
          rw [hst] at hl
          exact ih hi.2 s1 s' (mapStep_errsAll k h c s s1 item hi.1.2 hi.1.1 hs hst) hl

/-- `Err(Error::multiple(errors))` of errors inside `A` -/
theorem bundleErr_errsIn {A : Span} {es : List Err} (h : ErrsAll A es) :
    (Err.bundleErr es : Outcome α).ErrsIn A :=
  fun _ he => multiple_allWithin h (Err.bundleErr_eq_err.1 he)

theorem map_spansIn {A : Span} (k : Maps.KeyKind) (inj : List (String × α) → β) (h : Hooks α)
    (c : h.SpansIn A) : (Maps.mapHooks k inj h).SpansIn A := by
  refine .of_overrides { list := fun items hi => Outcome.ErrsIn.map ?_ _ }
  unfold Maps.fromList
  cases hl : Maps.loop k h {} items with
  | panic m => exact errsIn_panic A m
  | cont s =>
      have hs : ErrsAll A s.errs :=
        mapLoop_errsAll k h c items hi {} s (by intro e he; cases he) hl
      simp only []
      split
      · exact errsIn_ok A _
      · exact bundleErr_errsIn hs

/-! ### the C15 probe -/

theorem probe_ret_unsp (mode : Nat) (tag : String) : (Probe.ret mode tag).ErrsUnspanned := by
  unfold Probe.ret
  split
  · exact unsp_ok _
  · exact unsp_err rfl
  · exact unsp_err rfl

theorem probe_spansIn (A : Span) (mask mode : Nat) : (Probe.hooks mask mode).SpansIn A :=
  .of_overrides {
    word := .ite_some (probe_ret_unsp _ _)
    list := .ite_some fun _ _ => (probe_ret_unsp _ _).errsIn A
    value := .ite_some fun _ _ => (probe_ret_unsp _ _).errsIn A
    expr := .ite_some fun _ _ _ => (probe_ret_unsp _ _).errsIn A
    char := .ite_some fun _ => probe_ret_unsp _ _
    string := .ite_some fun _ => probe_ret_unsp _ _
    bool := .ite_some fun _ => probe_ret_unsp _ _ }

/-! ### the universe -/

theorem empty_spansIn (A : Span) : ({} : Hooks α).SpansIn A :=
  .of_overrides {}

/-- the executable check of the oracle implies the oracle hypothesis -/
theorem oracle_arrsWithin {o : Oracle} {A : Span} (h : o.arrsWithin A = true) : OracleArrWithin o A := by
  intro s x hx
  unfold Oracle.parseArr at hx
  split at hx
  · rename_i r hr
    have hmem := List.mem_of_find?_eq_some hr
    have := (List.all_eq_true.mp h) r hmem
    rw [hx] at this
    simpa only [Bool.and_eq_true] using this
  · cases hx


/-- **every built-in conversion honours the span contract**, by induction over the universe of
    target types, given that the derived receivers of the environment do; the oracle hypothesis
    is needed only for the types that consult the oracle -/
theorem hooksOf_spansIn' (o : Oracle) (rh : String → Hooks Val) (A : Span)
    (hrh : ∀ n, (rh n).SpansIn A) :
    (t : Ty) → (t.usesArr = true → OracleArrWithin o A) → (hooksOf o rh t).SpansIn A := by
  intro t
  induction t with
  | unit => exact fun _ => unit_spansIn A _
  | bool => exact fun _ => bool_spansIn A _
  | char => exact fun _ => char_spansIn A _
  | string => exact fun _ => string_spansIn A _
  | pathBuf => exact fun _ => string_spansIn A _
  | int sp => exact fun _ => num_spansIn A sp _
  | float _ => exact fun _ => float_spansIn A _ _
  | atomicBool => exact fun _ => atomicBool_spansIn A _
  | flag => exact fun _ => flag_spansIn A _
  | option t ih => exact fun ho => option_spansIn _ _ _ (ih ho)
  | ptr t ih => exact fun ho => ptr_spansIn _ _ (ih ho)
  | result _ _ => exact fun _ => result_spansIn _ _ _
  | resultMeta _ _ => exact fun _ => resultMeta_spansIn _ _ _
  | override t ih => exact fun ho => override_spansIn _ _ _ (ih ho)
  | spanned t ih => exact fun ho => spanned_spansIn _ _ (ih ho)
  | withOrig t ih => exact fun ho => withOriginal_spansIn _ _ (ih ho)
  | probe mask mode => exact fun _ => probe_spansIn A mask mode
  | synExpr => exact fun _ => expr_spansIn A _ _
  | synPath => exact fun _ => path_spansIn A _ _
  | synIdent => exact fun _ => ident_spansIn A _ _
  | identString => exact fun _ => identString_spansIn A _ _
  | synExprTy v => exact fun _ => synExpr_spansIn A v _ _
  | synParse _ => exact fun _ => synParse_spansIn A _ _
  | wherePreds => exact fun _ => wherePreds_spansIn A _ _
  | renameRule => exact fun _ => renameRule_spansIn A _ _
  | punctuated _ => exact fun _ => punctuated_spansIn A _ _
  | lit => exact fun _ => lit_spansIn A _
  | litKind k => exact fun _ => litKind_spansIn A k _
  | vecLit k => exact fun ho => vecLit_spansIn A k _ (ho rfl) _ _
  | numArray sp => exact fun ho => numArray_spansIn A sp _ (ho rfl) _ _
  | synMeta => exact fun _ => meta_spansIn A _
  | ignored => exact fun _ => ignored_spansIn A _
  | pathList => exact fun _ => pathList_spansIn A _ _
  | callable => exact fun _ => callable_spansIn A _
  | map key _ t ih => exact fun ho => map_spansIn key _ _ (ih ho)
  | vec _ _ => exact fun _ => empty_spansIn A
  | recv n => exact fun _ => hrh n

theorem hooksOf_spansIn (o : Oracle) (rh : String → Hooks Val) (A : Span)
    (hrh : ∀ n, (rh n).SpansIn A) (ho : OracleArrWithin o A) :
    ∀ t : Ty, (hooksOf o rh t).SpansIn A :=
  fun t => hooksOf_spansIn' o rh A hrh t (fun _ => ho)

/-- every span anywhere in the error a built-in `from_meta` returns for a well-formed item lies
    inside that item -/
theorem builtin_allWithin (o : Oracle) (rh : String → Hooks Val) (t : Ty) (m : Meta)
    (hrh : ∀ n, (rh n).SpansIn m.span) (ho : t.usesArr = true → OracleArrWithin o m.span)
    (hwf : m.spanWF = true) (e : Err) (he : (hooksOf o rh t).fromMeta m = .err e) :
    e.AllWithin m.span :=
  (hooksOf_spansIn' o rh m.span hrh t ho).fromMeta m hwf (within_refl _) e he

/-- … likewise when handed a nested item (the entry point used by derived receivers) -/
theorem builtin_nested_allWithin (o : Oracle) (rh : String → Hooks Val) (t : Ty) (n : NestedMeta)
    (hrh : ∀ k, (rh k).SpansIn n.span) (ho : t.usesArr = true → OracleArrWithin o n.span)
    (hwf : n.spanWF = true) (e : Err) (he : (hooksOf o rh t).fromNestedMeta n = .err e) :
    e.AllWithin n.span :=
  (hooksOf_spansIn' o rh n.span hrh t ho).fromNestedMeta n hwf (within_refl _) e he

/-- **the converter contract `ConvSpans` holds of every built-in conversion** (on well-formed
    items): the condition `ConvSpans` puts on a field converter `f.conv`, for
    `f.conv := (hooksOf o rh t).fromMeta` -/
theorem builtin_convSpans (o : Oracle) (rh : String → Hooks Val) (t : Ty) (m : Meta)
    (hrh : ∀ n, (rh n).SpansIn m.span) (ho : t.usesArr = true → OracleArrWithin o m.span)
    (hwf : m.spanWF = true) (e : Err) (he : (hooksOf o rh t).fromMeta m = .err e) :
    ∀ sp, e.span = some sp → sp.within m.span = true :=
  (builtin_allWithin o rh t m hrh ho hwf e he).span

/-! ### the tight reading: "inside the piece of syntax that was handed in"

An implementor that honours the contract for every ambient span returns, for a well-formed
piece of syntax, only errors whose spans lie inside that very piece. -/

section tight
variable {h : Hooks α}

theorem _root_.Hooks.SpansIn.tight_fromMeta (c : ∀ A, h.SpansIn A) (m : Meta) (hwf : m.spanWF = true) :
    (h.fromMeta m).ErrsIn m.span := (c m.span).fromMeta m hwf (within_refl _)

theorem _root_.Hooks.SpansIn.tight_fromNestedMeta (c : ∀ A, h.SpansIn A) (n : NestedMeta)
    (hwf : n.spanWF = true) : (h.fromNestedMeta n).ErrsIn n.span :=
  (c n.span).fromNestedMeta n hwf (within_refl _)

theorem _root_.Hooks.SpansIn.tight_fromExpr (c : ∀ A, h.SpansIn A) (x : Expr) (hwf : x.spanWF = true) :
    (h.fromExpr x).ErrsIn x.span := (c x.span).fromExpr x hwf (within_refl _)

theorem _root_.Hooks.SpansIn.tight_fromValue (c : ∀ A, h.SpansIn A) (l : Lit) :
    (h.fromValue l).ErrsIn l.span := (c l.span).fromValue l (within_refl _)

/-- for a list of items: inside any hull that contains all of them -/
theorem _root_.Hooks.SpansIn.tight_fromList (c : ∀ A, h.SpansIn A) (items : List NestedMeta) (hull : Span)
    (hi : NestedMeta.spanWFList hull items = true) : (h.fromList items).ErrsIn hull :=
  (c hull).fromList items hi

end tight

/-- the built-in types that do not consult the array oracle honour the contract for every ambient
    span, hence in its tight reading, with no oracle hypothesis at all -/
theorem hooksOf_spansIn_noOracle (o : Oracle) (rh : String → Hooks Val)
    (hrh : ∀ A n, (rh n).SpansIn A) (t : Ty) (ht : t.usesArr = false) :
    ∀ A, (hooksOf o rh t).SpansIn A :=
  fun A => hooksOf_spansIn' o rh A (hrh A) t (fun h => by rw [ht] at h; cases h)

/-! ### the receiver-level theorem under the contract restricted to the items at hand

`ConvSpans` quantifies over every item; the built-in conversions honour it on span-well-formed
items (for which the oracle hypothesis holds).  `ConvSpansOn P` is `ConvSpans` restricted to the
items satisfying `P`, and `coreLoop_placed` holds under it for item lists all of whose
named items satisfy `P`. -/

section recv
open Derive
variable {ν : Type}

def ConvSpansOn (P : Meta → Prop) (s : SStruct ν) : Prop :=
  ∀ f ∈ s.fields, ∀ (m : Meta) (e : Err), P m → f.conv m = .err e →
    ∀ sp, e.span = some sp → sp.within m.span = true

theorem ConvSpans.on {s : SStruct ν} (hc : ConvSpans s) (P : Meta → Prop) : ConvSpansOn P s :=
  fun f hf m e _ he => hc f hf m e he

/-- `coreLoop_placed` under the restricted contract: every mistake the item loop reports is
    spanned inside the item at fault, for item lists whose named items satisfy `P` -/
theorem coreLoop_placed_on (P : Meta → Prop) (s : SStruct ν) (hc : ConvSpansOn P s) (items : List NestedMeta)
    (hP : ∀ m, NestedMeta.item m ∈ items → P m) :
    ∀ (pre : List NestedMeta) (st st' : PState ν), ErrsPlaced pre st → coreLoop s st items = .ok st' →
      ErrsPlaced (pre ++ items) st' :=
  coreLoop_placed_of items (fun m hm f hf e he => hc f hf m e (hP m hm) he)

/-- what the built-in conversions need of an item: it is span-well-formed, and (for the types
    that consult them) the oracle and the environment's receivers behave for its span -/
def ItemOk (o : Oracle) (rh : String → Hooks Val) (m : Meta) : Prop :=
  m.spanWF = true ∧ OracleArrWithin o m.span ∧ ∀ n, (rh n).SpansIn m.span

/-- **a receiver all of whose fields are converted by built-in conversions satisfies the converter
    contract** on the items that are `ItemOk` -/
theorem builtin_convSpansOn (o : Oracle) (rh : String → Hooks Val) (s : SStruct Val)
    (hb : ∀ f ∈ s.fields, ∃ t : Ty, f.conv = (hooksOf o rh t).fromMeta) :
    ConvSpansOn (ItemOk o rh) s := by
  intro f hf m e hm he
  obtain ⟨t, ht⟩ := hb f hf
  rw [ht] at he
  exact builtin_convSpans o rh t m hm.2.2 (fun _ => hm.2.1) hm.1 e he

/-- … hence every mistake its item loop reports is spanned inside the item at fault -/
theorem builtin_coreLoop_placed (o : Oracle) (rh : String → Hooks Val) (s : SStruct Val)
    (hb : ∀ f ∈ s.fields, ∃ t : Ty, f.conv = (hooksOf o rh t).fromMeta)
    (items : List NestedMeta) (hok : ∀ m, NestedMeta.item m ∈ items → ItemOk o rh m)
    (st' : PState Val) (h : coreLoop s {} items = .ok st') : ErrsPlaced items st' := by
  have := coreLoop_placed_on (ItemOk o rh) s (builtin_convSpansOn o rh s hb) items hok [] {} st'
    (by intro e he; cases he) h
  simpa using this

end recv

/-! ### non-vacuity -/

private def pA : Path := { global := false, segs := ["a"], plain := true, toks := "a", span := ⟨0, 1⟩ }
private def u8 : IntSpec := { name := "u8", signed := false, bits := 8, nonzero := false }

/-- `a = "x"`, well-formed: name at 0..1, value at 4..7, item 0..7 -/
private def mGood : Meta := .nameValue pA (.lit ⟨.str "x", "\"x\"", ⟨4, 7⟩⟩) "a = \"x\"" ⟨0, 7⟩
/-- the same item with the value's span sticking out of the item -/
private def mBad : Meta := .nameValue pA (.lit ⟨.str "x", "\"x\"", ⟨4, 9⟩⟩) "a = \"x\"" ⟨0, 7⟩
/-- `a(b = 1, "s")` with a group around the value, all nested properly -/
private def mNested : Meta :=
  .list pA
    [.item (.nameValue { pA with toks := "b", segs := ["b"], span := ⟨2, 3⟩ }
        (.group (.lit ⟨.int "1" "", "1", ⟨6, 7⟩⟩) ⟨6, 7⟩) "b = 1" ⟨2, 7⟩),
     .lit ⟨.str "s", "\"s\"", ⟨9, 12⟩⟩]
    none (some ⟨2, 12⟩) "b = 1, \"s\"" ⟨0, 13⟩

private theorem mGood_wf : mGood.spanWF = true := by decide
example : mGood.spanWF = true := mGood_wf
example : mBad.spanWF = false := by decide
example : mNested.spanWF = true := by decide

/-- the premises are satisfiable and the conclusion has content: `u8` applied to `a = "x"`
    fails (`Unknown literal value`) with an error spanned at the value (4..7), strictly inside the
    item (0..7) -/
example : ∃ e sp, (hooksOf {} (fun _ => {}) (.int u8)).fromMeta mGood = .err e
    ∧ e.span = some sp ∧ sp = ⟨4, 7⟩ ∧ sp.within mGood.span = true ∧ sp ≠ mGood.span :=
  ⟨_, _, rfl, rfl, rfl, by decide, by decide⟩

/-- … and this is an instance of the theorem (empty oracle, empty environment) -/
example (e : Err) (he : (hooksOf {} (fun _ => {}) (.int u8)).fromMeta mGood = .err e) :
    ∀ sp, e.span = some sp → sp.within mGood.span = true :=
  builtin_convSpans {} (fun _ => {}) (.int u8) mGood (fun _ => empty_spansIn _)
    (fun h => by cases h) mGood_wf e he

/-- well-formedness is needed: on the ill-formed item the same conversion returns a span that
    sticks out of the item -/
example : ∃ e sp, (hooksOf {} (fun _ => {}) (.int u8)).fromMeta mBad = .err e
    ∧ e.span = some sp ∧ sp.within mBad.span = false :=
  ⟨_, _, rfl, rfl, by decide⟩

/-! the oracle: `Vec<LitInt>` applied to `a = "[1, x]"`, where the oracle's answer for the string
    contents is placed inside the literal (4..12) resp. somewhere else (100..108) -/
private def arrAt (base : Nat) : Expr :=
  .array [.lit ⟨.int "1" "", "1", ⟨base + 1, base + 2⟩⟩,
          .path { pA with toks := "x", segs := ["x"], span := ⟨base + 4, base + 5⟩ } ⟨base + 4, base + 5⟩]
    "[1, x]" ⟨base, base + 8⟩
private def oGood : Oracle := { arrs := [("[1, x]", some (arrAt 4))] }
private def oFar : Oracle := { arrs := [("[1, x]", some (arrAt 100))] }
private def mArr : Meta :=
  .nameValue pA (.lit ⟨.str "[1, x]", "\"[1, x]\"", ⟨4, 12⟩⟩) "a = \"[1, x]\"" ⟨0, 12⟩

private theorem mArr_wf : mArr.spanWF = true := by decide
private theorem oGood_within : oGood.arrsWithin mArr.span = true := by decide
example : mArr.spanWF = true := mArr_wf
example : oGood.arrsWithin mArr.span = true := oGood_within
example : oFar.arrsWithin mArr.span = false := by decide

/-- with the oracle hypothesis: the element error (8..9) lies inside the item -/
example : ∃ e sp, (hooksOf oGood (fun _ => {}) (.vecLit .int)).fromMeta mArr = .err e
    ∧ e.span = some sp ∧ sp = ⟨8, 9⟩ ∧ sp.within mArr.span = true :=
  ⟨_, _, rfl, rfl, rfl, by decide⟩

example (e : Err) (he : (hooksOf oGood (fun _ => {}) (.vecLit .int)).fromMeta mArr = .err e) :
    ∀ sp, e.span = some sp → sp.within mArr.span = true :=
  builtin_convSpans oGood (fun _ => {}) (.vecLit .int) mArr (fun _ => empty_spansIn _)
    (fun _ => oracle_arrsWithin oGood_within) mArr_wf e he

/-- the oracle hypothesis is needed: an answer placed elsewhere puts the error's span (104..105)
    outside the (well-formed) item -/
example : ∃ e sp, (hooksOf oFar (fun _ => {}) (.vecLit .int)).fromMeta mArr = .err e
    ∧ e.span = some sp ∧ sp.within mArr.span = false :=
  ⟨_, _, rfl, rfl, by decide⟩

/-- the oracle check is executable and not trivially true -/
example : Oracle.arrsWithin { arrs := [("[1]", some (.array [.lit ⟨.int "1" "", "1", ⟨5, 6⟩⟩] "[1]" ⟨4, 7⟩))] } ⟨0, 8⟩ = true := by
  decide
example : Oracle.arrsWithin { arrs := [("[1]", some (.array [.lit ⟨.int "1" "", "1", ⟨5, 6⟩⟩] "[1]" ⟨4, 7⟩))] } ⟨0, 5⟩ = false := by
  decide

/-- the error predicates are executable and not trivially true -/
example : (Err.multi [.leaf (.custom "x") [] (some ⟨2, 3⟩), .leaf (.custom "y") [] none] [] none).allWithin ⟨0, 4⟩ = true := by
  decide
example : (Err.multi [.leaf (.custom "x") [] (some ⟨2, 5⟩), .leaf (.custom "y") [] none] [] none).allWithin ⟨0, 4⟩ = false := by
  decide

end C03
