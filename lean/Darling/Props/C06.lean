import Darling.Options
import Darling.Props.C07Universe
import Darling.Spec.PanicInventory
/-
  C06 — The derive macros are total: they diagnose, they never crash.

  The derive-time model (`Options.derive`) returns `ok` (one impl block), `err e` (the compile
  errors of `e`, at least one) or — only where the code can panic — `panic`.  Proved here: the
  option readers, the option chains of fields and variants, the attribute loops and `finish_with`
  never panic, nor does reading one field declaration under `RenameOk`.  That hypothesis isolates the
  one panic source left, the external crate `ident_case` (byte slicing in camelCase).  The body
  rules and the two top-level functions are in `C06Derive`.
-/
open Options Wrappers Scalars SynTypes

namespace C06

/-! ### the option readers return -/

theorem readOptString_returns (m : Meta) : (readOptString m).Returns :=
  (C07.option_np some none _ (C07.string_np id)).fromMeta m
theorem readOptBool_returns (m : Meta) : (readOptBool m).Returns :=
  (C07.option_np some none _ (C07.bool_np id)).fromMeta m
theorem readOptSpannedBool_returns (m : Meta) : (readOptSpannedBool m).Returns :=
  (C07.option_np some none _ (C07.spanned_np _ _ (C07.bool_np id))).fromMeta m
theorem readFlag_returns (m : Meta) : (readFlag m).Returns := (C07.flag_np id).fromMeta m

theorem readCallable_returns (m : Meta) : (readCallable m).Returns := (C07.callable_np id).fromMeta m
theorem readPath_returns (o : Oracle) (m : Meta) : (readPath o m).Returns := (C07.path_np _ id).fromMeta m
theorem readOptPath_returns (o : Oracle) (m : Meta) : (readOptPath o m).Returns :=
  (C07.option_np some none _ (C07.path_np _ id)).fromMeta m

theorem defaultFromMeta_returns (o : Oracle) (m : Meta) : (defaultFromMeta o m).Returns := by
  unfold defaultFromMeta
  cases m with
  | path _ => exact Outcome.returns_ok _
  | list _ _ _ _ _ _ => exact Outcome.returns_err _
  | nameValue _ e _ _ => exact (C07.pathFromExpr_returns _ id e).map _

/-! ### no option chain panics -/

/-- a step result that is not a panic.  The full name is `C06.StepR.Returns`, so it is applied as
    `StepR.Returns r`: `r.Returns` would look in `Options.StepR`. -/
def StepR.Returns {σ : Type} : StepR σ → Prop
  | .panic _ => False
  | _ => True

def StepR.Holds {σ : Type} (P : σ → Prop) (N : Prop) : StepR σ → Prop
  | .ok s => P s
  | .err s _ => P s
  | .panic _ => N

theorem StepR.returns_iff_holds {σ : Type} {r : StepR σ} : StepR.Returns r ↔ StepR.Holds (fun _ => True) False r := by
  cases r <;> exact Iff.rfl

theorem withRead_holds {σ β : Type} {P : σ → Prop} {N : Prop} (s : σ) (r : Outcome β) (k : β → StepR σ) (hs : P s)
    (hk : ∀ b, r = .ok b → StepR.Holds P N (k b)) (hp : ∀ m, r = .panic m → N) : StepR.Holds P N (withRead s r k) := by
  unfold withRead
  cases r with
  | ok v => exact hk v rfl
  | err e => exact hs
  | panic m => exact hp m rfl

theorem bundleStep_holds {σ : Type} {P : σ → Prop} {N : Prop} (s : σ) (hs : P s) (errs : List Err) :
    StepR.Holds P N (bundleStep s errs) := by
  unfold bundleStep
  split <;> exact hs

theorem once_holds {σ β : Type} {P : σ → Prop} {N : Prop} {held : Prop} [Decidable held] (s : σ) (e : Err)
    (r : Outcome β) (k : β → StepR σ) (hs : P s) (hk : ∀ b, r = .ok b → StepR.Holds P N (k b))
    (hp : ∀ m, r = .panic m → N) : StepR.Holds P N (if held then .err s e else withRead s r k) :=
  ite_ind hs (withRead_holds s r k hs hk hp)

theorem withRead_returns {σ β : Type} (s : σ) (r : Outcome β) (k : β → StepR σ) (hr : r.Returns)
    (hk : ∀ b, StepR.Returns (k b)) : StepR.Returns (withRead s r k) :=
  StepR.returns_iff_holds.2 (withRead_holds s r k trivial (fun b _ => StepR.returns_iff_holds.1 (hk b)) hr)

theorem ite_returns {σ : Type} {c : Prop} [Decidable c] {a b : StepR σ} (ha : StepR.Returns a) (hb : StepR.Returns b) :
    StepR.Returns (if c then a else b) := ite_ind ha hb

theorem bundleStep_returns {σ : Type} (s : σ) (errs : List Err) : StepR.Returns (bundleStep s errs) :=
  StepR.returns_iff_holds.2 (bundleStep_holds s trivial errs)

theorem once_returns {σ β : Type} {held : Prop} [Decidable held] (s : σ) (e : Err) {r : Outcome β} (k : β → StepR σ)
    (hr : r.Returns) (hk : ∀ b, StepR.Returns (k b)) :
    StepR.Returns (if held then .err s e else withRead s r k) :=
  StepR.returns_iff_holds.2 (once_holds s e r k trivial (fun b _ => StepR.returns_iff_holds.1 (hk b)) hr)

/-- `InputField::parse_nested`: one line per option, in the order of the code -/
theorem fieldStep_returns (o : Oracle) (s : FieldOpts) (mi : Meta) : StepR.Returns (fieldStep o s mi) := by
  unfold fieldStep
  refine ite_returns (once_returns _ _ _ (readOptString_returns mi) fun _ => ite_returns trivial trivial) ?_
  refine ite_returns (once_returns _ _ _ (defaultFromMeta_returns o mi) fun _ => trivial) ?_
  refine ite_returns (once_returns _ _ _ (readCallable_returns mi) fun _ => ite_returns trivial trivial) ?_
  refine ite_returns (once_returns _ _ _ (readOptSpannedBool_returns mi) fun _ => ite_returns trivial trivial) ?_
  refine ite_returns ?_ ?_
  · cases s.post
    · exact withRead_returns _ _ _ (readPath_returns o mi) fun _ => trivial
    · trivial
  refine ite_returns (once_returns _ _ _ (readOptBool_returns mi) fun _ => ite_returns trivial trivial) ?_
  exact ite_returns (once_returns _ _ _ (readFlag_returns mi) fun _ => bundleStep_returns _ _) trivial

/-- variant options never panic -/
theorem variantStep_returns (isUnit : Bool) (s : VariantOpts) (mi : Meta) : StepR.Returns (variantStep isUnit s mi) := by
  unfold variantStep
  refine ite_returns (once_returns _ _ _ (readOptString_returns mi) fun _ => trivial) ?_
  refine ite_returns (once_returns _ _ _ (readOptBool_returns mi) fun _ => trivial) ?_
  exact ite_returns
    (ite_returns trivial (ite_returns trivial (withRead_returns _ _ _ (readOptSpannedBool_returns mi) fun _ => trivial)))
    trivial

/-! ### the attribute loops never panic -/

def LoopHolds {σ β : Type} (P : σ → Prop) (N : Prop) : Except String (σ × β) → Prop
  | .ok r => P r.1
  | .error _ => N

/- One induction through the three layers of `parse_attributes`, for an invariant `P` of the state and a
   proposition `N` that a panicking step has to establish: `N := False` says that the loop goes through
   (below), `N := True` that `P` holds of whatever state it ends in. -/
section
variable {σ : Type} (step : σ → Meta → StepR σ) (P : σ → Prop) (N : Prop)
  (hstep : ∀ s m, P s → StepR.Holds P N (step s m))
include hstep

theorem parseAttrItems_holds :
    ∀ (items : List NestedMeta) (s : σ) (errs : List Err), P s → LoopHolds P N (parseAttrItems step s errs items)
  | [], s, errs, hs => hs
  | .lit l :: rest, s, errs, hs => by
      simp only [parseAttrItems]
      exact parseAttrItems_holds rest _ _ hs
  | .item mi :: rest, s, errs, hs => by
      simp only [parseAttrItems]
      have h := hstep s mi hs
      generalize step s mi = r at h ⊢
      cases r with
      | ok s' => exact parseAttrItems_holds rest _ _ h
      | err s' e => exact parseAttrItems_holds rest _ _ h
      | panic m => exact h

theorem parseAttr_holds (s : σ) (a : Attr) (hs : P s) : LoopHolds P N (parseAttr step s a) := by
  unfold parseAttr
  cases a.body with
  | path _ => exact hs
  | nameValue _ _ _ _ => exact hs
  | list p items bad ts t sp =>
      cases bad with
      | some b => exact hs
      | none =>
          have h := parseAttrItems_holds step P N hstep items s [] hs
          dsimp only
          generalize parseAttrItems step s [] items = r at h ⊢
          -- the result is read off by reduction, and `Err.multiple` reduces only on a list seen to have
          -- none, one or at least two members
          match r, h with
          | .error m, h => exact h
          | .ok (s', []), h => exact h
          | .ok (s', [x]), h => exact h
          | .ok (s', x :: y :: r), h => exact h

theorem parseAttributes_holds :
    ∀ (attrs : List Attr) (s : σ) (errs : List Err), P s → LoopHolds P N (parseAttributes step s errs attrs)
  | [], s, errs, hs => hs
  | a :: rest, s, errs, hs => by
      simp only [parseAttributes]
      refine ite_ind ?_ (parseAttributes_holds rest _ _ hs)
      have h := parseAttr_holds step P N hstep s a hs
      generalize parseAttr step s a = r at h ⊢
      match r, h with
      | .error m, h => exact h
      | .ok (s', none), h => exact parseAttributes_holds rest _ _ h
      | .ok (s', some e), h => exact parseAttributes_holds rest _ _ h

end

theorem parseAttributes_ok {σ : Type} (step : σ → Meta → StepR σ) (hstep : ∀ s m, StepR.Returns (step s m)) :
    ∀ (attrs : List Attr) (s : σ) (errs : List Err), ∃ r, parseAttributes step s errs attrs = .ok r := by
  intro attrs s errs
  have h := parseAttributes_holds step _ _ (fun s m _ => StepR.returns_iff_holds.1 (hstep s m)) attrs s errs trivial
  generalize parseAttributes step s errs attrs = r at h ⊢
  cases r with
  | ok x => exact ⟨x, rfl⟩
  | error m => exact h.elim

/-! ### `finish_with` -/

theorem bundle_is_diagnostics {σ : Type} (errs : List Err) (hne : errs ≠ []) :
    ∃ e, (Err.bundleErr errs : Outcome σ) = .err e :=
  (Err.bundleErr_of_ne_nil hne).imp fun _ h => h.1

/-- `errors.finish_with(self)`: an impl-or-diagnostics result, never a panic -/
theorem finishWith_returns {σ : Type} (r : Except String (σ × List Err)) (h : ∃ x, r = .ok x) : (finishWith r).Returns := by
  obtain ⟨⟨s, errs⟩, rfl⟩ := h
  cases errs with
  | nil => exact Outcome.returns_ok _
  | cons x r => exact Err.bundleErr_returns (List.cons_ne_nil _ _)

theorem finishWith_ok {σ : Type} {r : Except String (σ × List Err)} {s : σ} (h : finishWith r = .ok s) :
    r = .ok (s, []) := by
  match r, h with
  | .error _, h => cases h
  | .ok (_, []), h => cases h; rfl
  | .ok (_, _ :: _), h => exact absurd h (Err.bundleErr_ne_ok _ _)

/-- parsing the options of one field never panics: every malformed `#[darling ...]` attribute —
    bare, name-value, literal items, unparsable lists, unknown and conflicting options — is an error -/
theorem field_options_return (o : Oracle) (attrs : List Attr) :
    (finishWith (parseAttributes (fieldStep o) {} [] attrs)).Returns :=
  finishWith_returns _ (parseAttributes_ok _ (fieldStep_returns o) attrs _ _)

/-! non-vacuity: a bare `#[darling]` is an error -/
def pD : Path := { global := false, segs := ["darling"], plain := true, toks := "darling", span := ⟨2, 9⟩ }
def bare : Attr := { path := pD, body := .path pD, toks := "#[darling]", span := ⟨0, 10⟩ }
example : ∃ e, finishWith (parseAttributes (fieldStep {}) ({} : FieldOpts) [] [bare]) = .err e := ⟨_, rfl⟩

theorem variant_options_return (isUnit : Bool) (attrs : List Attr) :
    (finishWith (parseAttributes (variantStep isUnit) {} [] attrs)).Returns :=
  finishWith_returns _ (parseAttributes_ok _ (variantStep_returns isUnit) attrs _ _)

/-! ### the one external panic source, isolated -/

/-- the rename rule does not panic on this identifier (false only for `camelCase` on identifiers
    whose first character after Pascal-casing is missing or not ASCII — `ident_case`'s byte
    slicing; recorded as a known finding) -/
def RenameOk (rule : RenameRule) (ident : String) : Prop :=
  (rule.applyToField ident).Returns ∧ (rule.applyToVariant ident).Returns

theorem rename_ok_unless_camel (rule : RenameRule) (ident : String) (h : rule ≠ .camel) : RenameOk rule ident := by
  cases rule
  case camel => exact absurd rfl h
  -- every other rule is a total string map
  all_goals exact ⟨Outcome.returns_ok _, Outcome.returns_ok _⟩

/-- **Known finding F8**: `derive_returns` without `DeclSafe` is false of the model, as it is of the code.
    `rename_all = "camelCase"` on a field named `__` panics: nothing is left after Pascal-casing. -/
theorem F8_witness_underscores : ¬ RenameOk .camel "__" := by
  intro h
  exact h.1 "byte index 1 is out of bounds" rfl

/-- F8 again: `rename_all = "camelCase"` panics on a variant whose first character is not ASCII -/
theorem F8_witness_non_ascii : ¬ RenameOk .camel "Émile" := by
  intro h
  exact h.2 "byte index 1 is not a char boundary" rfl

theorem resolveField_returns (core : CoreOpts) (ident : String) (ty : Ty) (s : FieldOpts)
    (h : RenameOk core.renameRule ident) : (resolveField core ident ty s).Returns := by
  unfold resolveField
  cases s.attrName with
  | some n => exact Outcome.returns_ok _
  | none => exact h.1.bind _ (fun _ => Outcome.returns_ok _)

/-- a field declaration is read without panicking -/
theorem fieldFromDecl_returns (o : Oracle) (core : CoreOpts) (f : FieldD)
    (h : RenameOk core.renameRule (f.ident.getD "__unnamed")) : (fieldFromDecl o core f).Returns := by
  unfold fieldFromDecl
  exact Outcome.returns_cases _ (field_options_return o f.attrs) (fun s => resolveField_returns core _ f.ty s h)
    fun _ => Outcome.returns_err _

/-! ### what a field that was read is made of -/

theorem resolveField_eq_ok {core : CoreOpts} {ident : String} {ty : Ty} {s : FieldOpts} {rf : RField}
    (h : resolveField core ident ty s = .ok rf) :
    ∃ name, rf = { ident, name, ty, with_ := s.with_, post := s.post, dflt := fieldDefault s.dflt core.dflt s.skip,
                   skip := skipTrue s, multiple := s.multiple.getD false, flatten := s.flatten.isSome,
                   flattenSpan := s.flatten } := by
  unfold resolveField at h
  cases ha : s.attrName with
  | some n => rw [ha] at h; exact ⟨n, (Outcome.ok.inj h).symm⟩
  | none =>
      rw [ha] at h
      dsimp only at h
      cases hn : core.renameRule.applyToField ident with
      | ok n => rw [hn] at h; exact ⟨n, (Outcome.ok.inj h).symm⟩
      | err e => rw [hn] at h; cases h
      | panic m => rw [hn] at h; cases h

theorem fieldFromDecl_eq_ok {o : Oracle} {core : CoreOpts} {f : FieldD} {rf : RField}
    (h : fieldFromDecl o core f = .ok rf) :
    ∃ s, finishWith (parseAttributes (fieldStep o) {} [] f.attrs) = .ok s ∧
      resolveField core (f.ident.getD "__unnamed") f.ty s = .ok rf := by
  unfold fieldFromDecl at h
  cases hs : finishWith (parseAttributes (fieldStep o) {} [] f.attrs) with
  | ok s => rw [hs] at h; exact ⟨s, rfl, h⟩
  | err e => rw [hs] at h; cases h
  | panic m => rw [hs] at h; cases h

/-- `C07.inventory_current`, restated so that it is among C06's obligations -/
theorem inventory_current : Generated.panicSites = Spec.PanicInventory.sites.map (·.key) :=
  C07.inventory_current

end C06
