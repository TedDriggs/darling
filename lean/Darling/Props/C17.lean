import Darling.Suggest
import Darling.Derive.Struct
import Darling.Derive.Enum
/-
  C17 — Did-you-mean suggestions are sound, best-match and scoped to the level.
  For every candidate list with arbitrary scores (the similarity measure is external), every
  threshold, every error tree.
-/
open Suggest Derive

namespace C17

/-! ### `did_you_mean`: sound and best -/

/-- what "the best candidate of `l` above the threshold" means -/
def Best (thr : Nat) (l : List (String × Nat)) : Option (Nat × String) → Prop
  | none => ∀ b sb, (b, sb) ∈ l → sb ≤ thr
  | some (sc, a) => (a, sc) ∈ l ∧ sc > thr ∧ ∀ b sb, (b, sb) ∈ l → sb ≤ sc

theorem dymStep_none (thr : Nat) (alt : String) (conf : Nat) :
    dymStep thr none (alt, conf) = if conf > thr then some (conf, alt) else none := by
  simp [dymStep]

theorem dymStep_some (thr : Nat) (csc : Nat) (ca alt : String) (conf : Nat) :
    dymStep thr (some (csc, ca)) (alt, conf) = if conf > thr ∧ csc < conf then some (conf, alt) else some (csc, ca) := by
  simp [dymStep]

theorem bound_snoc {l : List (String × Nat)} {x : String × Nat} {s : Nat}
    (hl : ∀ b sb, (b, sb) ∈ l → sb ≤ s) (hx : x.2 ≤ s) : ∀ b sb, (b, sb) ∈ l ++ [x] → sb ≤ s := by
  intro b sb hb
  rcases List.mem_append.mp hb with hb | hb
  · exact hl b sb hb
  · cases List.mem_singleton.mp hb; exact hx

/-- one iteration keeps the invariant -/
theorem best_step (thr : Nat) (l : List (String × Nat)) (c : Option (Nat × String)) (alt : String) (conf : Nat)
    (h : Best thr l c) : Best thr (l ++ [(alt, conf)]) (dymStep thr c (alt, conf)) := by
  have hlast : (alt, conf) ∈ l ++ [(alt, conf)] := List.mem_append_right l (List.mem_singleton.mpr rfl)
  cases c with
  | none =>
      rw [dymStep_none]
      by_cases hgt : conf > thr
      · rw [if_pos hgt]
        exact ⟨hlast, hgt, bound_snoc (fun b sb hb => Nat.le_trans (h b sb hb) (Nat.le_of_lt hgt)) (Nat.le_refl _)⟩
      · rw [if_neg hgt]
        exact bound_snoc h (Nat.le_of_not_gt hgt)
  | some c =>
      obtain ⟨csc, ca⟩ := c
      obtain ⟨hmem, hthr, hbest⟩ := h
      rw [dymStep_some]
      by_cases hgt : conf > thr ∧ csc < conf
      · rw [if_pos hgt]
        exact ⟨hlast, hgt.1, bound_snoc (fun b sb hb => Nat.le_trans (hbest b sb hb) (Nat.le_of_lt hgt.2)) (Nat.le_refl _)⟩
      · rw [if_neg hgt]
        exact ⟨List.mem_append_left _ hmem, hthr,
          bound_snoc hbest (Nat.le_of_not_lt fun hlt => hgt ⟨Nat.lt_trans hthr hlt, hlt⟩)⟩

theorem best_foldl (thr : Nat) (rest pre : List (String × Nat)) (c : Option (Nat × String)) (h : Best thr pre c) :
    Best thr (pre ++ rest) (rest.foldl (dymStep thr) c) := by
  induction rest generalizing pre c with
  | nil => rw [List.append_nil]; exact h
  | cons pv rest ih =>
      rw [List.append_cons]
      exact ih _ _ (best_step thr pre c pv.1 pv.2 h)

theorem didYouMean_is_best (thr : Nat) (alts : List (String × Nat)) : Best thr alts (didYouMean thr alts) := by
  have := best_foldl thr alts [] none (fun b sb hb => nomatch hb)
  rwa [List.nil_append] at this

/-- **sound and best-match**: a suggestion is one of the candidates, its similarity exceeds the
    threshold, and no candidate is more similar -/
theorem didYouMean_best (thr : Nat) (alts : List (String × Nat)) (sc : Nat) (a : String)
    (h : didYouMean thr alts = some (sc, a)) :
    (a, sc) ∈ alts ∧ sc > thr ∧ ∀ b sb, (b, sb) ∈ alts → sb ≤ sc := by
  have := didYouMean_is_best thr alts
  rwa [h] at this

/-- no suggestion is offered exactly when no candidate exceeds the threshold -/
theorem didYouMean_none_iff (thr : Nat) (alts : List (String × Nat)) :
    didYouMean thr alts = none ↔ ∀ b sb, (b, sb) ∈ alts → sb ≤ thr := by
  have hb := didYouMean_is_best thr alts
  constructor
  · intro h
    rwa [h] at hb
  · intro h
    cases hd : didYouMean thr alts with
    | none => rfl
    | some c =>
        rw [hd] at hb
        exact absurd (h c.2 c.1 hb.1) (Nat.not_le_of_gt hb.2.1)

theorem didYouMean_map_some {thr : Nat} {L : List String} {g : String → Nat} {sc : Nat} {a : String}
    (h : didYouMean thr (L.map (fun a => (a, g a))) = some (sc, a)) :
    a ∈ L ∧ sc = g a ∧ thr < sc ∧ ∀ b ∈ L, g b ≤ sc := by
  obtain ⟨hm, hgt, hbest⟩ := didYouMean_best thr _ sc a h
  obtain ⟨a', ha', heq⟩ := List.mem_map.mp hm
  cases heq
  exact ⟨ha', rfl, hgt, fun b hb => hbest b (g b) (List.mem_map.mpr ⟨b, hb, rfl⟩)⟩

theorem didYouMean_map_none {thr : Nat} {L : List String} {g : String → Nat} :
    didYouMean thr (L.map (fun a => (a, g a))) = none ↔ ∀ b ∈ L, g b ≤ thr := by
  rw [didYouMean_none_iff]
  constructor
  · exact fun h b hb => h b (g b) (List.mem_map.mpr ⟨b, hb, rfl⟩)
  · intro h b sb hb
    obtain ⟨a, ha, heq⟩ := List.mem_map.mp hb
    cases heq
    exact h _ ha

/-! ### `add_alts`: a better earlier suggestion is never replaced by a worse one -/

theorem addAlts_dym_none {thr : Nat} {alts : List (String × Nat)} (h : didYouMean thr alts = none)
    (cur : Option (Nat × String)) : addAlts thr cur alts = cur := by
  simp only [addAlts, h]

theorem addAlts_cur_none (thr : Nat) (alts : List (String × Nat)) : addAlts thr none alts = didYouMean thr alts := by
  unfold addAlts
  cases didYouMean thr alts <;> rfl

theorem addAlts_dym_some {thr : Nat} {alts : List (String × Nat)} {b : Nat × String} (h : didYouMean thr alts = some b)
    (c : Nat × String) : addAlts thr (some c) alts = if b.1 > c.1 then some b else some c := by
  simp only [addAlts, h]

theorem addAlts_some_cases (thr : Nat) (c : Nat × String) (alts : List (String × Nat)) :
    addAlts thr (some c) alts = some c ∨ ∃ b, addAlts thr (some c) alts = some b ∧ c.1 < b.1 := by
  cases hd : didYouMean thr alts with
  | none => exact Or.inl (addAlts_dym_none hd _)
  | some b =>
      rw [addAlts_dym_some hd]
      by_cases hgt : b.1 > c.1
      · rw [if_pos hgt]; exact Or.inr ⟨b, rfl, hgt⟩
      · rw [if_neg hgt]; exact Or.inl rfl

theorem addAlts_monotone (thr : Nat) (cur : Option (Nat × String)) (alts : List (String × Nat)) (csc : Nat) (ca : String)
    (hc : cur = some (csc, ca)) :
    ∃ sc a, addAlts thr cur alts = some (sc, a) ∧ csc ≤ sc ∧ (sc = csc → a = ca) := by
  subst hc
  rcases addAlts_some_cases thr (csc, ca) alts with h | ⟨b, h, hlt⟩
  · exact ⟨csc, ca, h, Nat.le_refl _, fun _ => rfl⟩
  · exact ⟨b.1, b.2, h, Nat.le_of_lt hlt, fun heq => absurd heq (Nat.ne_of_gt hlt)⟩

theorem addAlts_from_candidates (thr : Nat) (alts : List (String × Nat)) (sc : Nat) (a : String)
    (h : addAlts thr none alts = some (sc, a)) : (a, sc) ∈ alts ∧ sc > thr := by
  rw [addAlts_cur_none] at h
  exact ⟨(didYouMean_best thr alts sc a h).1, (didYouMean_best thr alts sc a h).2.1⟩

/-! ### scope: enclosing names only for what the flatten member received directly -/

/-- an error that has already been located (it was rejected *inside* a nested item) is untouched -/
theorem siblingAlts_located_untouched (thr : Nat) (scores : String → List (String × Nat)) (e : Err)
    (h : e.locs ≠ []) : addSiblingAlts thr scores e = e := by
  cases e with
  | leaf k ls sp =>
      cases ls with
      | nil => exact absurd rfl h
      | cons l ls => rfl
  | multi cs ls sp =>
      cases ls with
      | nil => exact absurd rfl h
      | cons l ls => rfl

/-- a suggestion is attached only to unknown-name errors: every other leaf is unchanged -/
theorem siblingAlts_only_unknown (thr : Nat) (scores : String → List (String × Nat)) (k : Kind) (ls : List String) (sp : Option Span)
    (hk : ∀ n d, k ≠ .unknownField n d) : addSiblingAlts thr scores (.leaf k ls sp) = .leaf k ls sp := by
  cases ls with
  | cons l ls => exact siblingAlts_located_untouched thr scores _ (List.cons_ne_nil l ls)
  | nil => cases k <;> first | rfl | exact absurd rfl (hk _ _)

/-- an unlocated unknown-name leaf gets the better of its current suggestion and the best enclosing name -/
theorem siblingAlts_unknown (thr : Nat) (scores : String → List (String × Nat)) (n : String) (d : Option (Nat × String)) (sp : Option Span) :
    addSiblingAlts thr scores (.leaf (.unknownField n d) [] sp) = .leaf (.unknownField n (addAlts thr d (scores n))) [] sp := rfl

theorem siblingAlts_bundle (thr : Nat) (scores : String → List (String × Nat)) (cs : List Err) (sp : Option Span) :
    addSiblingAlts thr scores (.multi cs [] sp) = .multi (addSiblingAltsList thr scores cs) [] sp := rfl

/-! ### the suggested name is valid at that very position -/

theorem asName_eq_some {ν : Type} (f : SField ν) (a : String) :
    f.asName = some a ↔ f.skip = false ∧ f.flatten = false ∧ f.name = a := by
  unfold SField.asName
  cases f.skip <;> cases f.flatten <;> simp

/-- struct receivers: candidates are exactly the addressable names (not skipped, not flatten) -/
theorem struct_candidates {ν : Type} (r : SStruct ν) (a : String) :
    a ∈ r.names ↔ ∃ f ∈ r.fields, f.skip = false ∧ f.flatten = false ∧ f.name = a := by
  simp only [SStruct.names, List.mem_filterMap, asName_eq_some]

theorem arm_isSome_iff_names {ν : Type} (r : SStruct ν) (a : String) : (r.arm a).isSome = true ↔ a ∈ r.names := by
  rw [struct_candidates, SStruct.arm, List.find?_isSome]
  simp only [Bool.and_eq_true, Bool.not_eq_true', beq_iff_eq, and_assoc]

theorem armV_isSome_iff_names {ν : Type} (e : SEnum ν) (a : String) : (e.arm a).isSome = true ↔ a ∈ e.names := by
  rw [SEnum.arm, List.find?_isSome]
  simp only [SEnum.names, List.mem_map, List.mem_filter, Bool.and_eq_true, Bool.not_eq_true', beq_iff_eq, and_assoc]

theorem suggestion_valid {α : Type} {arm : String → Option α} {a name : String}
    (ha : (arm a).isSome = true) (hunknown : arm name = none) : (∃ x, arm a = some x) ∧ a ≠ name := by
  refine ⟨Option.isSome_iff_exists.mp ha, fun heq => ?_⟩
  rw [heq, hunknown] at ha
  cases ha

/-- … so a suggested name would have been accepted, and is never the rejected name itself -/
theorem struct_suggestion_valid {ν : Type} (r : SStruct ν) (name : String) (sc : Nat) (a : String)
    (hunknown : r.arm name = none)
    (h : r.unknownErr name = Err.new (.unknownField name (some (sc, a)))) :
    (∃ f, r.arm a = some f) ∧ a ≠ name := by
  simp only [SStruct.unknownErr, Err.new, Err.leaf.injEq, Kind.unknownField.injEq, true_and, and_true] at h
  exact suggestion_valid ((arm_isSome_iff_names r a).mpr (didYouMean_map_some h).1) hunknown

/-- an enum without variants offers nothing either way: the two branches of `unknownErr` agree -/
theorem unknownErrV_eq {ν : Type} (e : SEnum ν) (n : String) :
    e.unknownErr n = Err.new (.unknownField n (didYouMean e.thr (e.names.map (fun a => (a, e.score n a))))) := by
  unfold SEnum.unknownErr
  cases e.names with
  | nil => cases e.variants.isEmpty <;> rfl
  | cons a as => rfl

theorem enum_suggestion_valid {ν : Type} (e : SEnum ν) (name : String) (sc : Nat) (a : String)
    (hunknown : e.arm name = none)
    (h : e.unknownErr name = Err.new (.unknownField name (some (sc, a)))) :
    (∃ v, e.arm a = some v) ∧ a ≠ name := by
  simp only [unknownErrV_eq, Err.new, Err.leaf.injEq, Kind.unknownField.injEq, true_and, and_true] at h
  exact suggestion_valid ((armV_isSome_iff_names e a).mpr (didYouMean_map_some h).1) hunknown

/-- `didYouMeanOff` models `did_you_mean` compiled without the `suggestions` feature: it never suggests -/
theorem suggestions_off (alts : List (String × Nat)) : didYouMeanOff alts = none := rfl

theorem no_scores_no_suggestion (thr : Nat) (alts : List (String × Nat)) (h : ∀ b sb, (b, sb) ∈ alts → sb ≤ thr) :
    didYouMean thr alts = none := (didYouMean_none_iff thr alts).mpr h

/-! non-vacuity -/
example : didYouMean 80 [("alpha", 70), ("beta", 95), ("gamma", 95), ("delta", 90)] = some (95, "beta") := rfl
example : didYouMean 80 [("alpha", 70), ("beta", 80)] = none := rfl
example : addAlts 80 (some (95, "beta")) [("zeta", 90)] = some (95, "beta") := rfl
end C17
