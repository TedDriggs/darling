import Darling.FromMeta.Universe
import Darling.Props.C12
import Darling.Lemmas.Error
/-
  C12 — an independent, declarative reading of the property text, and `model ⟺ text`.

  The text is rendered as an inductive relation `Expect I m k t w`:
    "the text allows the outcome `w` for `W<T>::from_meta(m)` when `T::from_meta(m)` is `t`".
  It mentions no hook record and no step function of the model: only the wrapper `k`, the item
  `m`, T's outcome `t` on that same item, and the way wrapped values are written down (`Alg`).
  `ExpectStack` iterates it over a stack of wrappers of any depth (the text's "two-level
  compositions" are the stacks of length 2).

  All theorems are for an arbitrary hook record `h` (any implementor of the trait), an arbitrary item
  `m`, an arbitrary stack `ws` and an arbitrary representation `I` of wrapped values.  The text allows
  exactly one outcome, a function `prescribed` of T's outcome, and the model computes it under two side
  conditions `hS`, `hR` that exclude the two places where the text and the code part (both concern
  `SpannedValue` only, see DISCREPANCY 1 and 2).  They are the weakest possible (`wrap_spanned_iff`),
  and `hS` holds of every `T` whose `from_meta` is the trait's default (`stack_fromMeta_default`).  The
  `hooksOf_stack*` theorems say the same of `hooksOf`, the function the model driver executes.
-/
open Wrappers

namespace C12
variable {β : Type}

/-- the wrappers of the first two sentences of the property (`ptr` = Box / Rc / Arc / RefCell) -/
inductive W where
  | option | ptr | spanned | withOrig | override | result | resultMeta
  deriving DecidableEq, Repr

/-- how wrapped values are written down; the theorems hold for every such representation
    (`valAlg` below is the one of the model driver; a representation that keeps the whole item in
    `withOrig'` / `errm'` makes "an identical copy of the item" literal) -/
structure Alg (β : Type) where
  some' : β → β
  none' : β
  ptr' : β → β
  okv' : β → β
  errv' : Err → β
  okm' : β → β
  errm' : Meta → β
  inherit' : β
  explicit' : β → β
  spanned' : β → Option Span → β
  withOrig' : β → Meta → β

/-- the bare-word form -/
def isWord : Meta → Bool
  | .path _ => true
  | _ => false

/-- "the value's own source range": a bare word is its own value; the value of `name(…)` is what
    stands between the delimiters; the value of `name = value` is the expression right of `=`.
    There is no clause for a list without contents: nothing in the source is its value. -/
inductive OwnRange : Meta → Span → Prop
  | word (p : Path) : OwnRange (.path p) p.span
  | contents (p : Path) (items : List NestedMeta) (bad : Option (String × Span)) (s : Span)
      (toks : String) (sp : Span) : OwnRange (.list p items bad (some s) toks sp) s
  | value (p : Path) (e : Expr) (toks : String) (sp : Span) : OwnRange (.nameValue p e toks sp) e.span

/-- the pairs (wrapper, item) the first sentence speaks about: Option, the smart pointers,
    SpannedValue, WithOriginal on every item; Override on every item but the bare word -/
def inScope : W → Meta → Bool
  | .result, _ => false
  | .resultMeta, _ => false
  | .override, m => !isWord m
  | _, _ => true

/-- `Expect I m k t w`: outcome `w` is what the text prescribes for wrapper `k` around `T` on the
    item `m`, `t` being T's outcome on `m`. -/
inductive Expect (I : Alg β) (m : Meta) : W → Outcome β → Outcome β → Prop
  /- "accept exactly the items T accepts, contain exactly the value T produces" -/
  | option_ok (v : β) : Expect I m .option (.ok v) (.ok (I.some' v))
  | ptr_ok (v : β) : Expect I m .ptr (.ok v) (.ok (I.ptr' v))
  /- "… and WithOriginal an identical copy of the item" -/
  | withOrig_ok (v : β) : Expect I m .withOrig (.ok v) (.ok (I.withOrig' v m))
  /- "SpannedValue records the value's own source range" -/
  | spanned_ok (v : β) (s : Span) : OwnRange m s →
      Expect I m .spanned (.ok v) (.ok (I.spanned' v (some s)))
  /- "for every form other than the bare word - Override<T>" -/
  | override_ok (v : β) : isWord m = false → Expect I m .override (.ok v) (.ok (I.explicit' v))
  /- "… and fail with T's error" (the error itself, not a relative of it) -/
  | err (k : W) (e : Err) : inScope k m = true → Expect I m k (.err e) (.err e)
  /- not in the text, from the type's documentation: the bare word means `Inherit`, whatever T
     would have made of it -/
  | override_word (t : Outcome β) : isWord m = true → Expect I m .override t (.ok I.inherit')
  /- "darling's Result<T> … never fail outwardly and hold T's outcome" -/
  | result_ok (v : β) : Expect I m .result (.ok v) (.ok (I.okv' v))
  | result_err (e : Err) : Expect I m .result (.err e) (.ok (I.errv' e))
  /- "Result<T, Meta> … never fail outwardly and hold T's outcome (or the original item)" -/
  | resultMeta_ok (v : β) : Expect I m .resultMeta (.ok v) (.ok (I.okm' v))
  | resultMeta_err (e : Err) : Expect I m .resultMeta (.err e) (.ok (I.errm' m))
  /- not in the text: a wrapper cannot intercept a panic of T's conversion -/
  | panic (k : W) (p : String) : (k = .override → isWord m = false) →
      Expect I m k (.panic p) (.panic p)

/-- a stack of wrappers, outermost first: `[option, ptr]` is `Option<Box<T>>` -/
inductive ExpectStack (I : Alg β) (m : Meta) : List W → Outcome β → Outcome β → Prop
  | nil (t : Outcome β) : ExpectStack I m [] t t
  | cons {k : W} {ws : List W} {t u w : Outcome β} :
      ExpectStack I m ws t u → Expect I m k u w → ExpectStack I m (k :: ws) t w

/-- "When the item is absent Option yields None, … smart pointers and darling's Result whatever T
    yields and the other wrappers stay required" (`none` = required) -/
def expectNone (I : Alg β) : W → Option β → Option β
  | .option, _ => some I.none'
  | .ptr, some v => some (I.ptr' v)
  | .result, some v => some (I.okv' v)
  | _, _ => none

def expectNoneStack (I : Alg β) : List W → Option β → Option β
  | [], t => t
  | k :: ws, t => expectNone I k (expectNoneStack I ws t)

/-! ## the text's own consequences (sanity of the rendering; no model involved)

  The text is functional: `Expect I m k t w` forces `w = prescribed I m k t`, and in scope
  `prescribed I m k` is `Outcome.map` of something.  Determinacy and the clause-by-clause
  consequences are read off these two facts. -/

theorem OwnRange.valueSpan_eq {m : Meta} {s : Span} (h : OwnRange m s) : valueSpan m = some s := by
  cases h <;> rfl

theorem OwnRange.unique {m : Meta} {s s' : Span} (a : OwnRange m s) (b : OwnRange m s') : s = s' :=
  Option.some.inj (a.valueSpan_eq.symm.trans b.valueSpan_eq)

theorem inScope_override {m : Meta} : inScope .override m = true ↔ isWord m = false := by
  show (!isWord m) = true ↔ isWord m = false
  cases isWord m <;> decide

/-- the outcome the text allows, as a function of T's outcome (`Expect.eq_prescribed`); the value's
    own range is read off the item by `valueSpan` -/
def prescribed (I : Alg β) (m : Meta) : W → Outcome β → Outcome β
  | .option, t => t.map I.some'
  | .ptr, t => t.map I.ptr'
  | .withOrig, t => t.map (I.withOrig' · m)
  | .spanned, t => t.map (I.spanned' · (valueSpan m))
  | .override, t => bif isWord m then .ok I.inherit' else t.map I.explicit'
  | .result, t =>
      match t with
      | .ok v => .ok (I.okv' v)
      | .err e => .ok (I.errv' e)
      | .panic p => .panic p
  | .resultMeta, t =>
      match t with
      | .ok v => .ok (I.okm' v)
      | .err _ => .ok (I.errm' m)
      | .panic p => .panic p

theorem prescribed_override_word (I : Alg β) {m : Meta} (hw : isWord m = true) (t : Outcome β) :
    prescribed I m .override t = .ok I.inherit' :=
  congrArg (cond · _ _) hw

theorem prescribed_override (I : Alg β) {m : Meta} (hw : isWord m = false) (t : Outcome β) :
    prescribed I m .override t = t.map I.explicit' :=
  congrArg (cond · _ _) hw

theorem prescribed_inScope (I : Alg β) {m : Meta} {k : W} (hk : inScope k m = true) :
    ∃ f, ∀ t, prescribed I m k t = t.map f := by
  cases k with
  | result => cases hk
  | resultMeta => cases hk
  | override => exact ⟨_, prescribed_override I (inScope_override.mp hk)⟩
  | _ => exact ⟨_, fun _ => rfl⟩

theorem Expect.eq_prescribed {I : Alg β} {m : Meta} {k : W} {t w : Outcome β}
    (H : Expect I m k t w) : w = prescribed I m k t := by
  cases H with
  | spanned_ok v s hs => exact congrArg (fun r => Outcome.ok (I.spanned' v r)) hs.valueSpan_eq.symm
  | override_ok v hw => exact (prescribed_override I hw (.ok v)).symm
  | override_word t hw => exact (prescribed_override_word I hw t).symm
  | err k e hk =>
      obtain ⟨f, hf⟩ := prescribed_inScope I hk
      exact (hf (.err e)).symm
  | panic k p hk =>
      cases k with
      | override => exact (prescribed_override I (hk rfl) (.panic p)).symm
      | _ => rfl
  | _ => rfl

theorem Expect.unique {I : Alg β} {m : Meta} {k : W} {t w w' : Outcome β}
    (a : Expect I m k t w) (b : Expect I m k t w') : w = w' :=
  a.eq_prescribed.trans b.eq_prescribed.symm

theorem ExpectStack.eq_foldr {I : Alg β} {m : Meta} {ws : List W} {t w : Outcome β}
    (H : ExpectStack I m ws t w) : w = ws.foldr (prescribed I m) t := by
  induction H with
  | nil t => rfl
  | cons _ hk ih => exact hk.eq_prescribed.trans (congrArg (prescribed I m _) ih)

theorem ExpectStack.unique {I : Alg β} {m : Meta} {ws : List W} {t w w' : Outcome β}
    (a : ExpectStack I m ws t w) (b : ExpectStack I m ws t w') : w = w' :=
  a.eq_foldr.trans b.eq_foldr.symm

/-- "accept exactly the items T accepts" -/
theorem Expect.accepts_iff {I : Alg β} {m : Meta} {k : W} {t w : Outcome β}
    (H : Expect I m k t w) (hk : inScope k m = true) : w.isOk = t.isOk := by
  obtain ⟨f, hf⟩ := prescribed_inScope I hk
  rw [H.eq_prescribed, hf]
  cases t <;> rfl

theorem Expect.err_inv {I : Alg β} {m : Meta} {k : W} {t : Outcome β} {e : Err}
    (H : Expect I m k t (.err e)) : t = .err e ∧ inScope k m = true := by
  cases H with
  | err _ _ hk => exact ⟨rfl, hk⟩

theorem ExpectStack.err_inv {I : Alg β} {m : Meta} {ws : List W} {t w : Outcome β} {e : Err}
    (H : ExpectStack I m ws t w) (hw : w = .err e) : t = .err e := by
  induction H with
  | nil t => exact hw
  | cons _ hk ih => exact ih (hw ▸ hk).err_inv.1

/-- "fail with T's error" -/
theorem Expect.fails_with {I : Alg β} {m : Meta} {k : W} {t w : Outcome β}
    (H : Expect I m k t w) (hk : inScope k m = true) (e : Err) : w = .err e ↔ t = .err e := by
  constructor
  · intro hw
    exact (hw ▸ H).err_inv.1
  · intro ht
    obtain ⟨f, hf⟩ := prescribed_inScope I hk
    rw [H.eq_prescribed, hf, ht]
    rfl

/-- "never fail outwardly" -/
theorem Expect.never_fails {I : Alg β} {m : Meta} {k : W} {t w : Outcome β}
    (H : Expect I m k t w) (hk : k = .result ∨ k = .resultMeta) (e : Err) : w ≠ .err e := by
  rintro rfl
  rcases hk with rfl | rfl <;> cases H.err_inv.2

/-- "… and hold T's outcome (or the original item)" -/
theorem Expect.result_holds {I : Alg β} {m : Meta} {t w : Outcome β}
    (H : Expect I m .result t w) :
    (∀ v, t = .ok v → w = .ok (I.okv' v)) ∧ (∀ e, t = .err e → w = .ok (I.errv' e)) :=
  H.eq_prescribed ▸ ⟨fun _ h => h ▸ rfl, fun _ h => h ▸ rfl⟩

theorem Expect.resultMeta_holds {I : Alg β} {m : Meta} {t w : Outcome β}
    (H : Expect I m .resultMeta t w) :
    (∀ v, t = .ok v → w = .ok (I.okm' v)) ∧ (∀ e, t = .err e → w = .ok (I.errm' m)) :=
  H.eq_prescribed ▸ ⟨fun _ h => h ▸ rfl, fun _ h => h ▸ rfl⟩

/-! ## model = text -/

/-- the model side: one wrapper, assembled exactly as `hooksOf` assembles it (`hooksOf_wrap`) -/
def wrapHooks (I : Alg β) : W → Hooks β → Hooks β
  | .option, h => optionOf I.some' I.none' h
  | .ptr, h => ptrOf I.ptr' h
  | .spanned, h => spannedOf I.spanned' h
  | .withOrig, h => withOriginalOf I.withOrig' h
  | .override, h => overrideOf I.explicit' I.inherit' h
  | .result, h => resultOf I.okv' I.errv' h
  | .resultMeta, h => resultMetaOf I.okm' I.errm' h

def stackHooks (I : Alg β) : List W → Hooks β → Hooks β
  | [], h => h
  | k :: ws, h => wrapHooks I k (stackHooks I ws h)

theorem Expect.of_ok {I : Alg β} {m : Meta} {k : W} {f : β → β}
    (hok : ∀ v, Expect I m k (.ok v) (.ok (f v))) (hk : inScope k m = true) (t : Outcome β) :
    Expect I m k t (t.map f) := by
  cases t with
  | ok v => exact hok v
  | err e => exact .err k e hk
  | panic p => exact .panic k p (fun hko => inScope_override.mp (hko ▸ hk))

/-- `hR`: if T accepts, `SpannedValue` needs the item to have a value range -/
theorem Expect.of_prescribed (I : Alg β) (m : Meta) (k : W) (t : Outcome β)
    (hR : k = .spanned → ∀ v, t = .ok v → ∃ s, OwnRange m s) :
    Expect I m k t (prescribed I m k t) := by
  cases k with
  | option => exact .of_ok .option_ok rfl t
  | ptr => exact .of_ok .ptr_ok rfl t
  | withOrig => exact .of_ok .withOrig_ok rfl t
  | spanned =>
      cases t with
      | ok v =>
          obtain ⟨s, hs⟩ := hR rfl v rfl
          show Expect I m .spanned (.ok v) (.ok (I.spanned' v (valueSpan m)))
          rw [hs.valueSpan_eq]
          exact .spanned_ok v s hs
      | err e => exact .err _ e rfl
      | panic p => exact .panic _ p nofun
  | override =>
      cases hw : isWord m with
      | true =>
          rw [prescribed_override_word I hw]
          exact .override_word t hw
      | false =>
          rw [prescribed_override I hw]
          exact .of_ok (fun v => .override_ok v hw) (inScope_override.mpr hw) t
  | result =>
      cases t with
      | ok v => exact .result_ok v
      | err e => exact .result_err e
      | panic p => exact .panic _ p nofun
  | resultMeta =>
      cases t with
      | ok v => exact .resultMeta_ok v
      | err e => exact .resultMeta_err e
      | panic p => exact .panic _ p nofun

/-- `hS`: if T fails, `SpannedValue` needs its error to carry a span already -/
theorem wrapHooks_fromMeta (I : Alg β) (k : W) (h : Hooks β) (m : Meta)
    (hS : k = .spanned → ∀ e, h.fromMeta m = .err e → e.span.isSome = true) :
    (wrapHooks I k h).fromMeta m = prescribed I m k (h.fromMeta m) := by
  cases k with
  | spanned =>
      refine (spanned_transparent I.spanned' h m).trans ?_
      cases ht : h.fromMeta m with
      | err e => exact congrArg Outcome.err (Err.withSpan_of_spanned (Option.isSome_iff_ne_none.1 (hS rfl e ht)) m.span)
      | _ => rfl
  | override => cases m <;> rfl
  | _ => rfl

/-- The side conditions concern `SpannedValue` only; see DISCREPANCY 1 / 2 below for what happens without them. -/
theorem wrap_fromMeta_partial (I : Alg β) (k : W) (h : Hooks β) (m : Meta)
    (hS : k = .spanned → ∀ e, h.fromMeta m = .err e → e.span.isSome = true)
    (hR : k = .spanned → ∀ v, h.fromMeta m = .ok v → ∃ s, OwnRange m s) :
    Expect I m k (h.fromMeta m) ((wrapHooks I k h).fromMeta m) := by
  rw [wrapHooks_fromMeta I k h m hS]
  exact .of_prescribed I m k _ hR

/-- the text cannot be met by any outcome when T accepts an item that has no value range -/
theorem Expect.spanned_needs_range {I : Alg β} {m : Meta} {v : β} {w : Outcome β}
    (H : Expect I m .spanned (.ok v) w) : ∃ s, OwnRange m s := by
  cases H with
  | spanned_ok _ s hs => exact ⟨s, hs⟩

/-- the two side conditions are exactly what is needed: for one `SpannedValue` around any
    implementor, on any item, the text holds if and only if they do -/
theorem wrap_spanned_iff (I : Alg β) (h : Hooks β) (m : Meta) :
    Expect I m .spanned (h.fromMeta m) ((wrapHooks I .spanned h).fromMeta m)
      ↔ ((∀ e, h.fromMeta m = .err e → e.span.isSome = true)
          ∧ (∀ v, h.fromMeta m = .ok v → ∃ s, OwnRange m s)) := by
  constructor
  · intro H
    constructor
    · intro e he
      have hw := (spanned_transparent I.spanned' h m).symm.trans H.eq_prescribed
      rw [he] at hw
      have hw' : e.withSpan m.span = e := Outcome.err.inj hw
      rw [← hw']
      exact Option.isSome_iff_ne_none.2 (e.span_withSpan_ne_none m.span)
    · intro v hv
      exact (hv ▸ H).spanned_needs_range
  · exact fun ⟨hS, hR⟩ => wrap_fromMeta_partial I .spanned h m (fun _ => hS) (fun _ => hR)

/-- MAIN (existence): any stack of wrappers, of any depth, around any implementor, on any item,
    does what the text says — provided, when `SpannedValue` occurs in the stack, that T's error
    on this item (if any) carries a span and that the item has a value range. -/
theorem stack_fromMeta_partial (I : Alg β) (ws : List W) (h : Hooks β) (m : Meta)
    (hS : W.spanned ∈ ws → ∀ e, h.fromMeta m = .err e → e.span.isSome = true)
    (hR : W.spanned ∈ ws → ∃ s, OwnRange m s) :
    ExpectStack I m ws (h.fromMeta m) ((stackHooks I ws h).fromMeta m) := by
  induction ws with
  | nil => exact .nil _
  | cons k ws ih =>
      have ih' := ih (fun hm => hS (List.mem_cons_of_mem _ hm)) (fun hm => hR (List.mem_cons_of_mem _ hm))
      refine .cons ih' (wrap_fromMeta_partial I k (stackHooks I ws h) m ?_ ?_)
      · intro hk e he
        have hb : h.fromMeta m = .err e := ExpectStack.err_inv ih' he
        exact hS (List.mem_cons.mpr (Or.inl hk.symm)) e hb
      · intro hk _ _
        exact hR (List.mem_cons.mpr (Or.inl hk.symm))

/-- MAIN (model ⟺ text): under the same side conditions the text allows exactly one outcome and it
    is the model's. -/
theorem stack_spec_iff_partial (I : Alg β) (ws : List W) (h : Hooks β) (m : Meta)
    (hS : W.spanned ∈ ws → ∀ e, h.fromMeta m = .err e → e.span.isSome = true)
    (hR : W.spanned ∈ ws → ∃ s, OwnRange m s) (w : Outcome β) :
    ExpectStack I m ws (h.fromMeta m) w ↔ w = (stackHooks I ws h).fromMeta m := by
  constructor
  · intro H
    exact ExpectStack.unique H (stack_fromMeta_partial I ws h m hS hR)
  · intro hw
    rw [hw]
    exact stack_fromMeta_partial I ws h m hS hR

/-- no side condition for stacks built from Option, the smart pointers, WithOriginal, Override and
    the two Results -/
theorem stack_fromMeta_noSpanned (I : Alg β) (ws : List W) (h : Hooks β) (m : Meta)
    (hn : W.spanned ∉ ws) :
    ExpectStack I m ws (h.fromMeta m) ((stackHooks I ws h).fromMeta m) :=
  stack_fromMeta_partial I ws h m (fun hm => absurd hm hn) (fun hm => absurd hm hn)

theorem default_err_spanned (h : Hooks β) (hd : h.fromMeta? = none) (m : Meta) (e : Err)
    (he : h.fromMeta m = .err e) : e.span.isSome = true := by
  unfold Hooks.fromMeta at he
  rw [hd] at he
  refine Option.isSome_iff_ne_none.2 ?_
  cases m with
  | path p => exact Outcome.spanned_of_mapErr_withSpan he
  | nameValue p x t s => exact Outcome.spanned_of_mapErr_withSpan he
  | list p items bad ts t s =>
      cases bad with
      | some b =>
          -- the parse error of the list's contents carries its own span
          cases he
          nofun
      | none => exact Outcome.spanned_of_mapErr_withSpan he

/-- `hS` holds for every T that leaves `from_meta` at the trait's default -/
theorem stack_fromMeta_default (I : Alg β) (ws : List W) (h : Hooks β) (m : Meta)
    (hd : h.fromMeta? = none)
    (hR : W.spanned ∈ ws → ∃ s, OwnRange m s) :
    ExpectStack I m ws (h.fromMeta m) ((stackHooks I ws h).fromMeta m) :=
  stack_fromMeta_partial I ws h m (fun _ e he => default_err_spanned h hd m e he) hR

theorem expectNone_ptr (I : Alg β) (t : Option β) : expectNone I .ptr t = t.map I.ptr' := by
  cases t <;> rfl

theorem expectNone_result (I : Alg β) (t : Option β) : expectNone I .result t = t.map I.okv' := by
  cases t <;> rfl

/-- "the other wrappers stay required", whatever T does when absent -/
theorem stays_required (I : Alg β) (k : W)
    (hk : k = .spanned ∨ k = .withOrig ∨ k = .override ∨ k = .resultMeta) (t : Option β) :
    expectNone I k t = none := by
  rcases hk with rfl | rfl | rfl | rfl <;> rfl

theorem wrap_fromNone (I : Alg β) (k : W) (h : Hooks β) :
    (wrapHooks I k h).fromNone = expectNone I k h.fromNone := by
  cases k with
  | ptr => exact (expectNone_ptr I _).symm
  | result => exact (expectNone_result I _).symm
  | _ => rfl

/-- MAIN (absent item): no side condition -/
theorem stack_fromNone (I : Alg β) (ws : List W) (h : Hooks β) :
    (stackHooks I ws h).fromNone = expectNoneStack I ws h.fromNone := by
  induction ws with
  | nil => rfl
  | cons k ws ih => exact (wrap_fromNone I k _).trans (congrArg (expectNone I k) ih)

/-- "Flag not-present" when the item is absent (`C12.flag_absent`, under the text's words) -/
theorem flag_notPresent (mk : Option Span → β) : (flagHooks mk).fromNone = some (mk none) := rfl

/-! ## outside the text: the `flatten` route

  `#[darling(flatten)]` does not hand the field's type a meta item: it calls `from_list` with the
  unclaimed items.  The property speaks about meta items only, so this is not a clause of C12; the
  model (like the code) forwards `from_list` for the smart pointers, `darling::Result<T>` and
  `Override<T>` (stated below for the pointers and `Override`; `Result` lifts T's outcome as it
  does in `from_meta`), and leaves it at the rejecting default for the others. -/

theorem fromList_forwarded (I : Alg β) (h : Hooks β) (items : List NestedMeta) :
    (wrapHooks I .ptr h).fromList items = (h.fromList items).map I.ptr'
    ∧ (wrapHooks I .override h).fromList items = (h.fromList items).map I.explicit' :=
  ⟨rfl, rfl⟩

theorem fromList_not_forwarded (I : Alg β) (k : W)
    (hk : k = .option ∨ k = .spanned ∨ k = .withOrig ∨ k = .resultMeta) (h : Hooks β)
    (items : List NestedMeta) :
    (wrapHooks I k h).fromList items = .err (Err.unsupportedFormat "list") := by
  rcases hk with rfl | rfl | rfl | rfl <;> rfl

/-! ## the universe the driver executes -/

/-- the driver's representation of wrapped values (`Val`); an item is kept as its token string -/
def valAlg : Alg Val where
  some' := .some
  none' := .none
  ptr' := .ptr
  okv' := .okv
  errv' := .errv
  okm' := .okm
  errm' := fun m => .errm m.toks
  inherit' := .inherit
  explicit' := .explicit
  spanned' := .spanned
  withOrig' := fun v m => .withOrig v m.toks

def W.ty : W → Ty → Ty
  | .option, t => .option t
  | .ptr, t => .ptr t
  | .spanned, t => .spanned t
  | .withOrig, t => .withOrig t
  | .override, t => .override t
  | .result, t => .result t
  | .resultMeta, t => .resultMeta t

/-- the type `W₁<W₂<…<T>>>` -/
def stackTy : List W → Ty → Ty
  | [], t => t
  | k :: ws, t => k.ty (stackTy ws t)

theorem hooksOf_wrap (o : Oracle) (r : String → Hooks Val) (k : W) (t : Ty) :
    hooksOf o r (k.ty t) = wrapHooks valAlg k (hooksOf o r t) := by
  cases k <;> rfl

theorem hooksOf_stack (o : Oracle) (r : String → Hooks Val) (ws : List W) (t : Ty) :
    hooksOf o r (stackTy ws t) = stackHooks valAlg ws (hooksOf o r t) := by
  induction ws with
  | nil => rfl
  | cons k ws ih => exact (hooksOf_wrap o r k _).trans (congrArg (wrapHooks valAlg k) ih)

theorem hooksOf_stack_fromMeta_partial (o : Oracle) (r : String → Hooks Val) (ws : List W) (t : Ty)
    (m : Meta)
    (hS : W.spanned ∈ ws → ∀ e, (hooksOf o r t).fromMeta m = .err e → e.span.isSome = true)
    (hR : W.spanned ∈ ws → ∃ s, OwnRange m s) (w : Outcome Val) :
    ExpectStack valAlg m ws ((hooksOf o r t).fromMeta m) w
      ↔ w = (hooksOf o r (stackTy ws t)).fromMeta m := by
  rw [hooksOf_stack]
  exact stack_spec_iff_partial valAlg ws (hooksOf o r t) m hS hR w

theorem hooksOf_stack_fromNone (o : Oracle) (r : String → Hooks Val) (ws : List W) (t : Ty) :
    (hooksOf o r (stackTy ws t)).fromNone = expectNoneStack valAlg ws (hooksOf o r t).fromNone := by
  rw [hooksOf_stack]
  exact stack_fromNone valAlg ws (hooksOf o r t)

/-- the inner targets of the property's quantifier (bool, u8, i64, String, char, Path, Ident,
    Expr, LitStr, PathList, a string map); receivers are `Ty.recv` and depend on the environment -/
def quantifierBase : Ty → Bool
  | .bool => true
  | .int _ => true
  | .string => true
  | .char => true
  | .synPath => true
  | .synIdent => true
  | .synExpr => true
  | .litKind _ => true
  | .pathList => true
  | .map _ _ _ => true
  | _ => false

/-- every one of them leaves `from_meta` at the default, so `hS` is discharged for them -/
theorem quantifierBase_default (o : Oracle) (r : String → Hooks Val) (t : Ty)
    (hq : quantifierBase t = true) : (hooksOf o r t).fromMeta? = none := by
  unfold quantifierBase at hq
  split at hq
  · rfl
  · rfl
  · rfl
  · rfl
  · rfl
  · rfl
  · rfl
  · rfl
  · rfl
  · rfl
  · cases hq

/-- the property on its own quantifier: `hq` holds of every inner target from the list
    (`quantifierBase_default`) and of a receiver whose derived impl keeps the default `from_meta`
    (named-field structs and enums) -/
theorem quantifier_stack_iff_partial (o : Oracle) (r : String → Hooks Val) (ws : List W) (t : Ty)
    (m : Meta)
    (hq : (hooksOf o r t).fromMeta? = none)
    (hR : W.spanned ∈ ws → ∃ s, OwnRange m s) (w : Outcome Val) :
    ExpectStack valAlg m ws ((hooksOf o r t).fromMeta m) w
      ↔ w = (hooksOf o r (stackTy ws t)).fromMeta m :=
  hooksOf_stack_fromMeta_partial o r ws t m
    (fun _ e he => default_err_spanned _ hq m e he) hR w

/-- "contain exactly the value T produces", read off a `Val` -/
def contents : Val → Option Val
  | .some v => some v
  | .ptr v => some v
  | .explicit v => some v
  | .spanned v _ => some v
  | .withOrig v _ => some v
  | _ => none

theorem Expect.contains {m : Meta} {k : W} {v : Val} {w : Outcome Val}
    (H : Expect valAlg m k (.ok v) w) (hk : inScope k m = true) :
    ∃ x, w = .ok x ∧ contents x = some v := by
  rw [H.eq_prescribed]
  cases k with
  | result => cases hk
  | resultMeta => cases hk
  | override => exact ⟨_, prescribed_override _ (inScope_override.mp hk) _, rfl⟩
  | _ => exact ⟨_, rfl, rfl⟩

def pX : Path := { global := false, segs := ["x"], plain := true, toks := "x", span := ⟨0, 1⟩ }
/-- `x` -/
def wordX : Meta := .path pX
/-- `x()` -/
def emptyListX : Meta := .list pX [] none none "x ()" ⟨0, 3⟩
/-- `x(a)` -/
def listX : Meta :=
  .list pX [.item (.path { global := false, segs := ["a"], plain := true, toks := "a", span := ⟨2, 3⟩ })]
    none (some ⟨2, 3⟩) "x (a)" ⟨0, 4⟩
/-- `x = true` -/
def nvX : Meta := .nameValue pX (.lit { v := .bool true, toks := "true", span := ⟨4, 8⟩ }) "x = true" ⟨0, 8⟩

/-- a hand-written implementor whose `from_meta` returns an error without a span -/
def bare : Hooks Val := { fromMeta? := some (fun _ => .err (Err.custom "no")) }
/-- a hand-written implementor whose `from_meta` accepts everything -/
def anyOk : Hooks Val := { fromMeta? := some (fun _ => .ok .unit) }

def noRecv : String → Hooks Val := fun _ => {}

/-! ## DISCREPANCY 1 — "fail with T's error": `SpannedValue<T>` returns T's error *with the item's
    span added* when T's own `from_meta` returned it without one.  Inside the property's
    quantifier this cannot happen (`default_err_spanned`); for "every target type T" it does.
    Real library (T = a hand-written impl whose `from_meta` returns
    `Err(Error::custom("no"))`, item `x`): `T`, `Option<T>`, `Box<T>`, `WithOriginal<T, Meta>`,
    `Override<T>` all give `explicit_span() = None`; `SpannedValue<T>` gives `Some(bytes 0..1)`. -/

example : bare.fromMeta wordX = .err (.leaf (.custom "no") [] none) := rfl
example : (wrapHooks valAlg .spanned bare).fromMeta wordX
    = .err (.leaf (.custom "no") [] (some ⟨0, 1⟩)) := rfl
/-- the text is violated at this input (so `hS` cannot be dropped) -/
example : ¬ Expect valAlg wordX .spanned (bare.fromMeta wordX)
    ((wrapHooks valAlg .spanned bare).fromMeta wordX) :=
  fun H => by cases ((wrap_spanned_iff _ _ _).mp H).1 _ rfl
/-- all the other transparent wrappers do return T's error untouched on the same input -/
example : (wrapHooks valAlg .option bare).fromMeta wordX = bare.fromMeta wordX := rfl
example : (wrapHooks valAlg .withOrig bare).fromMeta wordX = bare.fromMeta wordX := rfl

/-! ## DISCREPANCY 2 — "SpannedValue records the value's own source range": for a list without
    contents, `x()`, the recorded span is no range of the source at all (`list.tokens.span()` of
    an empty stream = `Span::call_site()`; `none` in the model).
    Real library: `SpannedValue<PathList>` / `SpannedValue<Inner>` on `x()` record bytes 0..0 with
    no source text (= `Span::call_site()`), while `x`, `x(a, b::c)`, `x = true` record `x`,
    `a, b::c`, `true`. -/

example : (hooksOf {} noRecv (.spanned .pathList)).fromMeta emptyListX
    = .ok (.spanned (.list []) none) := rfl
example : (hooksOf {} noRecv .pathList).fromMeta emptyListX = .ok (.list []) := rfl
/-- the text is violated at this input (so `hR` cannot be dropped) -/
example : ¬ Expect valAlg emptyListX .spanned ((hooksOf {} noRecv .pathList).fromMeta emptyListX)
    ((hooksOf {} noRecv (.spanned .pathList)).fromMeta emptyListX) := by
  intro H
  obtain ⟨s, hs⟩ := Expect.spanned_needs_range (v := Val.list []) H
  cases hs
/-- … and no outcome whatsoever would satisfy it there: the item has no value range -/
example (I : Alg β) (v : β) (w : Outcome β) : ¬ Expect I emptyListX .spanned (.ok v) w := by
  intro H
  obtain ⟨s, hs⟩ := H.spanned_needs_range
  cases hs

/-! ## non-vacuity of the side conditions of the main theorems -/

/-- `hR` is satisfiable in each of the three forms … -/
example : ∃ s, OwnRange wordX s := ⟨_, .word _⟩
example : ∃ s, OwnRange listX s := ⟨_, .contents _ _ _ _ _ _⟩
example : ∃ s, OwnRange nvX s := ⟨_, .value _ _ _ _⟩
/-- … and fails exactly for lists without contents -/
example : ¬ ∃ s, OwnRange emptyListX s := by
  intro ⟨s, hs⟩
  cases hs

/-- `hS` is satisfiable with a T that does fail (so the `err` clause is exercised) … -/
example : (hooksOf {} noRecv .bool).fromMeta listX
    = .err (.leaf (.unexpectedFormat "list") [] (some ⟨0, 4⟩)) := rfl
example : ∀ e, (hooksOf {} noRecv .bool).fromMeta listX = .err e → e.span.isSome = true :=
  fun e he => default_err_spanned _ rfl listX e he
/-- … and fails for `bare` -/
example : ¬ ∀ e, bare.fromMeta wordX = .err e → e.span.isSome = true := by
  intro h
  have := h _ rfl
  cases this

/-- `hd` of `stack_fromMeta_default` / `hq` of `quantifier_stack_iff_partial`: every listed inner
    target, and not every type -/
example : (hooksOf {} noRecv .bool).fromMeta? = none := rfl
example : quantifierBase (.map .string true .string) = true := rfl
example : (hooksOf {} noRecv .synMeta).fromMeta? ≠ none := by
  intro h
  cases h

/-- `hn` of `stack_fromMeta_noSpanned` -/
example : W.spanned ∉ [W.option, W.override, W.result] := by decide

/-- the hypotheses of the spec-level lemmas: in scope / out of scope -/
example : inScope .override nvX = true := rfl
example : inScope .override wordX = false := rfl
example : inScope .spanned wordX = true := rfl

/-- the main theorem at work on two-level and three-level stacks, all three outcomes of T -/
example : (hooksOf {} noRecv (stackTy [.option, .spanned] .bool)).fromMeta nvX
    = .ok (.some (.spanned (.bool true) (some ⟨4, 8⟩))) := rfl
example : (hooksOf {} noRecv (stackTy [.override, .ptr] .bool)).fromMeta wordX = .ok .inherit := rfl
example : (hooksOf {} noRecv (stackTy [.resultMeta, .withOrig, .option] .bool)).fromMeta listX
    = .ok (.errm "x (a)") := rfl
example : ExpectStack valAlg nvX [.option, .spanned] (.ok (.bool true))
    (.ok (.some (.spanned (.bool true) (some ⟨4, 8⟩)))) :=
  .cons (.cons (.nil _) (.spanned_ok _ _ (.value _ _ _ _))) (.option_ok _)
/-- absent item, two levels: `Box<Option<T>>` is optional, `SpannedValue<Option<T>>` is required -/
example : (hooksOf {} noRecv (stackTy [.ptr, .option] .bool)).fromNone = some (.ptr .none) := rfl
example : (hooksOf {} noRecv (stackTy [.spanned, .option] .bool)).fromNone = none := rfl
example : (hooksOf {} noRecv .flag).fromNone = some (.flag none) := rfl

end C12
