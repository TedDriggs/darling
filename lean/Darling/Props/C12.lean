import Darling.FromMeta.Wrappers
/-
  C12 — Wrapper types are transparent over the wrapped conversion.

  Every theorem is for an *arbitrary* hook record `h` (any implementor, including ones that
  override `from_meta` itself, hence any composition of wrappers by instantiating `h`) and an
  arbitrary meta item `m`.
-/
open Wrappers

namespace C12
variable {α β : Type}

/-- Option<T>: accepts exactly what T accepts, contains exactly T's value, fails with T's error -/
theorem option_transparent (some' : α → β) (none' : β) (h : Hooks α) (m : Meta) :
    (optionOf some' none' h).fromMeta m = (h.fromMeta m).map some' := rfl

theorem option_absent (some' : α → β) (none' : β) (h : Hooks α) :
    (optionOf some' none' h).fromNone = some none' := rfl

/-- Box / Rc / Arc / RefCell -/
theorem ptr_transparent (wrap : α → β) (h : Hooks α) (m : Meta) :
    (ptrOf wrap h).fromMeta m = (h.fromMeta m).map wrap := rfl

theorem ptr_absent (wrap : α → β) (h : Hooks α) :
    (ptrOf wrap h).fromNone = h.fromNone.map wrap := rfl

/-- the `flatten` entry point (`from_list`) of a smart pointer is transparent too -/
theorem ptr_list_transparent (wrap : α → β) (h : Hooks α) (items : List NestedMeta) :
    (ptrOf wrap h).fromList items = (h.fromList items).map wrap := rfl

/-- darling's `Result<T>` never fails outwardly and holds T's outcome -/
theorem result_holds_outcome (ok' : α → β) (err' : Err → β) (h : Hooks α) (m : Meta) :
    (resultOf ok' err' h).fromMeta m =
      match h.fromMeta m with
      | .ok v => .ok (ok' v)
      | .err e => .ok (err' e)
      | .panic p => .panic p := rfl

theorem result_never_err (ok' : α → β) (err' : Err → β) (h : Hooks α) (m : Meta) (e : Err) :
    (resultOf ok' err' h).fromMeta m ≠ .err e := by
  rw [result_holds_outcome]; cases h.fromMeta m <;> simp

theorem result_absent (ok' : α → β) (err' : Err → β) (h : Hooks α) :
    (resultOf ok' err' h).fromNone = h.fromNone.map ok' := rfl

/-- `Result<T, Meta>` never fails outwardly and holds T's value or the original item -/
theorem resultMeta_holds (ok' : α → β) (err' : Meta → β) (h : Hooks α) (m : Meta) :
    (resultMetaOf ok' err' h).fromMeta m =
      match h.fromMeta m with
      | .ok v => .ok (ok' v)
      | .err _ => .ok (err' m)
      | .panic p => .panic p := rfl

theorem resultMeta_required (ok' : α → β) (err' : Meta → β) (h : Hooks α) :
    (resultMetaOf ok' err' h).fromNone = none := rfl

/-- Override<T>, every form other than the bare word: exactly T -/
theorem override_transparent (explicit' : α → β) (inherit' : β) (h : Hooks α) (m : Meta)
    (hm : ∀ p, m ≠ .path p) :
    (overrideOf explicit' inherit' h).fromMeta m = (h.fromMeta m).map explicit' := by
  cases m with
  | path p => exact absurd rfl (hm p)
  | list _ _ _ _ _ _ => rfl
  | nameValue _ _ _ _ => rfl

theorem override_word (explicit' : α → β) (inherit' : β) (h : Hooks α) (p : Path) :
    (overrideOf explicit' inherit' h).fromMeta (.path p) = .ok inherit' := rfl

theorem override_required (explicit' : α → β) (inherit' : β) (h : Hooks α) :
    (overrideOf explicit' inherit' h).fromNone = none := rfl

/-- the span SpannedValue records: the word, the list's contents, the value -/
def valueSpan : Meta → Option Span
  | .path p => some p.span
  | .list _ _ _ tokSpan _ _ => tokSpan
  | .nameValue _ e _ _ => some e.span

/-- SpannedValue<T>: T's value together with the value's own source range; T's error with (at
    least) the item's span -/
theorem spanned_transparent (mk : α → Option Span → β) (h : Hooks α) (m : Meta) :
    (spannedOf mk h).fromMeta m =
      match h.fromMeta m with
      | .ok v => .ok (mk v (valueSpan m))
      | .err e => .err (e.withSpan m.span)
      | .panic p => .panic p := by
  show (match (h.fromMeta m).mapErr (·.withSpan m.span) with
      | .ok v => Outcome.ok (mk v (valueSpan m))
      | .err e => .err e
      | .panic p => .panic p) = _
  cases h.fromMeta m <;> rfl

theorem spanned_required (mk : α → Option Span → β) (h : Hooks α) :
    (spannedOf mk h).fromNone = none := rfl

/-- WithOriginal<T, Meta>: T's value and an identical copy of the item -/
theorem withOriginal_transparent (mk : α → Meta → β) (h : Hooks α) (m : Meta) :
    (withOriginalOf mk h).fromMeta m = (h.fromMeta m).map (fun v => mk v m) := rfl

theorem withOriginal_required (mk : α → Meta → β) (h : Hooks α) :
    (withOriginalOf mk h).fromNone = none := rfl

theorem flag_word (mk : Option Span → β) (p : Path) :
    (flagHooks mk).fromMeta (.path p) = .ok (mk (some p.span)) := rfl

theorem flag_absent (mk : Option Span → β) : (flagHooks mk).fromNone = some (mk none) := rfl

/-- `()` overrides only `from_word`: every expression is rejected -/
theorem unit_fromExprD_err (e : Expr) : ∃ err, (Scalars.unitHooks ()).fromExprD e = .err err := by
  fun_induction Hooks.fromExprD (Scalars.unitHooks ()) e with
  | case1 l =>
      obtain ⟨v, _, _⟩ := l
      cases v <;> exact ⟨_, rfl⟩
  | case2 g sp ih =>
      obtain ⟨err, he⟩ := ih
      exact ⟨err.withSpan sp, congrArg (Outcome.mapErr _) he⟩
  | case3 e _ _ => exact ⟨_, rfl⟩

/-- Flag: an error, never the `unwrap_err` panic, for every form other than the bare word -/
theorem flag_other_is_err (mk : Option Span → β) (m : Meta) (hm : ∀ p, m ≠ .path p) :
    ∃ e, (flagHooks mk).fromMeta m = .err e := by
  cases m with
  | path p => exact absurd rfl (hm p)
  | list p items bad ts t s => cases bad <;> exact ⟨_, rfl⟩
  | nameValue p e t s =>
      obtain ⟨err, he⟩ := unit_fromExprD_err e
      refine ⟨err.withSpan s, ?_⟩
      show (match ((Scalars.unitHooks ()).fromExprD e).mapErr (·.withSpan s) with
        | .err e => Outcome.err e
        | .ok _ => .panic "called `Result::unwrap_err()` on an `Ok` value"
        | .panic p => .panic p) = _
      rw [he]
      rfl

/-! compositions follow by instantiating `h`; e.g. two levels: -/
theorem option_of_ptr (some' : β → γ) (none' : γ) (wrap : α → β) (h : Hooks α) (m : Meta) :
    (optionOf some' none' (ptrOf wrap h)).fromMeta m = ((h.fromMeta m).map wrap).map some' := rfl

theorem override_of_option (explicit' : β → γ) (inherit' : γ) (some' : α → β) (none' : β)
    (h : Hooks α) (m : Meta) (hm : ∀ p, m ≠ .path p) :
    (overrideOf explicit' inherit' (optionOf some' none' h)).fromMeta m
      = ((h.fromMeta m).map some').map explicit' := by
  rw [override_transparent _ _ _ _ hm]; rfl

/-! `Option<bool>` on the bare word -/
example : (optionOf some (none : Option Bool) (Scalars.boolHooks id)).fromMeta
    (.path { global := false, segs := ["x"], plain := true, toks := "x", span := ⟨0, 1⟩ }) = .ok (some true) := rfl

end C12
