import Darling.Derive.Enum
import Darling.Props.C02
import Darling.Options
/-
  C09 — Derived enum receivers select exactly one declared, non-skipped variant.
  Decision logic stated outright, for every enum (any variants, any names, any inner converters)
  and every input.
-/
open Derive

namespace C09
variable {ν : Type}

/-- effective names of the selectable variants are pairwise distinct -/
def DistinctNames (e : SEnum ν) : Prop :=
  ∀ v ∈ e.variants, ∀ w ∈ e.variants, v.skip = false → w.skip = false → v.name = w.name → v = w

/-! ### which variant a name selects -/

/-- a skipped variant is never selected, and a selected variant has exactly the given name -/
theorem arm_sound (e : SEnum ν) (n : String) (v : SVariant ν) (h : e.arm n = some v) :
    v ∈ e.variants ∧ v.skip = false ∧ v.name = n := by
  unfold SEnum.arm at h
  have hm := List.mem_of_find?_eq_some h
  have hp := List.find?_some h
  simp at hp
  exact ⟨hm, hp.1, hp.2⟩

/-- a skipped variant can never be produced: no name reaches its arm -/
theorem skipped_never_selected (e : SEnum ν) (v : SVariant ν) (hs : v.skip = true) (n : String) :
    e.arm n ≠ some v := by
  intro h
  have := (arm_sound e n v h).2.1
  rw [hs] at this; cases this

theorem arm_none_iff (e : SEnum ν) (n : String) :
    e.arm n = none ↔ ∀ v ∈ e.variants, v.skip = true ∨ v.name ≠ n := by
  unfold SEnum.arm
  rw [List.find?_eq_none]
  refine forall_congr' fun v => imp_congr_right fun _ => ?_
  cases v.skip <;> simp

/-- under distinct names, the variant selected is *the* declared non-skipped variant of that name -/
theorem arm_complete (e : SEnum ν) (hd : DistinctNames e) (v : SVariant ν) (hv : v ∈ e.variants) (hs : v.skip = false) :
    e.arm v.name = some v := by
  cases h : e.arm v.name with
  | some w =>
      obtain ⟨hw, hws, hwn⟩ := arm_sound e v.name w h
      rw [hd w hw v hv hws hs hwn]
  | none =>
      rcases (arm_none_iff e v.name).mp h v hv with h1 | h1
      · rw [hs] at h1; cases h1
      · exact absurd rfl h1

/-! ### the list form: exactly one nested item -/

theorem list_empty (e : SEnum ν) : enumFromList e [] = .err (Err.new (.tooFewItems 1)) := by rfl

theorem list_too_many (e : SEnum ν) (a b : NestedMeta) (rest : List NestedMeta) :
    enumFromList e (a :: b :: rest) = .err (Err.new (.tooManyItems 1)) := by
  cases a <;> rfl

theorem list_literal (e : SEnum ν) (l : Lit) : enumFromList e [.lit l] = .err (Err.unsupportedFormat "literal") := by rfl

/-- one nested item: the variant named by the item — whatever its arm reports is spanned with the
    selecting item unless it is located more precisely — or an unknown-name error at the item -/
theorem list_one (e : SEnum ν) (nested : Meta) :
    enumFromList e [.item nested] =
      match e.arm nested.path'.toStr with
      | some v => (dataArm v nested).mapErr (·.withSpan nested.span)
      | none => .err ((e.unknownErr nested.path'.toStr).withSpan nested.span) := by rfl

/-- a single nested *word* selects the unit variant of that name -/
theorem word_selects_unit (v : SVariant ν) (val : ν) (hk : v.kind = .unit val) (p : Path) :
    dataArm v (.path p) = .ok val := by
  simp [dataArm, hk]

theorem unit_rejects_value (v : SVariant ν) (val : ν) (hk : v.kind = .unit val) (m : Meta) (hm : ∀ p, m ≠ .path p) :
    dataArm v m = .err (Err.unsupportedFormat "non-path") := by
  cases m with
  | path p => exact absurd rfl (hm p)
  | list _ _ _ _ _ _ => simp [dataArm, hk]
  | nameValue _ _ _ _ => simp [dataArm, hk]

/-- a newtype variant delegates to its inner type, locating errors under the variant's name -/
theorem newtype_delegates (v : SVariant ν) (fm : Meta → Outcome ν) (fn : Option ν) (wrap : ν → ν)
    (hk : v.kind = .newtype fm fn wrap) (m : Meta) :
    dataArm v m = ((fm m).mapErr (·.at v.name)).map wrap := by
  simp [dataArm, hk]

theorem struct_needs_list (v : SVariant ν) (s : SStruct ν) (hk : v.kind = .struct s) (m : Meta)
    (hm : ∀ p items bad ts t sp, m ≠ .list p items bad ts t sp) :
    dataArm v m = .err (Err.unsupportedFormat "non-list") := by
  cases m with
  | list p items bad ts t sp => exact absurd rfl (hm p items bad ts t sp)
  | path _ => simp [dataArm, hk]
  | nameValue _ _ _ _ => simp [dataArm, hk]

theorem struct_variant_is_struct_receiver (v : SVariant ν) (s : SStruct ν) (hk : v.kind = .struct s)
    (hwf : C02.WF s) (hd : C02.Distinct s) (p : Path) (items : List NestedMeta) (ts : Option Span) (t : String) (sp : Span) :
    dataArm v (.list p items none ts t sp) =
      (match Spec.C02.mistakes s items with
       | [] => Spec.C01.expected s items
       | errs => (Err.bundleErr errs : Outcome ν).mapErr (·.at v.name)) := by
  obtain ⟨st0, st1, h0, h1, herrs, hslots⟩ := C02.before_check s hwf hd items
  simp only [dataArm, hk, h0, finishStruct, if_true, h1]
  rw [herrs]
  cases hm : Spec.C02.mistakes s items with
  | cons e es => rfl
  | nil =>
      simp only
      rw [C02.initFields_eq s hwf items hm _ hslots s.fields (fun _ h => h)]
      simp only [Spec.C01.expected]
      cases Spec.C01.collect (s.fields.map (fun f => (f.ident, Spec.C01.fieldValue s items f))) <;> rfl

theorem string_selects (e : SEnum ν) (lit : String) :
    enumFromString e lit =
      match e.arm lit with
      | some v => (match v.kind with
          | .unit val => .ok val
          | .newtype _ fromNone wrap => (match fromNone with
              | some x => .ok (wrap x)
              | none => .err (Err.unsupportedFormat "literal"))
          | .struct _ => .err (Err.unsupportedFormat "literal"))
      | none => .err (Err.unknownValue lit) := by rfl

/-- a string that names no selectable variant is an error, never a silently chosen variant -/
theorem string_unknown (e : SEnum ν) (lit : String) (h : e.arm lit = none) :
    enumFromString e lit = .err (Err.unknownValue lit) := by
  simp [enumFromString, h]

theorem bare_word (e : SEnum ν) (p : Path) :
    (enumHooks e).fromMeta (.path p) =
      match e.fromWord with
      | some r => r.mapErr (·.withSpan p.span)
      | none => .err (.leaf (.unexpectedFormat "word") [] (some p.span)) := by
  show (Hooks.fromWord (enumHooks e)).mapErr _ = _
  unfold Hooks.fromWord enumHooks
  cases e.fromWord <;> rfl

theorem absent (e : SEnum ν) : (enumHooks e).fromNone = e.fromNone := by rfl

/-- the bare-word form of an enum never produces a skipped variant: the variant the generated
    `from_word` returns is a declared, non-skipped variant that carries `word = true` -/
theorem word_variant_not_skipped (vs : List Options.RVariant) (id : String) (h : Options.wordVariant vs = some id) :
    ∃ v ∈ vs, v.ident = id ∧ v.skip = false := by
  unfold Options.wordVariant at h
  rw [Option.map_eq_some_iff] at h
  obtain ⟨v, hf, hid⟩ := h
  have hm := List.mem_of_find?_eq_some hf
  have hp := List.find?_some hf
  refine ⟨v, hm, hid, ?_⟩
  cases hs : v.skip with
  | false => rfl
  | true => rw [hs] at hp; simp at hp

theorem list_form_routes (e : SEnum ν) (p : Path) (items : List NestedMeta) (ts : Option Span) (t : String) (sp : Span) :
    (enumHooks e).fromMeta (.list p items none ts t sp) = (enumFromList e items).mapErr (·.withSpan sp) := by rfl

theorem string_form_routes (e : SEnum ν) (p : Path) (s t t' : String) (lsp sp : Span) :
    (enumHooks e).fromMeta (.nameValue p (.lit ⟨.str s, t, lsp⟩) t' sp)
      = (((enumFromString e s).mapErr (·.withSpan lsp)).mapErr (·.withSpan lsp)).mapErr (·.withSpan sp) := by rfl

/-! ### non-vacuity -/

def ex : SEnum String :=
  { variants := [⟨"alpha", false, .unit "Alpha"⟩, ⟨"beta", true, .unit "Beta"⟩,
                 ⟨"gamma", false, .newtype (fun _ => .ok "inner") (some "dflt") (fun s => "Gamma(" ++ s ++ ")")⟩],
    score := fun _ _ => 0, thr := 1, fromWord := none, fromNone := none }
example : enumFromString ex "alpha" = .ok "Alpha" := rfl
example : ∃ e, enumFromString ex "beta" = .err e := ⟨_, rfl⟩
example : enumFromString ex "gamma" = .ok "Gamma(dflt)" := by simp [enumFromString, SEnum.arm, ex]

end C09
