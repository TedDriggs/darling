import Darling.FromMeta.Hooks
import Darling.Lemmas.Error
import Darling.Spec.C15
/-
  C15(b) — every item is routed by its form alone to exactly one hook.

  For *every* implementer that leaves `from_meta` / `from_nested_meta` at their defaults (any of
  the 2⁷ subsets of {word, list, bool, string, char, generic-literal, expression} overridden, with
  arbitrary override bodies), and every item.
-/
open Spec.C15

namespace C15
variable {α : Type}

/-- the single hook (or documented default error) a literal reaches once `from_value` is entered -/
def litTerminal (h : Hooks α) (l : Lit) : Outcome α :=
  match h.fromValue? with
  | some f => f l                                    -- generic-literal hook
  | none =>
      match litForm l with
      | .boolLit b _ => (match h.fromBool? with
          | some f => f b
          | none => .err (Err.new (.unexpectedType "bool")))
      | .strLit s _ => (match h.fromString? with
          | some f => f s
          | none => .err (Err.new (.unexpectedType "string")))
      | .charLit c _ => (match h.fromChar? with
          | some f => f c
          | none => .err (Err.new (.unexpectedType "char")))
      | _ => .err (Err.unexpectedLitType l)

/-- `from_value` = that terminal, with the literal's span attached to a span-less error -/
theorem fromValue_routes (h : Hooks α) (l : Lit) :
    (h.fromValue l).mapErr (·.withSpan l.span) = (litTerminal h l).mapErr (·.withSpan l.span) := by
  unfold Hooks.fromValue litTerminal
  cases hv : h.fromValue? with
  | some f => rfl
  | none =>
      simp only [Hooks.fromValueD, litForm]
      cases l.v with
      | bool b =>
          simp only [Outcome.mapErr_withSpan_withSpan, Hooks.fromBool]
          cases h.fromBool? <;> rfl
      | str s =>
          simp only [Outcome.mapErr_withSpan_withSpan, Hooks.fromString]
          cases h.fromString? <;> rfl
      | char c =>
          simp only [Outcome.mapErr_withSpan_withSpan, Hooks.fromChar]
          cases h.fromChar? <;> rfl
      | _ => rfl

/-- the single hook (or default error) an expression reaches under the default `from_expr`;
    paired with the span that is attached first -/
def exprTerminalD (h : Hooks α) : Expr → Outcome α × Span
  | .lit l => (litTerminal h l, l.span)
  | .group g _ => exprTerminalD h g
  | e => (.err (Err.unexpectedExprType e), e.span)

theorem fromExprD_routes (h : Hooks α) : (e : Expr) →
    h.fromExprD e = ((exprTerminalD h e).1).mapErr (·.withSpan (exprTerminalD h e).2)
  | .lit l => by
      simp only [Hooks.fromExprD, exprTerminalD]
      exact fromValue_routes h l
  | .group g sp => by
      simp only [Hooks.fromExprD, exprTerminalD]
      rw [fromExprD_routes h g, Outcome.mapErr_withSpan_withSpan]
  | .path _ _ | .qpath _ _ _ | .array _ _ _ | .other _ _ _ => rfl

/-- invisible groups are transparent: the terminal depends on the ungrouped expression only -/
theorem exprTerminalD_ungroup (h : Hooks α) : (e : Expr) → exprTerminalD h e = exprTerminalD h (ungroup e)
  | .group g _ => by simp only [exprTerminalD, ungroup]; exact exprTerminalD_ungroup h g
  | .lit _ | .path _ _ | .qpath _ _ _ | .array _ _ _ | .other _ _ _ => rfl

/-- the model's route written out hook by hook: what an item of a given form reaches — the first
    overridden hook on the path its form selects, else the documented default error at the end of
    that path.
    `orig` is the original value expression (the expression hook sees it with its groups). -/
def terminal (h : Hooks α) (orig : Option Expr) : Form → Outcome α
  | .word => (match h.fromWord? with
      | some r => r
      | none => .err (Err.unsupportedFormat "word"))
  | .list items => (match h.fromList? with
      | some f => f items
      | none => .err (Err.unsupportedFormat "list"))
  | .unparsableList msg sp => .err (.leaf (.custom msg) [] (some sp))
  | .boolLit _ l | .strLit _ l | .charLit _ l | .otherLit l =>
      (match h.fromExpr?, orig with
       | some f, some e => f e
       | _, _ => litTerminal h l)
  | .nonLit e' =>
      (match h.fromExpr?, orig with
       | some f, some e => f e
       | _, _ => .err (Err.unexpectedExprType e'))

/-- `ungroup` never returns a group -/
theorem ungroup_not_group : (e : Expr) → ∀ g s, ungroup e ≠ .group g s
  | .group g' _ => by intro g s; simp only [ungroup]; exact ungroup_not_group g' g s
  | .lit _ | .path _ _ | .qpath _ _ _ | .array _ _ _ | .other _ _ _ => nofun

theorem exprForm_cases (e : Expr) : (∃ l, ungroup e = .lit l ∧ exprForm e = litForm l) ∨
    ((∀ l, ungroup e ≠ .lit l) ∧ exprForm e = .nonLit (ungroup e)) := by
  unfold exprForm
  split
  next l hu => exact .inl ⟨l, hu, rfl⟩
  next hn => exact .inr ⟨hn, rfl⟩

theorem exprTerminalD_nonLit (h : Hooks α) (e : Expr) (hl : ∀ l, ungroup e ≠ .lit l) :
    exprTerminalD h e = (.err (Err.unexpectedExprType (ungroup e)), (ungroup e).span) := by
  rw [exprTerminalD_ungroup]
  cases hu : ungroup e with
  | lit l => exact absurd hu (hl l)
  | group g s => exact absurd hu (ungroup_not_group e g s)
  | _ => rfl

theorem litForm_cases (l : Lit) : (∃ b, litForm l = .boolLit b l) ∨ (∃ s, litForm l = .strLit s l) ∨
    (∃ c, litForm l = .charLit c l) ∨ litForm l = .otherLit l := by
  unfold litForm
  split <;> simp

theorem exprHook_skipped (x : Option (Expr → Outcome α)) (w : Option Expr) (d : Outcome α) (hx : w = none ∨ x = none) :
    (match (generalizing := false) x, w with | some f, some e => f e | _, _ => d) = d := by
  rcases hx with rfl | rfl
  · cases x <;> rfl
  · rfl

theorem exprHook_taken {x : Option (Expr → Outcome α)} {g : Expr → Outcome α} (hx : x = some g) (e : Expr)
    (d : Outcome α) :
    (match (generalizing := false) x, some e with | some f, some e => f e | _, _ => d) = g e := by
  subst hx
  rfl

theorem terminal_litForm (h : Hooks α) (w : Option Expr) (l : Lit) (hx : w = none ∨ h.fromExpr? = none) :
    terminal h w (litForm l) = litTerminal h l := by
  obtain ⟨b, hf⟩ | ⟨s, hf⟩ | ⟨c, hf⟩ | hf := litForm_cases l <;> rw [hf] <;> exact exprHook_skipped _ w _ hx

theorem terminal_exprHook (h : Hooks α) (g : Expr → Outcome α) (hx : h.fromExpr? = some g) (e : Expr) :
    terminal h (some e) (exprForm e) = g e := by
  obtain ⟨l, _, hf⟩ | ⟨_, hf⟩ := exprForm_cases e
  · rw [hf]
    obtain ⟨b, hf⟩ | ⟨s, hf⟩ | ⟨c, hf⟩ | hf := litForm_cases l <;> rw [hf] <;> exact exprHook_taken hx e _
  · rw [hf]
    exact exprHook_taken hx e _

theorem exprTerminalD_form (h : Hooks α) (hx : h.fromExpr? = none) (e : Expr) :
    (exprTerminalD h e).1 = terminal h (some e) (exprForm e) := by
  obtain ⟨l, hu, hf⟩ | ⟨hl, hf⟩ := exprForm_cases e
  · rw [exprTerminalD_ungroup, hu, hf, terminal_litForm h _ l (.inr hx)]
    rfl
  · rw [exprTerminalD_nonLit h e hl, hf]
    exact (exprHook_skipped _ _ _ (.inr hx)).symm

/-- the value expression of a name-value item -/
def valueOf : Meta → Option Expr
  | .nameValue _ e _ _ => some e
  | _ => none

/-- **Routing theorem.**  For every implementer that keeps the default `from_meta`, and every
    item: the result is what the one hook selected by the item's *form* returns, and an error
    comes back with a span attached unless it already carried one. -/
theorem routing (h : Hooks α) (hm : h.fromMeta? = none) (m : Meta) :
    ∃ sp : Span, h.fromMeta m = (terminal h (valueOf m) (formOf m)).mapErr (·.withSpan sp) := by
  unfold Hooks.fromMeta
  rw [hm]
  cases m with
  | path p => exact ⟨p.span, rfl⟩
  | list p items bad ts t s =>
      cases bad with
      | none => exact ⟨s, rfl⟩
      | some b =>
          obtain ⟨msg, sp⟩ := b
          exact ⟨s, rfl⟩
  | nameValue p e t s =>
      simp only [Hooks.fromMetaD, formOf, valueOf, Hooks.fromExpr, Meta.span]
      cases hx : h.fromExpr? with
      | some f => exact ⟨s, by rw [terminal_exprHook h f hx]⟩
      | none =>
          refine ⟨(exprTerminalD h e).2, ?_⟩
          rw [fromExprD_routes, Outcome.mapErr_withSpan_withSpan, exprTerminalD_form h hx]

/-- an error that already carried a span comes back unchanged; any other error comes back
    with a span -/
theorem hook_error_span (h : Hooks α) (hm : h.fromMeta? = none) (m : Meta) (e : Err)
    (he : terminal h (valueOf m) (formOf m) = .err e) :
    ∃ e', h.fromMeta m = .err e' ∧ e'.span ≠ none ∧ (e.span ≠ none → e' = e) := by
  obtain ⟨sp, hr⟩ := routing h hm m
  rw [hr, he]
  exact ⟨e.withSpan sp, rfl, e.span_withSpan_ne_none sp, fun hs => Err.withSpan_of_spanned hs sp⟩

/-- nested-literal position: a literal item goes down the literal path -/
theorem nested_literal_routes (h : Hooks α) (hn : h.fromNestedMeta? = none) (l : Lit) :
    h.fromNestedMeta (.lit l) = (litTerminal h l).mapErr (·.withSpan l.span) := by
  unfold Hooks.fromNestedMeta
  rw [hn]
  simp only [Hooks.fromNestedMetaD, NestedMeta.span]
  exact fromValue_routes h l

/-! a probe overriding only `from_string` and `from_list`, on a grouped string, a word and a bool -/
def probe : Hooks String :=
  { fromString? := some (fun s => .ok ("string:" ++ s)), fromList? := some (fun xs => .ok ("list:" ++ toString xs.length)) }
def pX : Path := { global := false, segs := ["x"], plain := true, toks := "x", span := ⟨0, 1⟩ }
example : probe.fromMeta (.nameValue pX (.group (.lit ⟨.str "v", "\"v\"", ⟨4, 7⟩⟩) ⟨4, 7⟩) "" ⟨0, 7⟩) = .ok "string:v" := rfl
example : probe.fromMeta (.path pX) = .err (.leaf (.unexpectedFormat "word") [] (some ⟨0, 1⟩)) := rfl
example : probe.fromMeta (.nameValue pX (.lit ⟨.bool true, "true", ⟨4, 8⟩⟩) "" ⟨0, 8⟩)
    = .err (.leaf (.unexpectedType "bool") [] (some ⟨4, 8⟩)) := rfl

end C15
