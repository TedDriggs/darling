import Darling.Derive.Env
import Darling.Lemmas.Struct
import Darling.Props.C02
import Darling.Props.C07OuterRun
import Darling.Props.C08
/-
  C08 — Attribute selection, merging across attributes, and forwarding: a specification written
  from the property text, and the proofs that the model (`Derive.extract`, `Env.runOuter`) meets it.

  The extractor is `C08.extractSpec` of the atoms and of the forwarded sub-list (`C08.extract_spec`);
  both are read off the specification here, so that the theorems about the extractor are corollaries
  of those of `Darling.Props.C08`.  The one side condition is `NoOverlap`, and it is the weakest one
  (`forwards_exactly_iff_noOverlap`).  The whole receiver depends on the attributes through `extract`
  only (`runOuter_congr`, with `Env.runOuter` taken apart by `C07.runOuter_eq`); the end-to-end forms
  are for receivers that are not newtypes.
  Discrepancies with the property text: `overlap_discrepancy` (D1), `newtype_ignores_its_declaration` (D2).
-/
open Derive Options Spec.C02

namespace C08
variable {ν : Type}

/-! ## 1. The specification, clause by clause (no loop, no state, no step function) -/

/-- *"the attributes whose path is listed in its `attributes(...)` declaration"* -/
def listedIn (names : List String) (a : Attr) : Bool := names.contains a.path.toStr
def listed (r : SOuter ν) (a : Attr) : Bool := listedIn r.attrNames a

/-- the items an attribute holds: a bare one (`#[n]`) and an empty one (`#[n()]`) hold none;
    `none` = the body is not a list of items at all (`#[n = ..]`, unparseable tokens) -/
def itemsOf (a : Attr) : Option (List NestedMeta) :=
  match a.body with
  | .path _ => some []
  | .list _ items none _ _ _ => some items
  | .list _ _ (some _) _ _ _ => none
  | .nameValue _ _ _ _ => none

/-- the one error a listed attribute whose body is not an item list is answered with -/
def malformedErr (a : Attr) : Err :=
  match a.body with
  | .list _ _ (some (msg, sp)) _ _ _ => .leaf (.custom msg) [] (some sp)
  | .nameValue p _ _ sp =>
      (Err.custom ("Name-value arguments are not supported. Use #[" ++ displayPath p ++ "(...)]")).withSpan sp
  | _ => Err.custom ""

/-- every listed attribute holds a list of items (the domain of the merging clause: *"all item
    sequences, all partitions of a sequence into attributes"*) -/
def WellFormedFor (names : List String) (attrs : List Attr) : Prop :=
  ∀ a ∈ attrs, listedIn names a = true → (itemsOf a).isSome = true
def WellFormed (r : SOuter ν) (attrs : List Attr) : Prop := WellFormedFor r.attrNames attrs

/-- *"treats several such attributes on one element as a single list"*: that list -/
def mergedItemsOf (names : List String) (attrs : List Attr) : List NestedMeta :=
  (attrs.filter (listedIn names)).flatMap (fun a => (itemsOf a).getD [])
def mergedItems (r : SOuter ν) (attrs : List Attr) : List NestedMeta := mergedItemsOf r.attrNames attrs

/-- *"the attributes selected by `forward_attrs` (all non-consumed ones when given bare)"* -/
def fwdSel (names : List String) (fw : Option FwdFilter) (a : Attr) : Bool :=
  match fw with
  | none => false
  | some .all => !listedIn names a
  | some (.only ns) => ns.contains a.path.toStr

/-- *"exactly [those], unmodified and in source order"*: a sub-list of the very same values -/
def forwardedOf (names : List String) (fw : Option FwdFilter) (attrs : List Attr) : List Attr :=
  attrs.filter (fwdSel names fw)
def forwardedSpec (r : SOuter ν) (attrs : List Attr) : List Attr := forwardedOf r.attrNames r.forward attrs

/-- *"every other attribute"*: not listed, and not handed to an `attrs` field -/
def Other (r : SOuter ν) (a : Attr) : Prop :=
  listed r a = false ∧ (r.attrsField.isSome = true → fwdSel r.attrNames r.forward a = false)

/-- the side condition of the forwarding clause (see `overlap_discrepancy`): no attribute of the
    element is both listed in `attributes(..)` and named in the `forward_attrs(..)` list -/
def NoOverlapFor (names : List String) (fw : Option FwdFilter) (attrs : List Attr) : Prop :=
  ∀ a ∈ attrs, listedIn names a = true → fwdSel names fw a = false
def NoOverlap (r : SOuter ν) (attrs : List Attr) : Prop := NoOverlapFor r.attrNames r.forward attrs

/-- the receiver without its `attrs` field: what is *parsed*, forwarding left out -/
def parseOnly (r : SOuter ν) : SOuter ν := { r with attrsField := none }

/-! ## 2. Proof machinery (not part of the specification) -/

/-- the attribute the model forwards: `C08.forwardedBy` with `listed` for `selected` -/
def fwdM (r : SOuter ν) (a : Attr) : Bool :=
  !listed r a && r.willFwdAny &&
    (match r.forward with
     | some .all => true
     | some (.only ns) => ns.contains a.path.toStr
     | none => false)

theorem attrItems_eq (a : Attr) :
    attrItems a = (match itemsOf a with
      | some xs => .items xs
      | none => .err (malformedErr a)) := by
  unfold attrItems itemsOf malformedErr
  cases a.body with
  | path p => rfl
  | nameValue p e t s => rfl
  | list p items bad ts t s =>
      cases bad with
      | none => rfl
      | some b => cases b; rfl

theorem attrItems_of_items {a : Attr} {xs : List NestedMeta} (h : itemsOf a = some xs) :
    attrItems a = .items xs := by
  rw [attrItems_eq, h]

theorem selected_eq_listed (r : SOuter ν) (a : Attr) : selected r a = listed r a := by
  unfold selected listed listedIn SOuter.willParseAny
  cases r.attrNames <;> rfl

theorem fwdM_eq_forwardedBy (r : SOuter ν) (a : Attr) : fwdM r a = forwardedBy r a := by
  rw [fwdM, forwardedBy, selected_eq_listed]
  rfl

theorem atomsOf_eq (r : SOuter ν) (a : Attr) :
    atomsOf r a = if listed r a then (match itemsOf a with
      | some xs => xs.map .item
      | none => [.bad (malformedErr a)]) else [] := by
  unfold atomsOf
  rw [selected_eq_listed, attrItems_eq]
  cases itemsOf a <;> rfl

theorem forwardedBy_eq (r : SOuter ν) (a : Attr) :
    forwardedBy r a = (r.attrsField.isSome && !listed r a && fwdSel r.attrNames r.forward a) := by
  unfold forwardedBy SOuter.willFwdAny fwdSel
  rw [selected_eq_listed, listed]
  cases r.forward with
  | none => simp only [Bool.and_false]
  | some f =>
      cases f with
      | all => cases r.attrsField.isSome <;> cases listedIn r.attrNames a <;> rfl
      | only ns =>
          -- `willFwdAny` also asks for `ns` not to be empty, which `ns.contains _` implies
          cases ns with
          | nil => simp only [List.contains_nil, Bool.and_false]
          | cons n ns => cases r.attrsField.isSome <;> cases listedIn r.attrNames a <;> rfl

theorem forwardedBy_of_listed {r : SOuter ν} {a : Attr} (h : listed r a = true) : forwardedBy r a = false :=
  forwardedBy_of_selected ((selected_eq_listed r a).trans h)

theorem not_listed_of_forwardedBy {r : SOuter ν} {a : Attr} (h : forwardedBy r a = true) : listed r a = false := by
  cases hl : listed r a with
  | false => rfl
  | true => rw [forwardedBy_of_listed hl] at h; cases h

theorem mergedItems_cons (r : SOuter ν) (a : Attr) (rest : List Attr) :
    mergedItems r (a :: rest) =
      (if listed r a then (itemsOf a).getD [] else []) ++ mergedItems r rest := by
  unfold mergedItems mergedItemsOf listed
  cases h : listedIn r.attrNames a <;> simp [h]

theorem mergedItems_append (r : SOuter ν) (xs ys : List Attr) :
    mergedItems r (xs ++ ys) = mergedItems r xs ++ mergedItems r ys := by
  simp [mergedItems, mergedItemsOf, List.filter_append, List.flatMap_append]

theorem mergedItems_filter_unlisted (r : SOuter ν) (attrs : List Attr) :
    mergedItems r (attrs.filter (fun a => !listed r a)) = [] := by
  unfold mergedItems mergedItemsOf
  rw [List.filter_filter, List.filter_eq_nil_iff.mpr, List.flatMap_nil]
  intro a _
  show ¬ ((listed r a && !listed r a) = true)
  rw [Bool.and_not_self]
  exact Bool.false_ne_true

theorem selItems_eq_mergedItems (r : SOuter ν) (attrs : List Attr) : selItems r attrs = mergedItems r attrs := by
  induction attrs with
  | nil => rfl
  | cons a rest ih =>
      rw [mergedItems_cons, ← ih, selItems_cons, selected_eq_listed, attrItems_eq]
      cases itemsOf a <;> rfl

theorem WellFormed.allParse {r : SOuter ν} {attrs : List Attr} (h : WellFormed r attrs) : AllParse r attrs := by
  intro a ha hs
  have hi := h a ha ((selected_eq_listed r a).symm.trans hs)
  cases hx : itemsOf a with
  | none => rw [hx] at hi; cases hi
  | some xs => exact ⟨xs, attrItems_of_items hx⟩

theorem atoms_wellFormed (r : SOuter ν) (attrs : List Attr) (h : WellFormed r attrs) :
    atoms r attrs = (mergedItems r attrs).map .item := by
  rw [atoms_of_allParse r attrs h.allParse, selItems_eq_mergedItems]

theorem atoms_filter_listed (r : SOuter ν) (attrs : List Attr) :
    atoms r (attrs.filter (listed r)) = atoms r attrs := by
  induction attrs with
  | nil => rfl
  | cons a rest ih =>
      rw [List.filter_cons, atoms_cons]
      cases hl : listed r a with
      | true => rw [if_pos rfl, atoms_cons, ih]
      | false => rw [if_neg Bool.false_ne_true, ih, atomsOf_eq, hl]; rfl

theorem atoms_filter_unlisted (r : SOuter ν) (attrs : List Attr) :
    atoms r (attrs.filter (fun a => !listed r a)) = [] := by
  apply List.flatMap_eq_nil_iff.mpr
  intro a ha
  have hl : listed r a = false := by simpa using (List.mem_filter.mp ha).2
  rw [atomsOf_eq, hl]
  rfl

theorem filter_forwarded_unlisted (r : SOuter ν) (attrs : List Attr) :
    (attrs.filter (fun a => !listed r a)).filter (forwardedBy r) = attrs.filter (forwardedBy r) := by
  rw [List.filter_filter]
  apply List.filter_congr
  intro a _
  cases hm : forwardedBy r a with
  | false => rfl
  | true => rw [not_listed_of_forwardedBy hm]; rfl

theorem filter_forwarded_listed (r : SOuter ν) (attrs : List Attr) :
    (attrs.filter (listed r)).filter (forwardedBy r) = [] := by
  rw [List.filter_filter, List.filter_eq_nil_iff]
  intro a _
  cases hl : listed r a with
  | false => rw [Bool.and_false]; exact Bool.false_ne_true
  | true => rw [forwardedBy_of_listed hl]; exact Bool.false_ne_true

/-- with an `attrs` field and no overlap on this attribute, the model forwards what the text selects -/
theorem forwardedBy_eq_fwdSel (r : SOuter ν) (a : Attr) (hA : r.attrsField.isSome = true)
    (hno : listed r a = true → fwdSel r.attrNames r.forward a = false) :
    forwardedBy r a = fwdSel r.attrNames r.forward a := by
  rw [forwardedBy_eq, hA, Bool.true_and]
  cases hl : listed r a with
  | false => rfl
  | true => rw [hno hl]; rfl

theorem attrsValue_forwarded (r : SOuter ν) (p : PState ν) (attrs : List Attr) (h : NoOverlap r attrs) :
    attrsValue r p (attrs.filter (forwardedBy r)) = attrsValue r p (forwardedSpec r attrs) := by
  cases hA : r.attrsField with
  | none => simp only [attrsValue, hA]
  | some mk =>
      have : attrs.filter (forwardedBy r) = forwardedSpec r attrs :=
        List.filter_congr fun a ha => forwardedBy_eq_fwdSel r a (by rw [hA]; rfl) (h a ha)
      rw [this]

theorem attrsValue_parseOnly (r : SOuter ν) (p : PState ν) (fwd : List Attr) :
    attrsValue (parseOnly r) p fwd = .ok (p, none) := rfl

theorem extract_parseOnly (r : SOuter ν) (attrs : List Attr) :
    extract (parseOnly r) attrs = (match runAtoms r.fields {} (atoms r attrs) with
      | .error m => .error m
      | .ok p => .ok (p, none)) := by
  rw [extract_spec]
  rfl

/-! ## 3. Main theorems -/

/-! ### 3.1 Selection: *"reads exactly the attributes whose path is listed"* -/

/-- **Only listed attributes are read**: what is parsed (values and errors) is a function of the
    sub-list of listed attributes; every other attribute can be deleted, inserted, or have its body
    replaced by arbitrary tokens.  (That every listed attribute *is* read is
    `walk_positional_general_partial`: each of its items is accounted for.) -/
theorem reads_only_listed (r : SOuter ν) (attrs : List Attr) :
    extract (parseOnly r) attrs = extract (parseOnly r) (attrs.filter (listed r)) := by
  rw [extract_parseOnly, extract_parseOnly, atoms_filter_listed]

/-- **Normal form.**  The result is a function of two sub-lists only: the listed attributes (in
    their order) and the others (in theirs).  No hypothesis: malformed bodies included. -/
theorem extract_normal_form (r : SOuter ν) (attrs : List Attr) :
    extract r attrs = extract r (attrs.filter (listed r) ++ attrs.filter (fun a => !listed r a)) := by
  apply partition_invariance
  · rw [atoms_append, atoms_filter_listed, atoms_filter_unlisted, List.append_nil]
  · rw [List.filter_append, filter_forwarded_listed, filter_forwarded_unlisted, List.nil_append]

/-- **All interleavings.**  Two attribute lists with the same listed attributes in the same order
    and the same other attributes in the same order — however the two kinds are interleaved —
    give the identical result. -/
theorem interleaving_invariance (r : SOuter ν) (A B : List Attr)
    (hl : A.filter (listed r) = B.filter (listed r))
    (hn : A.filter (fun a => !listed r a) = B.filter (fun a => !listed r a)) :
    extract r A = extract r B := by
  rw [extract_normal_form r A, extract_normal_form r B, hl, hn]

/-! ### 3.2 Merging: *"several such attributes on one element are a single list"* -/

/-- **Splitting invariance.**  Any two ways of writing the same items, in the same order, over any
    number of listed attributes (under any of the listed names, bare and empty ones anywhere), with
    the same other attributes interleaved in any way, give the identical value or identical errors. -/
theorem splitting_invariance (r : SOuter ν) (A B : List Attr)
    (hA : WellFormed r A) (hB : WellFormed r B)
    (hitems : mergedItems r A = mergedItems r B)
    (hother : A.filter (fun a => !listed r a) = B.filter (fun a => !listed r a)) :
    extract r A = extract r B := by
  apply partition_invariance
  · rw [atoms_wellFormed r A hA, atoms_wellFormed r B hB, hitems]
  · rw [← filter_forwarded_unlisted r A, ← filter_forwarded_unlisted r B, hother]

/-- **Several attributes are one.**  The listed attributes of an element can be replaced by any
    single listed attribute `m` that holds all their items. -/
theorem several_are_one_list (r : SOuter ν) (attrs : List Attr) (m : Attr)
    (hwf : WellFormed r attrs) (hm : listed r m = true) (hmi : itemsOf m = some (mergedItems r attrs)) :
    extract r attrs = extract r (m :: attrs.filter (fun a => !listed r a)) := by
  apply splitting_invariance r _ _ hwf
  · intro a ha hl
    rcases List.mem_cons.mp ha with rfl | ha
    · rw [hmi]; rfl
    · have hl' : listed r a = true := hl
      have := (List.mem_filter.mp ha).2
      rw [hl'] at this
      cases this
  · rw [mergedItems_cons, hm, if_pos rfl, hmi, Option.getD_some, mergedItems_filter_unlisted, List.append_nil]
  · have hm' : (!listed r m) = false := by rw [hm]; rfl
    simp only [List.filter_cons, hm', Bool.false_eq_true, if_false, List.filter_filter, Bool.and_self]

/-- **One list, stated with the struct parser's loop**: on well-formed attributes the extractor is
    the derived struct parser's item loop (the loop of C01 / C02) run once, from the initial state,
    over the merged list; the `attrs` field is built from exactly `forwardedSpec`. -/
theorem single_list_partial (r : SOuter ν) (attrs : List Attr) (hwf : WellFormed r attrs)
    (hno : NoOverlap r attrs) :
    extract r attrs = (match coreLoop r.fields {} (mergedItems r attrs) with
      | .ok p => attrsValue r p (forwardedSpec r attrs)
      | .error m => .error m) := by
  rw [walk_is_one_list r attrs hwf.allParse, selItems_eq_mergedItems]
  cases coreLoop r.fields {} (mergedItems r attrs) with
  | error m => rfl
  | ok p => exact attrsValue_forwarded r p attrs hno

/-- **Positional form.**  For a receiver whose converters return (`C02.WF`), after the walk over
    well-formed attributes: the local of every field holds what the merged list says positionally
    (`C02.specSlot`: first occurrence under its name, or every occurrence for `multiple`), the
    flatten buffer holds the unclaimed items of all listed attributes in order, the accumulator
    holds exactly the item mistakes of the merged list in order (`Spec.C02.loopMistakes`; duplicates
    are detected across attributes), and the `attrs` field is built from `forwardedSpec`. -/
theorem walk_positional_partial (r : SOuter ν) (hr : C02.WF r.fields) (attrs : List Attr)
    (hwf : WellFormed r attrs) (hno : NoOverlap r attrs) :
    ∃ p, extract r attrs = attrsValue r p (forwardedSpec r attrs)
      ∧ (∀ f ∈ r.fields.fields, p.slot f.ident = C02.specSlot r.fields (mergedItems r attrs) f)
      ∧ p.flat = buffered r.fields (mergedItems r attrs)
      ∧ p.errs = loopMistakes r.fields [] (mergedItems r attrs) := by
  obtain ⟨p, hp, hinv⟩ := C02.coreLoop_spec r.fields hr (mergedItems r attrs)
  refine ⟨p, ?_, hinv.slots, hinv.flat, hinv.errs⟩
  rw [single_list_partial r attrs hwf hno, hp]

/-- **Splitting one attribute anywhere** (no condition on the rest of the list, which may hold
    malformed attributes): a listed attribute holding `xs ++ ys` is two listed attributes — under
    any of the listed names — holding `xs` and `ys`. -/
theorem split_anywhere (r : SOuter ν) (a a1 a2 : Attr) (xs ys : List NestedMeta)
    (hl : listed r a = true) (hl1 : listed r a1 = true) (hl2 : listed r a2 = true)
    (hi : itemsOf a = some (xs ++ ys)) (hi1 : itemsOf a1 = some xs) (hi2 : itemsOf a2 = some ys)
    (pre post : List Attr) :
    extract r (pre ++ a :: post) = extract r (pre ++ a1 :: a2 :: post) :=
  split_two r a a1 a2 xs ys ((selected_eq_listed r a).trans hl) ((selected_eq_listed r a1).trans hl1)
    ((selected_eq_listed r a2).trans hl2) (attrItems_of_items hi) (attrItems_of_items hi1)
    (attrItems_of_items hi2) pre post

/-! ### 3.3 Inertness: *"every other attribute, whatever its token content, has no effect"* -/

/-- **Every other attribute is inert**, at every position, whatever its body (the statement does not
    look at `a.body`, `a.toks`, `a.span`). -/
theorem other_attribute_inert (r : SOuter ν) (a : Attr) (h : Other r a) (pre post : List Attr) :
    extract r (pre ++ a :: post) = extract r (pre ++ post) := by
  apply inert_anywhere r a
  · rw [atomsOf_eq, h.1]
    rfl
  · rw [forwardedBy_eq]
    cases hA : r.attrsField.isSome with
    | false => rfl
    | true => rw [h.2 hA, Bool.and_false]

/-- **… and so is a bare or empty listed attribute** (*"with empty or bare ones interspersed"*) -/
theorem bare_or_empty_inert (r : SOuter ν) (a : Attr) (hl : listed r a = true) (hi : itemsOf a = some [])
    (pre post : List Attr) : extract r (pre ++ a :: post) = extract r (pre ++ post) :=
  bare_selected_inert r a ((selected_eq_listed r a).trans hl) (attrItems_of_items hi) pre post

/-! ### 3.4 Forwarding: *"hands its `attrs` field exactly the attributes selected by
    `forward_attrs` (all non-consumed ones when given bare), unmodified and in source order"* -/

/-- **Forwarding.**  The result is: what the receiver without an `attrs` field parses, together with
    the `attrs` field built from exactly `forwardedSpec` — a sub-list (`List.filter`) of the
    element's attributes, hence the same values in source order.  Forwarding never disturbs
    parsing. -/
theorem forwarding_partial (r : SOuter ν) (attrs : List Attr) (hno : NoOverlap r attrs) :
    extract r attrs = (match extract (parseOnly r) attrs with
      | .ok (p, _) => attrsValue r p (forwardedSpec r attrs)
      | .error m => .error m) := by
  rw [extract_spec, extract_parseOnly, extractSpec]
  cases runAtoms r.fields {} (atoms r attrs) with
  | error m => rfl
  | ok p => exact attrsValue_forwarded r p attrs hno

/-- the `attrs` field function is applied to exactly the selected attributes -/
theorem attrs_field_gets_exactly_partial (r : SOuter ν) (attrs : List Attr) (mk : List Attr → Outcome ν)
    (hA : r.attrsField = some mk) (hno : NoOverlap r attrs) (p : PState ν) (v : ν)
    (h : extract r attrs = .ok (p, some v)) : mk (forwardedSpec r attrs) = .ok v := by
  rw [forwarding_partial r attrs hno] at h
  cases hx : extract (parseOnly r) attrs with
  | error m => rw [hx] at h; cases h
  | ok pv =>
      obtain ⟨p0, v0⟩ := pv
      rw [hx] at h
      simp only [attrsValue, hA] at h
      cases hmk : mk (forwardedSpec r attrs) with
      | ok x => rw [hmk] at h; simp only [Except.ok.injEq, Prod.mk.injEq, Option.some.injEq] at h; rw [h.2]
      | err e => rw [hmk] at h; simp at h
      | panic m => rw [hmk] at h; cases h

/-- bare `forward_attrs`: *"all non-consumed ones"* — never needs the side condition -/
theorem noOverlap_of_bare (r : SOuter ν) (h : r.forward = some .all ∨ r.forward = none) (attrs : List Attr) :
    NoOverlap r attrs := by
  intro a _ hl
  unfold fwdSel
  rcases h with h | h <;> simp [h, hl]

/-- a `forward_attrs(..)` list disjoint from the `attributes(..)` list never needs it either -/
theorem noOverlap_of_disjoint (r : SOuter ν) (ns : List String) (h : r.forward = some (.only ns))
    (hd : ∀ n ∈ ns, n ∉ r.attrNames) (attrs : List Attr) : NoOverlap r attrs := by
  intro a _ hl
  unfold fwdSel
  simp only [h]
  cases hc : ns.contains a.path.toStr with
  | false => rfl
  | true =>
      have h1 : a.path.toStr ∈ ns := by simpa using hc
      have h2 : a.path.toStr ∈ r.attrNames := by simpa [listedIn] using hl
      exact absurd h2 (hd _ h1)

/-! ### 3.5 The side condition is the weakest one -/

/-- for a receiver with an `attrs` field, the model forwards exactly what the text selects **iff**
    no attribute of the element is both listed and named for forwarding -/
theorem forwards_exactly_iff_noOverlap (r : SOuter ν) (hA : r.attrsField.isSome = true) (attrs : List Attr) :
    attrs.filter (fwdM r) = forwardedSpec r attrs ↔ NoOverlap r attrs := by
  rw [show fwdM r = forwardedBy r from funext (fwdM_eq_forwardedBy r)]
  constructor
  · -- a listed attribute that the text selects would be in the right-hand list, hence forwarded
    intro h a ha hl
    cases hs : fwdSel r.attrNames r.forward a with
    | false => rfl
    | true =>
        have hm : a ∈ attrs.filter (forwardedBy r) := h ▸ List.mem_filter.mpr ⟨ha, hs⟩
        have hl' : listed r a = true := hl
        rw [not_listed_of_forwardedBy (List.mem_filter.mp hm).2] at hl'
        cases hl'
  · intro h
    exact List.filter_congr fun a ha => forwardedBy_eq_fwdSel r a hA (h a ha)

/-! ### 3.6 Positional form for *all* attribute lists (malformed listed attributes included) -/

/-- every mistake the walk reports, in order — positionally: an item of a listed attribute is judged
    against all items of the listed attributes before it (`Spec.C02.itemMistakes`, through
    `loopMistakes`), a listed attribute whose body is not an item list is answered with its one
    error and contributes no items, every other attribute contributes nothing -/
def walkMistakes (r : SOuter ν) : List NestedMeta → List Attr → List Err
  | _, [] => []
  | earlier, a :: rest =>
      if listed r a then
        match itemsOf a with
        | some xs => loopMistakes r.fields earlier xs ++ walkMistakes r (earlier ++ xs) rest
        | none => malformedErr a :: walkMistakes r earlier rest
      else walkMistakes r earlier rest

def addErrs (es : List Err) (p : PState ν) : PState ν := { p with errs := es ++ p.errs }

theorem push_addErrs (es : List Err) (p : PState ν) (e : Err) :
    (addErrs es p).push e = addErrs es (p.push e) := by
  simp only [addErrs, PState.push, List.append_assoc]

theorem set_addErrs (es : List Err) (p : PState ν) (i : String) (s : Slot ν) :
    (addErrs es p).set i s = addErrs es (p.set i s) := by rfl

/-- the invariant of the walk: locals and flatten buffer are what the items read so far say
    positionally; the accumulator holds the given errors -/
structure WInv (r : SOuter ν) (pre : List NestedMeta) (errs : List Err) (p : PState ν) : Prop where
  slots : ∀ f ∈ r.fields.fields, p.slot f.ident = C02.specSlot r.fields pre f
  flat : p.flat = buffered r.fields pre
  errs : p.errs = errs

theorem coreLoop_winv (r : SOuter ν) (hr : C02.WF r.fields) (pre xs : List NestedMeta) (errs : List Err)
    (p : PState ν) (h : WInv r pre errs p) :
    ∃ q, coreLoop r.fields p xs = .ok q ∧ WInv r (pre ++ xs) (errs ++ loopMistakes r.fields pre xs) q := by
  obtain ⟨q, hq, hs, hf, he⟩ := C02.coreLoop_from r.fields hr xs pre p h.slots h.flat
  exact ⟨q, hq, hs, hf, by rw [he, h.errs]⟩

theorem runAtoms_winv (r : SOuter ν) (hr : C02.WF r.fields) (attrs : List Attr) :
    ∀ (pre : List NestedMeta) (errs : List Err) (p : PState ν), WInv r pre errs p →
      ∃ q, runAtoms r.fields p (atoms r attrs) = .ok q ∧
        WInv r (pre ++ mergedItems r attrs) (errs ++ walkMistakes r pre attrs) q := by
  induction attrs with
  | nil =>
      intro pre errs p h
      refine ⟨p, rfl, ?_⟩
      rw [show mergedItems r [] = [] from rfl, walkMistakes, List.append_nil, List.append_nil]
      exact h
  | cons a rest ih =>
      intro pre errs p h
      rw [mergedItems_cons, atoms_cons, runAtoms_append, atomsOf_eq, walkMistakes]
      cases hl : listed r a with
      | false => exact ih pre errs p h
      | true =>
          cases hx : itemsOf a with
          | some xs =>
              obtain ⟨q1, hq1, h1⟩ := coreLoop_winv r hr pre xs errs p h
              obtain ⟨q2, hq2, h2⟩ := ih (pre ++ xs) _ q1 h1
              rw [List.append_assoc, List.append_assoc] at h2
              refine ⟨q2, ?_, h2⟩
              show (match runAtoms r.fields p (xs.map .item) with
                | .ok p' => runAtoms r.fields p' (atoms r rest)
                | .error m => .error m) = _
              rw [runAtoms_items, hq1]
              exact hq2
          | none =>
              have h1 : WInv r pre (errs ++ [malformedErr a]) (p.push (malformedErr a)) :=
                ⟨h.slots, h.flat, congrArg (· ++ [malformedErr a]) h.errs⟩
              obtain ⟨q2, hq2, h2⟩ := ih pre _ _ h1
              rw [List.append_assoc] at h2
              exact ⟨q2, hq2, h2⟩

theorem winv_init (r : SOuter ν) : WInv r [] [] ({} : PState ν) := by
  have := C02.inv_init r.fields
  exact ⟨this.slots, this.flat, rfl⟩

/-- **Positional form, all attribute lists.**  After the walk over *any* attribute list: locals and
    flatten buffer are the positional reading of the merged items, and the accumulator holds exactly
    `walkMistakes`.  Every item of every listed attribute is accounted for; nothing else is.
    (`walkMistakes_wellFormed` makes this `walk_positional_partial` on well-formed lists.) -/
theorem walk_positional_general_partial (r : SOuter ν) (hr : C02.WF r.fields) (attrs : List Attr)
    (hno : NoOverlap r attrs) :
    ∃ p, extract r attrs = attrsValue r p (forwardedSpec r attrs)
      ∧ (∀ f ∈ r.fields.fields, p.slot f.ident = C02.specSlot r.fields (mergedItems r attrs) f)
      ∧ p.flat = buffered r.fields (mergedItems r attrs)
      ∧ p.errs = walkMistakes r [] attrs := by
  obtain ⟨p, hp, hinv⟩ := runAtoms_winv r hr attrs [] [] {} (winv_init r)
  refine ⟨p, ?_, hinv.slots, hinv.flat, hinv.errs⟩
  rw [extract_spec, extractSpec, hp]
  exact attrsValue_forwarded r p attrs hno

/-- on well-formed attributes the mistakes are those of the merged list -/
theorem walkMistakes_wellFormed (r : SOuter ν) (attrs : List Attr) (h : WellFormed r attrs) (pre : List NestedMeta) :
    walkMistakes r pre attrs = loopMistakes r.fields pre (mergedItems r attrs) := by
  induction attrs generalizing pre with
  | nil => rfl
  | cons a rest ih =>
      have hr : WellFormed r rest := fun b hb => h b (List.mem_cons_of_mem _ hb)
      rw [mergedItems_cons]
      cases hl : listed r a with
      | false => simp only [walkMistakes, hl, Bool.false_eq_true, if_false, List.nil_append]; exact ih hr pre
      | true =>
          have hi := h a List.mem_cons_self hl
          cases hx : itemsOf a with
          | none => rw [hx] at hi; cases hi
          | some xs =>
              simp only [walkMistakes, hl, if_true, hx, Option.getD_some]
              rw [C02.loopMistakes_append, ih hr]

/-- a listed attribute whose body is not an item list is read: it is answered with its one error -/
theorem malformed_listed_reports (r : SOuter ν) (a : Attr) (hl : listed r a = true) (hi : itemsOf a = none)
    (pre : List Attr) :
    extract (parseOnly r) (pre ++ [a]) = (match extract (parseOnly r) pre with
      | .ok (p, _) => .ok (p.push (malformedErr a), none)
      | .error m => .error m) := by
  have ha : atoms r [a] = [.bad (malformedErr a)] := by
    rw [atoms_cons, atomsOf_eq, hl, hi]
    rfl
  rw [extract_parseOnly, extract_parseOnly, atoms_append, runAtoms_append, ha]
  cases runAtoms r.fields {} (atoms r pre) <;> rfl

/-! ## 4. The whole receiver (`Env.runOuter`): attributes matter only through the extractor -/

/-- the element with its attribute list replaced -/
def setAttrs : Elem → List Attr → Elem
  | .deriveInput d, as => .deriveInput { d with attrs := as }
  | .field f, as => .field { f with attrs := as }
  | .variant v, as => .variant { v with attrs := as }
  | .typeParam t, as => .typeParam { t with attrs := as }
  | .attrs _, as => .attrs as

theorem setAttrs_self (el : Elem) : setAttrs el el.attrsOf = el := by
  cases el <;> rfl

theorem attrsOf_setAttrs (el : Elem) (as : List Attr) : (setAttrs el as).attrsOf = as := by
  cases el <;> rfl

/-! Every part of the main arm other than the extractor's argument ignores the element's attributes. -/

theorem validateOf_setAttrs (r : ROuter) (el : Elem) (as : List Attr) :
    C07.validateOf r (setAttrs el as) = C07.validateOf r el := by
  unfold C07.validateOf
  cases r.trait_ <;> cases el <;> rfl

theorem soOf_setAttrs (env : Env.T) (r : ROuter) (fields : List RField) (el : Elem) (as : List Attr) :
    C07.soOf env r fields (setAttrs el as) = C07.soOf env r fields el := by
  cases el <;> rfl

theorem earlyParts_setAttrs (has : String → Bool) (el : Elem) (as : List Attr) :
    earlyParts has (setAttrs el as) = earlyParts has el := by
  cases el <;> rfl

-- `rfl` would have to decide stuck string tests here; after unfolding, the two sides differ only
-- in projections of `{ d with attrs := as }`, which `dsimp` reduces
theorem genPart_setAttrs (conv : String → Elem → Outcome Val) (d : DeclD) (as : List Attr) :
    C07.genPart conv { d with attrs := as } = C07.genPart conv d := by
  unfold C07.genPart C07.genBase genericsVal
  dsimp only

theorem dataPart_setAttrs (conv : String → Elem → Outcome Val) (dataTy : String) (d : DeclD) (as : List Attr) :
    C07.dataPart conv dataTy { d with attrs := as } = C07.dataPart conv dataTy d := by
  unfold C07.dataPart
  dsimp only

theorem lateOf_setAttrs (env : Env.T) (conv : String → Elem → Outcome Val) (r : ROuter) (el : Elem)
    (as : List Attr) : C07.lateOf env conv r (setAttrs el as) = C07.lateOf env conv r el := by
  cases el with
  | deriveInput d => simp only [setAttrs, C07.lateOf, genPart_setAttrs, dataPart_setAttrs]
  | variant v => simp only [setAttrs, C07.lateOf, C07.fieldsPart]
  | _ => rfl

/-- a receiver that is not a newtype looks at the element's attributes through `extract` only -/
theorem runOuter_congr (env : Env.T) (run conv : String → Elem → Outcome Val) (r : ROuter) (el : Elem)
    (A B : List Attr) (hnt : ∀ f, r.base.data ≠ .struct .tuple [f])
    (h : ∀ (fields : SStruct Val) (af : Option (List Attr → Outcome Val)),
      extract ⟨fields, r.attrNames, r.forward, af⟩ A = extract ⟨fields, r.attrNames, r.forward, af⟩ B) :
    Env.runOuter env run conv r (setAttrs el A) = Env.runOuter env run conv r (setAttrs el B) := by
  rw [C07.runOuter_eq, C07.runOuter_eq]
  split
  · rename_i f hd; exact absurd hd (hnt f)
  · simp only [C07.mainArm, soOf_setAttrs, validateOf_setAttrs, lateOf_setAttrs, earlyParts_setAttrs,
      attrsOf_setAttrs]
    rw [C07.soOf, h]
  · rfl

/-- **Splitting invariance, end to end**: the whole result of a derived element-level receiver
    (value or errors, all magic fields included) is the same for any two ways of writing the same
    items over listed attributes with the same other attributes interleaved. -/
theorem runOuter_splitting_invariance (env : Env.T) (run conv : String → Elem → Outcome Val) (r : ROuter)
    (el : Elem) (A B : List Attr) (hnt : ∀ f, r.base.data ≠ .struct .tuple [f])
    (hA : WellFormedFor r.attrNames A) (hB : WellFormedFor r.attrNames B)
    (hitems : mergedItemsOf r.attrNames A = mergedItemsOf r.attrNames B)
    (hother : A.filter (fun a => !listedIn r.attrNames a) = B.filter (fun a => !listedIn r.attrNames a)) :
    Env.runOuter env run conv r (setAttrs el A) = Env.runOuter env run conv r (setAttrs el B) :=
  runOuter_congr env run conv r el A B hnt
    (fun fields af => splitting_invariance ⟨fields, r.attrNames, r.forward, af⟩ A B hA hB hitems hother)

/-- **Inertness, end to end**: an attribute that is neither listed nor selected for forwarding has
    no effect on the whole result, at any position, whatever its body. -/
theorem runOuter_other_inert (env : Env.T) (run conv : String → Elem → Outcome Val) (r : ROuter)
    (el : Elem) (a : Attr) (pre post : List Attr) (hnt : ∀ f, r.base.data ≠ .struct .tuple [f])
    (hl : listedIn r.attrNames a = false) (hf : fwdSel r.attrNames r.forward a = false) :
    Env.runOuter env run conv r (setAttrs el (pre ++ a :: post)) = Env.runOuter env run conv r (setAttrs el (pre ++ post)) :=
  runOuter_congr env run conv r el _ _ hnt
    (fun fields af => other_attribute_inert ⟨fields, r.attrNames, r.forward, af⟩ a ⟨hl, fun _ => hf⟩ pre post)

/-- **Interleavings, end to end** (malformed bodies included) -/
theorem runOuter_interleaving_invariance (env : Env.T) (run conv : String → Elem → Outcome Val) (r : ROuter)
    (el : Elem) (A B : List Attr) (hnt : ∀ f, r.base.data ≠ .struct .tuple [f])
    (hl : A.filter (listedIn r.attrNames) = B.filter (listedIn r.attrNames))
    (hn : A.filter (fun a => !listedIn r.attrNames a) = B.filter (fun a => !listedIn r.attrNames a)) :
    Env.runOuter env run conv r (setAttrs el A) = Env.runOuter env run conv r (setAttrs el B) :=
  runOuter_congr env run conv r el A B hnt
    (fun fields af => interleaving_invariance ⟨fields, r.attrNames, r.forward, af⟩ A B hl hn)

/-! ## 5. Discrepancies between the property text and the model -/

private def mkPath (name : String) : Path :=
  { global := false, segs := [name], plain := true, toks := name, span := ⟨0, 0⟩ }
private def word (name : String) : NestedMeta := .item (.path (mkPath name))
/-- `#[name(items)]` -/
private def mkAttr (name : String) (items : List NestedMeta) (toks : String) : Attr :=
  { path := mkPath name, body := .list (mkPath name) items none none "" ⟨0, 0⟩, toks := toks, span := ⟨0, 0⟩ }
/-- `#[name]` -/
private def bareAttr (name : String) : Attr :=
  { path := mkPath name, body := .path (mkPath name), toks := "#[" ++ name ++ "]", span := ⟨0, 0⟩ }
/-- `#[name = "x"]` -/
private def nvAttr (name : String) : Attr :=
  { path := mkPath name,
    body := .nameValue (mkPath name) (.lit ⟨.str "x", "\"x\"", ⟨0, 0⟩⟩) (name ++ " = \"x\"") ⟨0, 0⟩,
    toks := "#[" ++ name ++ " = \"x\"]", span := ⟨0, 0⟩ }
/-- `#[name(a = )]`: tokens that are not a list of items -/
private def badAttr (name : String) : Attr :=
  { path := mkPath name, body := .list (mkPath name) [] (some ("expected expression", ⟨0, 0⟩)) none "" ⟨0, 0⟩,
    toks := "#[" ++ name ++ "(a = )]", span := ⟨0, 0⟩ }

/-- a struct receiver that ignores unknown items; the observed value is the printed attributes -/
private def noFields : SStruct (List String) :=
  { fields := [], allowUnknown := true, containerDefault := none, build := fun _ => [], mkList := fun _ => [],
    post := .ok, score := fun _ _ => 0, thr := 0 }

/-- `#[darling(attributes(my), forward_attrs(my, doc))] struct R { attrs: Vec<syn::Attribute>, .. }` -/
private def rOverlap : SOuter (List String) :=
  { fields := noFields, attrNames := ["my"], forward := some (.only ["my", "doc"]),
    attrsField := some (fun as => .ok (as.map (·.toks))) }

private def elemOverlap : List Attr := [mkAttr "my" [word "a"] "#[my(a)]", nvAttr "doc", bareAttr "other"]

/-- **D1 (overlap).**  By the text the `attrs` field holds *"exactly the attributes selected by
    `forward_attrs`"* — here `#[my(a)]` and `#[doc = "x"]` … -/
example : (forwardedSpec rOverlap elemOverlap).map (·.toks) = ["#[my(a)]", "#[doc = \"x\"]"] := rfl

/-- … the model hands over `#[doc = "x"]` only: a name that is also listed in `attributes(..)` is
    consumed, not forwarded (first match arm wins). -/
theorem overlap_discrepancy :
    (extract rOverlap elemOverlap).toOption.map (·.2) = some (some ["#[doc = \"x\"]"]) := by rfl

/-- the side condition of the `_partial` theorems is what fails on it -/
example : ¬ NoOverlap rOverlap elemOverlap :=
  fun h => Bool.noConfusion (h (mkAttr "my" [word "a"] "#[my(a)]") List.mem_cons_self rfl)

/-- **D2 (newtype receivers).**  A receiver declared as a newtype (`struct W(Inner);`) delegates to
    the inner type's own impl: its own `attributes(..)` and `forward_attrs` declarations are never
    looked at, so it does *not* read *"exactly the attributes whose path is listed in its
    `attributes(...)` declaration"*. -/
theorem newtype_ignores_its_declaration (env : Env.T) (run conv : String → Elem → Outcome Val) (r : ROuter)
    (f : RField) (hd : r.base.data = .struct .tuple [f]) (names : List String) (fw : Option FwdFilter)
    (el : Elem) :
    Env.runOuter env run conv r el = Env.runOuter env run conv { r with attrNames := names, forward := fw } el := by
  rw [C07.runOuter_eq, C07.runOuter_eq]
  simp only [hd]
  rfl

theorem newtype_delegates (env : Env.T) (run conv : String → Elem → Outcome Val) (r : ROuter) (f : RField)
    (inner : String) (hd : r.base.data = .struct .tuple [f]) (hty : f.ty = .recv inner) (el : Elem) :
    Env.runOuter env run conv r el =
      (match C07.newtypeValidate r el with
       | .err e => .err e
       | .panic m => .panic m
       | .ok () => (run inner el).map (fun v => .record r.base.ident [("0", v)])) := by
  rw [C07.runOuter_eq, hd]
  simp only [hty]
  rfl

/-- without a `supports(..)` declaration the delegation is unconditional -/
theorem newtype_delegates_of_no_supports (env : Env.T) (run conv : String → Elem → Outcome Val) (r : ROuter)
    (f : RField) (inner : String) (hd : r.base.data = .struct .tuple [f]) (hty : f.ty = .recv inner)
    (hs : r.supports = none) (el : Elem) :
    Env.runOuter env run conv r el = (run inner el).map (fun v => .record r.base.ident [("0", v)]) := by
  have hv : C07.newtypeValidate r el = .ok () := by
    unfold C07.newtypeValidate
    rw [hs]
    -- the one arm that validates asks for `some _`
    split
    · rename_i h; cases h
    · rfl
  rw [newtype_delegates env run conv r f inner hd hty el, hv]

/-! ## 6. Non-vacuity: every hypothesis of every main theorem is met by concrete data -/

/-- `#[darling(attributes(my, conf), forward_attrs)] struct R { attrs: .. }` -/
private def rBare : SOuter (List String) :=
  { fields := noFields, attrNames := ["my", "conf"], forward := some .all,
    attrsField := some (fun as => .ok (as.map (·.toks))) }
/-- `#[darling(attributes(my), forward_attrs(doc))]` -/
private def rList : SOuter (List String) :=
  { fields := noFields, attrNames := ["my"], forward := some (.only ["doc"]),
    attrsField := some (fun as => .ok (as.map (·.toks))) }

private def A1 : List Attr :=
  [mkAttr "my" [word "a", word "b"] "#[my(a, b)]", nvAttr "doc", mkAttr "conf" [word "c"] "#[conf(c)]"]
private def B1 : List Attr :=
  [bareAttr "my", mkAttr "conf" [word "a"] "#[conf(a)]", nvAttr "doc", mkAttr "my" [] "#[my()]",
   mkAttr "my" [word "b", word "c"] "#[my(b, c)]"]
private def M1 : Attr := mkAttr "conf" [word "a", word "b", word "c"] "#[conf(a, b, c)]"

private theorem wfA1 : WellFormed rBare A1 := by
  intro a ha hl
  simp only [A1, List.mem_cons, List.not_mem_nil, or_false] at ha
  rcases ha with rfl | rfl | rfl
  · rfl
  · cases hl
  · rfl
private theorem wfB1 : WellFormed rBare B1 := by
  intro a ha hl
  simp only [B1, List.mem_cons, List.not_mem_nil, or_false] at ha
  rcases ha with rfl | rfl | rfl | rfl | rfl
  · rfl
  · rfl
  · cases hl
  · rfl
  · rfl

/-- `splitting_invariance`: two genuinely different partitions (different names, a bare and an
    empty attribute, the foreign attribute at a different place) satisfy all four hypotheses -/
example : WellFormed rBare A1 ∧ WellFormed rBare B1 ∧ mergedItems rBare A1 = mergedItems rBare B1
    ∧ A1.filter (fun a => !listed rBare a) = B1.filter (fun a => !listed rBare a) ∧ A1.length ≠ B1.length :=
  ⟨wfA1, wfB1, by rfl, by rfl, by decide⟩

/-- `interleaving_invariance`: same listed sub-list, same others, different interleaving -/
example : ([nvAttr "doc", bareAttr "my", badAttr "conf"] : List Attr).filter (listed rBare)
      = ([bareAttr "my", badAttr "conf", nvAttr "doc"] : List Attr).filter (listed rBare)
    ∧ ([nvAttr "doc", bareAttr "my", badAttr "conf"] : List Attr).filter (fun a => !listed rBare a)
      = ([bareAttr "my", badAttr "conf", nvAttr "doc"] : List Attr).filter (fun a => !listed rBare a) :=
  ⟨by rfl, by rfl⟩

/-- `several_are_one_list`: a well-formed list and one listed attribute holding its merged items -/
example : WellFormed rBare A1 ∧ listed rBare M1 = true ∧ itemsOf M1 = some (mergedItems rBare A1) :=
  ⟨wfA1, rfl, rfl⟩

/-- `WellFormed` is a real restriction: a listed name-value attribute or unparseable body fails it -/
example : ¬ WellFormed rBare [nvAttr "my"] :=
  fun h => Bool.noConfusion (h (nvAttr "my") List.mem_cons_self rfl)
example : ¬ WellFormed rBare [badAttr "conf"] :=
  fun h => Bool.noConfusion (h (badAttr "conf") List.mem_cons_self rfl)

/-- `single_list_partial`, `walk_positional_partial`, `forwarding_partial`: `NoOverlap` holds for
    the bare form and for a disjoint list, on lists that do contain forwarded attributes -/
example : NoOverlap rBare A1 ∧ (forwardedSpec rBare A1).map (·.toks) = ["#[doc = \"x\"]"] :=
  ⟨noOverlap_of_bare rBare (Or.inl rfl) A1, rfl⟩
example : NoOverlap rList A1 ∧ (forwardedSpec rList A1).map (·.toks) = ["#[doc = \"x\"]"] :=
  ⟨noOverlap_of_disjoint rList ["doc"] rfl (by decide) A1, rfl⟩

/-- a receiver with a real field meeting `C02.WF` (the hypothesis of `walk_positional_partial`) -/
private def oneField : SStruct (List String) :=
  { noFields with
    fields := [{ ident := "a", name := "a", conv := fun _ => .ok ["a!"], fromNone := none,
                 fromList := fun _ => .ok [], dflt := none, skip := false, multiple := false, flatten := false }],
    allowUnknown := false }
example : C02.WF oneField := by
  refine ⟨?_, ?_, ?_⟩
  · intro f hf g hg _
    simp only [oneField, List.mem_cons, List.not_mem_nil, or_false] at hf hg
    rw [hf, hg]
  · intro f hf m msg
    simp only [oneField, List.mem_cons, List.not_mem_nil, or_false] at hf
    rw [hf]; intro h; cases h
  · intro f hf items msg
    simp only [oneField, List.mem_cons, List.not_mem_nil, or_false] at hf
    rw [hf]; intro h; cases h

/-- `split_anywhere`: listed attributes holding `xs ++ ys`, `xs` and `ys`, under two of the names -/
example : listed rBare (mkAttr "my" [word "a", word "b"] "") = true ∧ listed rBare (mkAttr "conf" [word "a"] "") = true
    ∧ listed rBare (mkAttr "my" [word "b"] "") = true
    ∧ itemsOf (mkAttr "my" [word "a", word "b"] "") = some ([word "a"] ++ [word "b"])
    ∧ itemsOf (mkAttr "conf" [word "a"] "") = some [word "a"] ∧ itemsOf (mkAttr "my" [word "b"] "") = some [word "b"] :=
  ⟨by decide, by decide, by decide, rfl, rfl, rfl⟩

/-- `other_attribute_inert`: with a `forward_attrs(..)` list, an attribute not named in it is `Other` -/
example : Other rList (badAttr "cfg") := ⟨rfl, fun _ => rfl⟩
/-- with bare `forward_attrs` but no `attrs` field, every unlisted attribute is `Other` -/
example : Other (parseOnly rBare) (badAttr "cfg") := ⟨rfl, fun h => by cases h⟩
/-- with bare `forward_attrs` *and* an `attrs` field no unlisted attribute is "other": it is forwarded -/
example : ¬ Other rBare (badAttr "cfg") := fun h => Bool.noConfusion (h.2 rfl)

/-- `bare_or_empty_inert`: a bare and an empty listed attribute, each with no items -/
example : listed rBare (bareAttr "my") = true ∧ itemsOf (bareAttr "my") = some []
    ∧ listed rBare (mkAttr "conf" [] "") = true ∧ itemsOf (mkAttr "conf" [] "") = some [] :=
  ⟨rfl, rfl, rfl, rfl⟩

/-- `attrs_field_gets_exactly_partial`: the extractor does return `.ok (_, some v)` -/
example : (extract rList A1).toOption.map (·.2) = some (some ["#[doc = \"x\"]"]) := rfl

/-- `forwards_exactly_iff_noOverlap`: `attrsField.isSome` -/
example : rOverlap.attrsField.isSome = true := rfl

/-- `runOuter_*`: a receiver description that is not a newtype -/
private def rDesc : ROuter :=
  { trait_ := .fromField,
    base := { ident := "R", data := .struct .named [], dflt := none, post := none, allowUnknown := false },
    attrNames := ["my"], forward := none, attrsField := none, dataField := none, magic := [],
    fromIdent := false, supports := none, vsupports := none }
example : ∀ f, rDesc.base.data ≠ .struct .tuple [f] := by
  intro f h; simp [rDesc] at h

end C08
