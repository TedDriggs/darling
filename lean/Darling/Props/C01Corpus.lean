import Darling.Props.C01
import Darling.Props.C07Recv
/-
  C01 / C02 for the receivers of a corpus: the struct parser that `Env` assembles from a derived
  declaration satisfies the hypotheses of `C02.fromList_spec` / `C02.fromList_value`, provided only
  that the declaration's field identifiers are pairwise distinct (which Rust guarantees for any
  struct that compiles).  Hence, for every struct `FromMeta` receiver of every corpus, at every
  nesting depth and for every item list: the result is the declared field mapping when the list
  is mistake-free, and otherwise the bundle of exactly `Spec.C02.mistakes`.
-/
open Derive Options

namespace C01
open C02

/-- the assembled fields keep the identifiers of the declaration's fields -/
theorem semField_ident (env : Env.T) (rh : String → Hooks Val) (f : RField) : (Env.semField env rh f).ident = f.ident := rfl

theorem semStruct_wf (env : Env.T) (rh : String → Hooks Val) (hr : ∀ n, (rh n).NP) (core : RCore) (fields : List RField)
    (build : List (String × Val) → Val) (hd : fields.Pairwise (fun f g => f.ident ≠ g.ident)) :
    WF (Env.semStruct env rh core fields build) := by
  refine ⟨List.pairwise_inj SField.ident (semStruct_identsDistinct env rh core fields build hd), ?_, ?_⟩
  · intro f hf m msg
    obtain ⟨f0, _, rfl⟩ := mem_semStruct_fields.mp hf
    exact C07.semField_conv_ne_panic env rh hr f0 m msg
  · intro f hf items msg
    obtain ⟨f0, _, rfl⟩ := mem_semStruct_fields.mp hf
    exact C07.semField_fromList_ne_panic env rh hr f0 items msg

/-- **C01 + C02 for every struct receiver of every corpus**: the parser assembled for a declaration
    with pairwise distinct field identifiers returns the declared field mapping on a mistake-free
    item list and the bundle of exactly the mistakes otherwise — whatever the other receivers of
    the corpus are (`rh`), provided they do not panic (which `C07.recvHooksF_np` establishes). -/
theorem corpus_struct_spec (env : Env.T) (rh : String → Hooks Val) (hr : ∀ n, (rh n).NP) (core : RCore)
    (fields : List RField) (build : List (String × Val) → Val)
    (hd : fields.Pairwise (fun f g => f.ident ≠ g.ident)) (items : List NestedMeta) :
    let s := Env.semStruct env rh core fields build
    Derive.fromList s items = (match Spec.C02.mistakes s items with
      | [] => Spec.C01.expected s items
      | errs => Err.bundleErr errs) :=
  fromList_spec _ (semStruct_wf env rh hr core fields build hd) (semStruct_identsDistinct env rh core fields build hd) items

theorem corpus_struct_spec_at (env : Env.T) (fuel : Nat) (core : RCore) (fields : List RField)
    (build : List (String × Val) → Val) (hd : fields.Pairwise (fun f g => f.ident ≠ g.ident)) (items : List NestedMeta) :
    let s := Env.semStruct env (Env.recvHooksF fuel env) core fields build
    Derive.fromList s items = (match Spec.C02.mistakes s items with
      | [] => Spec.C01.expected s items
      | errs => Err.bundleErr errs) :=
  corpus_struct_spec env _ (fun n => C07.recvHooksF_np env fuel n) core fields build hd items

end C01
