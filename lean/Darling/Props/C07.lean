import Darling.Lemmas.NoPanic
import Darling.FromMeta.Universe
import Darling.Props.C12
import Darling.Props.C14
import Darling.Props.C02
import Darling.Props.C18
import Darling.Spec.PanicInventory
/-
  C07 — Parsing is total at run time: every input yields Ok or Err, never a panic.

  (1) `Hooks.NP` of every scalar implementor, and of every wrapper and keyed collection given `NP` of
      what it wraps; `NP` is closed under the default routing (`Hooks.NP.fromMeta`), and the induction
      over the universe of target types is in `C07Universe`;
  (2) facts of C02 and C18 restated as `.Returns`: a named-struct receiver under C02's hypotheses,
      shape validation, and `ShapeSet`'s `Display`, which never reaches `unreachable!()`.
-/
open Scalars Wrappers SynTypes

namespace C07
variable {α β : Type}

/-! ### scalars -/

theorem unit_np (u : α) : (unitHooks u).NP := .of_overrides { word := Outcome.returns_ok _ }

theorem bool_np (inj : Bool → α) : (boolHooks inj).NP :=
  .of_overrides {
    word := Outcome.returns_ok _
    bool := fun _ => Outcome.returns_ok _
    string := fun _ => .ite (Outcome.returns_ok _) (.ite (Outcome.returns_ok _) (Outcome.returns_err _)) }

theorem char_np (inj : Char → α) : (charHooks inj).NP :=
  .of_overrides {
    char := fun _ => Outcome.returns_ok _
    string := fun s => by
      show (match s.toList with | [c] => Outcome.ok (inj c) | _ => _).Returns
      split
      · exact Outcome.returns_ok _
      · exact Outcome.returns_err _ }

theorem string_np (inj : String → α) : (stringHooks inj).NP :=
  .of_overrides { string := fun _ => Outcome.returns_ok _ }

theorem numFromString_returns (sp : IntSpec) (inj : Int → α) (s : String) : (numFromString sp inj s).Returns := by
  unfold numFromString
  cases parseIntStd sp s
  · exact Outcome.returns_err _
  · exact Outcome.returns_ok _

theorem numFromValue_returns (sp : IntSpec) (inj : Int → α) (l : Lit) : (numFromValue sp inj l).Returns := by
  unfold numFromValue
  apply Outcome.Returns.mapErr
  cases l.v
  case str s => exact numFromString_returns sp inj _
  case int d sfx =>
    dsimp only
    cases parseIntStd sp d
    · exact Outcome.returns_err _
    · exact Outcome.returns_ok _
  all_goals exact Outcome.returns_err _

theorem num_np (sp : IntSpec) (inj : Int → α) : (numHooks sp inj).NP :=
  .of_overrides { value := numFromValue_returns sp inj, string := numFromString_returns sp inj }

theorem floatFromString_returns (parseF : String → Option Nat) (inj : Nat → α) (s : String) :
    (floatFromString parseF inj s).Returns := by
  unfold floatFromString
  cases parseF s
  · exact Outcome.returns_err _
  · exact Outcome.returns_ok _

theorem floatFromValue_returns (parseF : String → Option Nat) (failMsg : String) (inj : Nat → α) (l : Lit) :
    (floatFromValue parseF failMsg inj l).Returns := by
  unfold floatFromValue
  apply Outcome.Returns.mapErr
  cases l.v
  case str s => exact floatFromString_returns parseF inj _
  case float d sfx =>
    dsimp only
    cases parseF d
    · exact Outcome.returns_err _
    · exact Outcome.returns_ok _
  case int d sfx =>
    dsimp only
    cases parseF d
    · exact Outcome.returns_err _
    · exact Outcome.returns_ok _
  all_goals exact Outcome.returns_err _

theorem float_np (parseF : String → Option Nat) (inj : Nat → α) : (floatHooks parseF inj).NP :=
  .of_overrides { value := floatFromValue_returns parseF _ inj, string := floatFromString_returns parseF inj }

/-- `Flag` handed anything but a bare word: the `unwrap_err()` is never reached with an `Ok` -/
theorem flag_other_returns (mk : Option Span → β) (m : Meta) (h : ∀ p, m ≠ .path p) :
    ((flagHooks mk).fromMeta m).Returns := by
  obtain ⟨e, he⟩ := C12.flag_other_is_err mk m h
  rw [he]
  exact Outcome.returns_err _

theorem flag_np (mk : Option Span → β) : (flagHooks mk).NP :=
  .of_overrides {
    meta_ := fun m => by
      cases m with
      | path p => exact Outcome.returns_ok _
      | list p items bad ts t s => exact flag_other_returns mk (.list p items bad ts t s) fun _ h => nomatch h
      | nameValue p e t s => exact flag_other_returns mk (.nameValue p e t s) fun _ h => nomatch h }

theorem atomicBool_np (inj : Bool → β) : (atomicBoolHooks inj).NP :=
  .of_overrides { meta_ := fun m => ((bool_np inj).fromMeta m).mapErr _ }

/-! ### wrappers preserve "returns" -/

theorem option_np (some' : α → β) (none' : β) (h : Hooks α) (np : h.NP) : (optionOf some' none' h).NP :=
  .of_overrides { meta_ := fun m => (np.fromMeta m).map _ }

theorem ptr_np (wrap : α → β) (h : Hooks α) (np : h.NP) : (ptrOf wrap h).NP :=
  .of_overrides { meta_ := fun m => (np.fromMeta m).map _, list := fun items => (np.fromList items).map _ }

/-- the implementors that hold the outcome of the inner conversion: `darling::Result<T>`, `Result<T, Meta>` -/
theorem held_returns (ok' : α → β) (err' : Err → β) : ∀ o : Outcome α, o.Returns →
    (match o with
      | .ok v => Outcome.ok (ok' v) | .err e => .ok (err' e) | .panic m => .panic m : Outcome β).Returns
  | .ok _, _ => Outcome.returns_ok _
  | .err _, _ => Outcome.returns_ok _
  | .panic m, ho => absurd rfl (ho m)

theorem result_np (ok' : α → β) (err' : Err → β) (h : Hooks α) (np : h.NP) : (resultOf ok' err' h).NP :=
  .of_overrides {
    meta_ := fun m => held_returns ok' err' _ (np.fromMeta m)
    list := fun items => held_returns ok' err' _ (np.fromList items) }

theorem resultMeta_np (ok' : α → β) (err' : Meta → β) (h : Hooks α) (np : h.NP) : (resultMetaOf ok' err' h).NP :=
  .of_overrides { meta_ := fun m => held_returns ok' (fun _ => err' m) _ (np.fromMeta m) }

theorem override_np (explicit' : α → β) (inherit' : β) (h : Hooks α) (np : h.NP) : (overrideOf explicit' inherit' h).NP :=
  .of_overrides {
    meta_ := fun m => by
      cases m with
      | path p => exact Outcome.returns_ok _
      | list _ _ _ _ _ _ => exact (np.fromMeta _).map _
      | nameValue _ _ _ _ => exact (np.fromMeta _).map _
    word := Outcome.returns_ok _
    list := fun items => (np.fromList items).map _
    value := fun l => (np.fromValue l).map _
    char := fun c => (np.fromChar c).map _
    string := fun s => (np.fromString s).map _
    bool := fun b => (np.fromBool b).map _ }

theorem spanned_np (mk : α → Option Span → β) (h : Hooks α) (np : h.NP) : (spannedOf mk h).NP :=
  .of_overrides {
    nested := fun n => ((np.fromNestedMeta n).map _).mapErr _
    meta_ := fun m => by
      have hm := (np.fromMeta m).mapErr (·.withSpan m.span)
      dsimp only
      cases hr : (h.fromMeta m).mapErr (·.withSpan m.span) with
      | ok v => exact Outcome.returns_ok _
      | err e => exact Outcome.returns_err _
      | panic p => exact absurd hr (hm p)
    value := fun l => ((np.fromValue l).map _).mapErr _
    expr := fun e => ((np.fromExpr e).map _).mapErr _ }

theorem withOriginal_np (mk : α → Meta → β) (h : Hooks α) (np : h.NP) : (withOriginalOf mk h).NP :=
  .of_overrides { meta_ := fun m => (np.fromMeta m).map _ }

/-! ### keyed collections -/

theorem map_np (k : Maps.KeyKind) (inj : List (String × α) → β) (h : Hooks α) (np : h.NP) : (Maps.mapHooks k inj h).NP :=
  .of_overrides {
    list := fun items =>
      Outcome.Returns.map (fun msg => C14.never_panics k h (fun m p => np.fromMeta m p) items msg) _ }

/-! ### C02 and C18 as `.Returns` -/

/-- a derived named-struct receiver returns on every item list, given that its field types do -/
theorem derived_struct_returns {ν : Type} (r : Derive.SStruct ν) (hwf : C02.WF r) (hd : C02.Distinct r)
    (hdo : C02.DefaultsOk r) (hpost : ∀ v, (r.post v).Returns) (items : List NestedMeta) :
    (Derive.fromList r items).Returns :=
  fun msg => C02.fromList_never_panics r hwf hd hdo (fun v m => hpost v m) items msg

/-- shape validation (`supports(..)`) returns for every body, unions included -/
theorem shape_validation_returns (ws : List Spec.C18.Word) (b : BodyShape) : ((C18.dissOf ws).validateBody b).Returns :=
  fun m => C18.validate_never_panics ws b m

theorem shape_display_returns (s : ShapeSet) : s.display.Returns := by
  obtain ⟨d, hd⟩ := C18.display_ok s
  rw [hd]; exact Outcome.returns_ok _

/-- T3: the explicit panic sites of the current source are exactly the classified inventory -/
theorem inventory_current : Generated.panicSites = Spec.PanicInventory.sites.map (·.key) := by rfl

end C07
