import Darling.Lemmas.Struct
import Darling.Props.C03Universe
import Darling.Derive.Env
/-
  C03, derived receivers — discharge of the hypothesis `∀ n, (rh n).SpansIn A` of
  `C03.hooksOf_spansIn` for the derived `FromMeta` receivers of a corpus, so that the span theorem
  holds end to end: every span anywhere in an error that a receiver of any corpus (or a built-in
  conversion over it) returns for a span-well-formed item lies inside that item.

  (a) Structs: the all-nodes invariant through the item loop, the flatten hand-over, the missing-field
  checks, the bundle and the post-transform of an arbitrary `SStruct`, under the contract
  `FieldsSpansIn A` on its field converters.  What follows the loop is analysed for an arbitrary
  predicate on the recorded errors, which C03Spec instantiates with its leaf classes.
  (b) Enums: word / string / list forms, unit, newtype and struct variants.
  (c) Corpus: built-in field converters by `hooksOf_spansIn`, nested receivers by induction on the
  fuel, the harness's `with` / `map` / `and_then` functions, whose own errors are span-less by
  construction.

  The only hypothesis left is the oracle hypothesis `OracleArrWithin env.oracle A` of C03Universe
  (the `ExprArray` oracle answers inside the item under consideration).
-/
open Derive Options

namespace C03
variable {ν : Type}

/-! ### did-you-mean enrichment does not touch spans -/

mutual
theorem addSiblingAlts_allWithin (A : Span) (thr : Nat) (scores : String → List (String × Nat)) :
    (e : Err) → e.allWithin A = true → (Suggest.addSiblingAlts thr scores e).allWithin A = true
  | .leaf k ls sp, h => by
      simp only [Suggest.addSiblingAlts]
      split
      · exact h
      · split <;> exact h
  | .multi cs ls sp, h => by
      simp only [Suggest.addSiblingAlts]
      split
      · exact h
      · simp only [Err.allWithin, Bool.and_eq_true] at h ⊢
        exact ⟨h.1, addSiblingAltsList_allWithin A thr scores cs h.2⟩
theorem addSiblingAltsList_allWithin (A : Span) (thr : Nat) (scores : String → List (String × Nat)) :
    (es : List Err) → Err.allWithinList A es = true →
      Err.allWithinList A (Suggest.addSiblingAltsList thr scores es) = true
  | [], _ => by simp only [Suggest.addSiblingAltsList, Err.allWithinList]
  | c :: cs, h => by
      simp only [Err.allWithinList, Bool.and_eq_true] at h
      simp only [Suggest.addSiblingAltsList, Err.allWithinList, Bool.and_eq_true]
      exact ⟨addSiblingAlts_allWithin A thr scores c h.1, addSiblingAltsList_allWithin A thr scores cs h.2⟩
end

theorem _root_.Outcome.ErrsIn.addSiblingAlts {α : Type} {A : Span} {o : Outcome α} (h : o.ErrsIn A) (thr : Nat)
    (scores : String → List (String × Nat)) : (o.mapErr (Suggest.addSiblingAlts thr scores)).ErrsIn A := by
  cases o with
  | ok a => exact errsIn_ok A _
  | err e => exact errsIn_err (addSiblingAlts_allWithin A thr scores e (h e rfl))
  | panic m => exact errsIn_panic A m

/-- `r.bind g` (`.and_then(g)` / `.map(g)`) -/
theorem _root_.Outcome.ErrsIn.bind {α β : Type} {A : Span} {o : Outcome α} (h : o.ErrsIn A) (g : α → Outcome β)
    (hg : ∀ a, (g a).ErrsIn A) : (o.bind g).ErrsIn A := by
  cases o with
  | ok a => exact hg a
  | err e => exact errsIn_err (h e rfl)
  | panic m => exact errsIn_panic A m

/-! ### (a) the struct receiver -/

/-- the contract of the field converters of a struct parser, relative to the ambient span `A` -/
structure FieldsSpansIn (A : Span) (s : SStruct ν) : Prop where
  conv : ∀ f ∈ s.fields, ∀ m : Meta, m.spanWF = true → m.span.within A = true → (f.conv m).ErrsIn A
  fromList : ∀ f ∈ s.fields, ∀ items, NestedMeta.spanWFList A items = true → (f.fromList items).ErrsIn A
  post : ∀ v, (s.post v).ErrsIn A

/-- the all-nodes invariant of the parser state: every recorded error has all its spans inside
    `A`, and the items buffered for a flatten field are well-formed and inside `A` -/
def StInv (A : Span) (st : PState ν) : Prop :=
  ErrsAll A st.errs ∧ NestedMeta.spanWFList A st.flat = true

theorem stInv_init (A : Span) : StInv A ({} : PState ν) :=
  ⟨fun e he => (by cases he), rfl⟩

theorem StInv.set {A : Span} {st : PState ν} (h : StInv A st) (i : String) (s : Slot ν) :
    StInv A (st.set i s) := h

theorem coreLoop_inv {A : Span} (s : SStruct ν) (c : FieldsSpansIn A s) (items : List NestedMeta)
    (hi : NestedMeta.spanWFList A items = true) (st st' : PState ν) (hp : StInv A st)
    (h : coreLoop s st items = .ok st') : StInv A st' := by
  have hmem := nestedWFList_mem items hi
  have h1 := coreLoop_errs (Q := (·.AllWithin A)) items
    (fun it hit u hu => (hu.allWithin A).withSpan (hmem it hit).2)
    (fun m hm f hf e loc he =>
      ((c.conv f hf m (hmem _ hm).1 (hmem _ hm).2 e he).withSpan (hmem _ hm).2).at loc)
    hp.1 h
  exact ⟨h1.1, nestedWFList_of_mem _ (fun n hn => (h1.2 n hn).elim (nestedWFList_mem _ hp.2 n) (hmem n))⟩

/-! what comes after the item loop, for any predicate `Q` on the recorded errors -/

/-- the flatten hand-over records at most what the flatten field's `from_list` answers for the
    buffered items, with or without did-you-mean alternatives -/
theorem flattenInit_errs {Q : Err → Prop} {r : SStruct ν} {st st' : PState ν} (h : flattenInit r st = .ok st')
    (hp : ∀ x ∈ st.errs, Q x)
    (hfl : ∀ ff ∈ r.fields, ff.flatten = true → ∀ x, ff.fromList st.flat = .err x →
      Q x ∧ ∀ thr sc, Q (Suggest.addSiblingAlts thr sc x)) :
    ∀ x ∈ st'.errs, Q x := by
  have push : ∀ y, Q y → ∀ z ∈ st.errs ++ [y], Q z := by
    intro y hy z hz
    rcases List.mem_append.mp hz with hz | hz
    · exact hp z hz
    · rw [List.mem_singleton.mp hz]; exact hy
  have hc := flattenInit_case r st
  rw [h] at hc
  cases hc with
  | none | ok => exact hp
  | err ff x hf hres =>
      have hq := hfl ff (List.mem_of_find?_eq_some hf) (List.find?_some hf) x hres
      rcases lifted_cases r x with hl | hl <;> rw [hl]
      · exact push _ hq.1
      · exact push _ (hq.2 _ _)

theorem checkMissing_errs {Q : Err → Prop} (hmiss : ∀ n, Q (Err.new (.missingField n)))
    (fs : List (SField ν)) (st : PState ν) (hp : ∀ x ∈ st.errs, Q x) : ∀ x ∈ (checkMissing fs st).errs, Q x := by
  refine checkMissing_induct (I := fun st => ∀ x ∈ st.errs, Q x) fs (fun f _ st1 h1 => ?_) st hp
  have hc := checkOne_case f st1
  generalize checkOne f st1 = st2 at hc
  cases hc with
  | exempt | seen | fromNone => exact h1
  | missing =>
      intro x hx
      rcases List.mem_append.mp hx with hx | hx
      · exact h1 x hx
      · rw [List.mem_singleton.mp hx]; exact hmiss _

/-- **what `finishStruct` can answer with**: the bundle of the recorded errors, under the location
    if there is one, or else the error of the post-transform -/
theorem finishStruct_err {Q : Err → Prop} {r : SStruct ν} {flattenHere : Bool} {loc : Option String}
    {st : PState ν} {e : Err} (he : finishStruct r flattenHere loc st = .err e)
    (hp : ∀ x ∈ st.errs, Q x) (hmiss : ∀ n, Q (Err.new (.missingField n)))
    (hfl : flattenHere = true → ∀ st1, flattenInit r st = .ok st1 → ∀ x ∈ st1.errs, Q x) :
    (∃ es b, (∀ x ∈ es, Q x) ∧ (Err.bundleErr es : Outcome ν) = .err b ∧
        e = match (generalizing := false) loc with
          | some l => b.at l
          | none => b)
      ∨ ∃ v, r.post v = .err e := by
  cases hs1 : (if flattenHere = true then flattenInit r st else Except.ok st) with
  | error m => rw [finishStruct_error hs1] at he; cases he
  | ok st1 =>
      have h1 : ∀ x ∈ st1.errs, Q x := by
        cases flattenHere with
        | true => exact hfl rfl st1 hs1
        | false => cases hs1; exact hp
      have h2 := checkMissing_errs hmiss r.fields st1 h1
      cases hes : (checkMissing r.fields st1).errs with
      | cons x xs =>
          rw [finishStruct_errs hs1 hes] at he
          rw [hes] at h2
          cases loc with
          | none => exact Or.inl ⟨_, e, h2, he, rfl⟩
          | some l =>
              obtain ⟨b, hb, hbe⟩ := Outcome.mapErr_eq_err he
              exact Or.inl ⟨_, b, h2, hb, hbe⟩
      | nil =>
          rw [finishStruct_clean hs1 hes] at he
          cases hk : initFields r (checkMissing r.fields st1) r.fields with
          | ok kvs => rw [hk] at he; exact Or.inr ⟨_, he⟩
          | err e0 => exact absurd hk (initFields_ne_err r _ _ _)
          | panic m => rw [hk] at he; cases he

/-- everything after the attribute walk: flatten hand-over, missing fields, the bundle (an unspanned
    `multi` node over errors inside `A`, or the single error), its location, the post-transform -/
theorem finishStruct_errsIn {A : Span} (r : SStruct ν) (c : FieldsSpansIn A r) (flattenHere : Bool)
    (loc : Option String) (st : PState ν) (hp : StInv A st) :
    (finishStruct r flattenHere loc st).ErrsIn A := by
  intro e he
  rcases finishStruct_err (Q := (·.AllWithin A)) he hp.1 (fun _ => (unsp_new _).allWithin A)
    (fun _ st1 h1 => flattenInit_errs h1 hp.1 (fun ff hm _ x hx =>
      ⟨c.fromList ff hm st.flat hp.2 x hx, fun thr sc =>
        addSiblingAlts_allWithin A thr sc x (c.fromList ff hm st.flat hp.2 x hx)⟩))
    with ⟨es, b, hes, hb, hbe⟩ | ⟨v, hv⟩
  · have := bundleErr_errsIn (α := ν) hes b hb
    rw [hbe]
    cases loc with
    | none => exact this
    | some l => exact this.at l
  · exact c.post v e hv

/-- **the emitted `from_list` of a named struct**: every span anywhere in the error it returns
    for a well-formed item list inside `A` lies inside `A` -/
theorem struct_fromList_errsIn {A : Span} (r : SStruct ν) (c : FieldsSpansIn A r) (items : List NestedMeta)
    (hi : NestedMeta.spanWFList A items = true) : (Derive.fromList r items).ErrsIn A := by
  unfold Derive.fromList
  cases h : coreLoop r {} items with
  | error m => exact errsIn_panic A m
  | ok st => exact finishStruct_errsIn r c true none st (coreLoop_inv r c items hi {} st (stInv_init A) h)

theorem struct_fromList_allWithin {A : Span} (r : SStruct ν) (c : FieldsSpansIn A r) (items : List NestedMeta)
    (hi : NestedMeta.spanWFList A items = true) (e : Err) (he : Derive.fromList r items = .err e) :
    e.AllWithin A := struct_fromList_errsIn r c items hi e he

theorem structHooks_spansIn_unit (A : Span) (v : ν) (fw : Option (Outcome ν)) (fn : Option ν) :
    (structHooks (.unit v) fw fn).SpansIn A :=
  .of_overrides { word := unsp_ok _ }

theorem structHooks_spansIn_newtype {A : Span} (inner : Hooks ν) (wrap : ν → ν) (hi : inner.SpansIn A)
    (fw : Option (Outcome ν)) (fn : Option ν) : (structHooks (.newtype inner wrap) fw fn).SpansIn A :=
  .of_overrides { meta_ := fun m hwf hA => ((hi.fromMeta m hwf hA).withSpan hA).map _ }

theorem structHooks_spansIn_named {A : Span} (s : SStruct ν) (c : FieldsSpansIn A s)
    (fw : Option (Outcome ν)) (hfw : ∀ r, fw = some r → r.ErrsUnspanned) (fn : Option ν) :
    (structHooks (.named s) fw fn).SpansIn A :=
  .of_overrides { word := .of_forall hfw, list := struct_fromList_errsIn s c }

/-! ### (b) the enum receiver -/

/-- what `enumHooks_spansIn` needs of a variant: the converter of a newtype variant honours the
    contract, the field parser of a struct variant satisfies `FieldsSpansIn` -/
def VariantSpansIn (A : Span) (v : SVariant ν) : Prop :=
  match v.kind with
  | .unit _ => True
  | .newtype fromMeta _ _ => ∀ m : Meta, m.spanWF = true → m.span.within A = true → (fromMeta m).ErrsIn A
  | .struct s => FieldsSpansIn A s

/-- `DataMatchArm` of the selected variant on the (well-formed) item that selected it -/
theorem dataArm_errsIn {A : Span} (v : SVariant ν) (hv : VariantSpansIn A v) (nested : Meta)
    (hwf : nested.spanWF = true) (hA : nested.span.within A = true) : (dataArm v nested).ErrsIn A := by
  unfold dataArm
  unfold VariantSpansIn at hv
  cases hk : v.kind with
  | unit val =>
      simp only []
      cases nested <;> first
        | exact errsIn_ok A _
        | exact errsIn_err ((unsp_unsupportedFormat _).allWithin A)
  | newtype fm fn wrap =>
      rw [hk] at hv
      exact ((hv nested hwf hA).at _).map _
  | struct s =>
      rw [hk] at hv
      simp only [] at hv ⊢
      cases nested with
      | path _ => exact errsIn_err ((unsp_unsupportedFormat _).allWithin A)
      | nameValue _ _ _ _ => exact errsIn_err ((unsp_unsupportedFormat _).allWithin A)
      | list p items bad ts t sp =>
          simp only [Meta.span] at hA
          simp only [Meta.spanWF, Bool.and_eq_true] at hwf
          cases bad with
          | some b =>
              obtain ⟨msg, bs⟩ := b
              exact errsIn_err ((leaf_allWithin _ _ (within_trans hwf.1.2 hA)).at _)
          | none =>
              simp only []
              have hi := nestedWFList_mono hA items hwf.2
              cases h : coreLoop s {} items with
              | error m => exact errsIn_panic A m
              | ok st =>
                  exact finishStruct_errsIn s hv true (some v.name) st
                    (coreLoop_inv s hv items hi {} st (stInv_init A) h)

/-- the emitted `from_list` of an enum: too few / too many items and a bare literal are reported
    without a span, an unknown variant at the item, the rest by the selected variant and then
    spanned with the item that selected it -/
theorem enumFromList_errsIn {A : Span} (e : SEnum ν) (hv : ∀ v ∈ e.variants, VariantSpansIn A v)
    (outer : List NestedMeta) (hi : NestedMeta.spanWFList A outer = true) :
    (enumFromList e outer).ErrsIn A := by
  unfold enumFromList
  split
  · exact errsIn_err ((unsp_new _).allWithin A)
  · rename_i nested
    simp only [NestedMeta.spanWFList, Bool.and_eq_true, Bool.and_true] at hi
    simp only []
    cases ha : e.arm nested.path'.toStr with
    | none =>
        refine errsIn_err (Err.AllWithin.withSpan (Err.Unspanned.allWithin ?_ A) hi.1)
        unfold SEnum.unknownErr
        split <;> rfl
    | some v => exact (dataArm_errsIn v (hv v (List.mem_of_find?_eq_some ha)) nested hi.2 hi.1).withSpan hi.1
  · exact errsIn_err ((unsp_unsupportedFormat _).allWithin A)
  · exact errsIn_err ((unsp_new _).allWithin A)

/-- the emitted `from_string` of an enum returns span-less errors -/
theorem enumFromString_unsp (e : SEnum ν) (lit : String) : (enumFromString e lit).ErrsUnspanned := by
  unfold enumFromString
  cases e.arm lit with
  | none => exact unsp_err (unsp_unknownValue _)
  | some v =>
      simp only []
      cases v.kind with
      | unit val => exact unsp_ok _
      | newtype fm fn wrap =>
          cases fn with
          | some x => exact unsp_ok _
          | none => exact unsp_err (unsp_unsupportedFormat _)
      | struct s => exact unsp_err (unsp_unsupportedFormat _)

theorem enumHooks_spansIn {A : Span} (e : SEnum ν) (hv : ∀ v ∈ e.variants, VariantSpansIn A v)
    (hw : ∀ r, e.fromWord = some r → r.ErrsUnspanned) : (enumHooks e).SpansIn A :=
  .of_overrides { word := .of_forall hw, list := enumFromList_errsIn e hv, string := enumFromString_unsp e }

/-! ### (c) the receivers of a corpus -/

/-! the harness's custom functions: their own errors are span-less by construction -/

theorem customWith_errsIn {A : Span} (o : Oracle) (rh : String → Hooks Val) (w : String) (f : Meta → Outcome Val)
    (h : Env.customWith o rh w = some f) (hr : ∀ n, (rh n).SpansIn A) :
    ∀ m : Meta, m.spanWF = true → m.span.within A = true → (f m).ErrsIn A := by
  have hb : ∀ t : Ty, t.usesArr = false → (hooksOf o rh t).SpansIn A :=
    fun t ht => hooksOf_spansIn' o rh A hr t (fun h' => by rw [ht] at h'; cases h')
  unfold Env.customWith at h
  simp only [] at h
  split at h
  · -- `with_u8_plus1`: the `u8` conversion, mapped
    cases h
    intro m hwf hA
    exact ((hb _ rfl).fromMeta m hwf hA).map _
  · -- `with_upper`: the `String` conversion, mapped
    cases h
    intro m hwf hA
    exact ((hb _ rfl).fromMeta m hwf hA).map _
  · -- `with_upper` written as a closure
    cases h
    intro m hwf hA
    exact ((hb _ rfl).fromMeta m hwf hA).map _
  · -- `with_fail`: a custom error, made without a span
    cases h
    intro m _ _
    exact errsIn_err ((unsp_custom _).allWithin A)
  · cases h

theorem customPost_unsp (p : Post) (t : Ty) (g : Val → Outcome Val)
    (h : Env.customPost p = some (t, g)) : ∀ v, (g v).ErrsUnspanned := by
  unfold Env.customPost at h
  split at h
  · -- `map_inc` does not fail
    cases h
    intro v
    simp only []
    split
    · exact unsp_ok _
    · exact unsp_ok _
  · -- `map_len` does not fail
    cases h
    intro v
    simp only []
    split
    · exact unsp_ok _
    · exact unsp_ok _
  · -- `nonzero` fails with a custom error, made without a span
    cases h
    intro v
    simp only []
    split
    · exact unsp_err (unsp_custom _)
    · exact unsp_ok _
  · cases h
  · cases h

/-- the `base` converter inside `Env.semField`: the field's `with` function if the harness knows it,
    else the conversion of the source type -/
theorem semField_base_errsIn {A : Span} (o : Oracle) (rh : String → Hooks Val) (hr : ∀ n, (rh n).SpansIn A)
    (ho : OracleArrWithin o A) (w : Option String) (ty : Ty) (m : Meta) (hwf : m.spanWF = true)
    (hA : m.span.within A = true) :
    ((match w.bind (Env.customWith o rh) with
      | some w => w
      | none => (hooksOf o rh ty).fromMeta) m).ErrsIn A := by
  cases hw : w.bind (Env.customWith o rh) with
  | none => exact (hooksOf_spansIn o rh A hr ho ty).fromMeta m hwf hA
  | some f =>
      cases w with
      | none => cases hw
      | some s => exact customWith_errsIn o rh s f hw hr m hwf hA

theorem semField_conv_errsIn {A : Span} (env : Env.T) (rh : String → Hooks Val) (hr : ∀ n, (rh n).SpansIn A)
    (ho : OracleArrWithin env.oracle A) (f : RField) (m : Meta) (hwf : m.spanWF = true)
    (hA : m.span.within A = true) : ((Env.semField env rh f).conv m).ErrsIn A := by
  simp only [Env.semField]
  cases hp : f.post with
  | none => exact semField_base_errsIn _ rh hr ho _ _ m hwf hA
  | some p =>
      cases hq : Env.customPost p with
      | none =>
          simp only [Option.bind_some, hq]
          exact semField_base_errsIn _ rh hr ho _ _ m hwf hA
      | some tg =>
          obtain ⟨t, g⟩ := tg
          simp only [Option.bind_some, hq]
          have hbind := fun ty => (semField_base_errsIn _ rh hr ho f.with_ ty m hwf hA).bind g
            (fun v => (customPost_unsp p t g hq v).errsIn A)
          -- `map` and `and_then` are both `bind` in the model
          rw [ite_self]
          exact hbind _

theorem semField_fromList_errsIn {A : Span} (env : Env.T) (rh : String → Hooks Val) (hr : ∀ n, (rh n).SpansIn A)
    (ho : OracleArrWithin env.oracle A) (f : RField) (items : List NestedMeta)
    (hi : NestedMeta.spanWFList A items = true) : ((Env.semField env rh f).fromList items).ErrsIn A :=
  (hooksOf_spansIn env.oracle rh A hr ho f.ty).fromList items hi

/-- the struct parser assembled for a derived receiver satisfies the field contract -/
theorem semStruct_fieldsSpansIn {A : Span} (env : Env.T) (rh : String → Hooks Val) (hr : ∀ n, (rh n).SpansIn A)
    (ho : OracleArrWithin env.oracle A) (core : RCore) (fields : List RField)
    (build : List (String × Val) → Val) : FieldsSpansIn A (Env.semStruct env rh core fields build) := by
  have hmem : ∀ sf ∈ (Env.semStruct env rh core fields build).fields, ∃ f, sf = Env.semField env rh f :=
    fun sf hsf => (List.mem_map.mp hsf).imp fun _ h => h.2.symm
  constructor
  · intro sf hsf
    obtain ⟨f, rfl⟩ := hmem sf hsf
    exact semField_conv_errsIn env rh hr ho f
  · intro sf hsf
    obtain ⟨f, rfl⟩ := hmem sf hsf
    exact semField_fromList_errsIn env rh hr ho f
  · intro v
    show (Outcome.ErrsIn A _)
    simp only [Env.semStruct]
    cases hp : core.post.bind Env.customPost with
    | none => exact errsIn_ok A _
    | some tg =>
        obtain ⟨t, g⟩ := tg
        cases hcp : core.post with
        | none => rw [hcp] at hp; cases hp
        | some p => rw [hcp] at hp; exact (customPost_unsp p t g hp v).errsIn A

theorem optionMap_unsp {α ν : Type} (fw : Option α) (g : α → Outcome ν) (hg : ∀ a, (g a).ErrsUnspanned) :
    ∀ x, fw.map g = some x → x.ErrsUnspanned := by
  intro x hx
  cases fw with
  | none => cases hx
  | some a => simp only [Option.map_some, Option.some.injEq] at hx; subst hx; exact hg a

/-- the assembled hooks of any `FromMeta` receiver the derive model produces -/
theorem fromMetaHooks_spansIn {A : Span} (env : Env.T) (rh : String → Hooks Val) (hr : ∀ n, (rh n).SpansIn A)
    (ho : OracleArrWithin env.oracle A) (r : RFromMeta) : (Env.fromMetaHooks env rh r).SpansIn A := by
  unfold Env.fromMetaHooks
  simp only []
  have hfw : ∀ (a : Sum String String), (match a with
      | .inl c => (match env.oracle.val? ("fn:" ++ c) with
          | some v => Outcome.ok v
          | none => .err (Err.custom ("unknown from_word callable " ++ c)))
      | .inr variant => .ok (.variant r.base.ident variant .unit) : Outcome Val).ErrsUnspanned := by
    intro a
    cases a with
    | inl c =>
        simp only []
        split
        · exact unsp_ok _
        · exact unsp_err (unsp_custom _)
    | inr v => exact unsp_ok _
  cases hd : r.base.data with
  | struct style fields =>
      have named := structHooks_spansIn_named _
        (semStruct_fieldsSpansIn env rh hr ho r.base fields (fun kvs => .record r.base.ident kvs))
        _ (optionMap_unsp r.fromWord _ hfw) (r.fromNone.bind (fun c => env.oracle.val? ("fn:" ++ c)))
      cases style with
      | unit => exact structHooks_spansIn_unit A _ _ _
      | named => exact named
      | tuple =>
          cases fields with
          | nil => exact named
          | cons f rest =>
              cases rest with
              | nil => exact structHooks_spansIn_newtype _ _ (hooksOf_spansIn _ rh A hr ho _) _ _
              | cons g rest => exact named
  | enum variants =>
      refine enumHooks_spansIn _ ?_ (optionMap_unsp r.fromWord _ hfw)
      intro sv hsv
      simp only [List.mem_map] at hsv
      obtain ⟨rv, _, rfl⟩ := hsv
      have strct : ∀ fs (c : RCore) (b : List (String × Val) → Val),
          FieldsSpansIn A (Env.semStruct env rh c fs b) :=
        fun fs c b => semStruct_fieldsSpansIn env rh hr ho c fs b
      unfold VariantSpansIn
      simp only []
      cases hs : rv.style with
      | unit => trivial
      | named => exact strct _ _ _
      | tuple =>
          cases hf : rv.fields with
          | nil => exact strct _ _ _
          | cons f rest =>
              cases rest with
              | nil => intro m hwf hA; exact (hooksOf_spansIn _ rh A hr ho _).fromMeta m hwf hA
              | cons g rest => exact strct _ _ _

/-- **every receiver of every corpus honours the span contract, at every nesting depth** -/
theorem recvHooksF_spansIn (env : Env.T) (A : Span) (ho : OracleArrWithin env.oracle A) :
    ∀ (fuel : Nat) (name : String), (Env.recvHooksF fuel env name).SpansIn A
  | 0, _ => by simp only [Env.recvHooksF]; exact empty_spansIn A
  | fuel + 1, name => by
      simp only [Env.recvHooksF]
      cases hf : env.decls.find? (·.1 == name) with
      | none => exact empty_spansIn A
      | some x =>
          obtain ⟨n, t, d, sp⟩ := x
          simp only []
          cases hd : Options.derive t env.oracle (fun _ => none) sp d with
          | err e => exact empty_spansIn A
          | panic m => exact empty_spansIn A
          | ok dv =>
              cases dv with
              | outer r => exact empty_spansIn A
              | fromMeta r =>
                  exact fromMetaHooks_spansIn env _ (fun n => recvHooksF_spansIn env A ho fuel n) ho r

theorem recvHooks_spansIn (env : Env.T) (A : Span) (ho : OracleArrWithin env.oracle A) (name : String) :
    (Env.recvHooks env name).SpansIn A :=
  recvHooksF_spansIn env A ho _ name

/-- **C03 for `FromMeta` receivers**: every span anywhere in the error the generated `from_meta` of
    any receiver of any corpus returns for a well-formed item lies inside that item -/
theorem recv_allWithin (env : Env.T) (name : String) (m : Meta) (hwf : m.spanWF = true)
    (ho : OracleArrWithin env.oracle m.span) (e : Err)
    (he : (Env.recvHooks env name).fromMeta m = .err e) : e.AllWithin m.span :=
  (recvHooks_spansIn env m.span ho name).fromMeta m hwf (within_refl _) e he

theorem recv_nested_allWithin (env : Env.T) (name : String) (n : NestedMeta) (hwf : n.spanWF = true)
    (ho : OracleArrWithin env.oracle n.span) (e : Err)
    (he : (Env.recvHooks env name).fromNestedMeta n = .err e) : e.AllWithin n.span :=
  (recvHooks_spansIn env n.span ho name).fromNestedMeta n hwf (within_refl _) e he

/-- the `from_list` entry point, inside any hull that contains the (well-formed) items -/
theorem recv_fromList_allWithin (env : Env.T) (name : String) (items : List NestedMeta) (hull : Span)
    (hi : NestedMeta.spanWFList hull items = true) (ho : OracleArrWithin env.oracle hull) (e : Err)
    (he : (Env.recvHooks env name).fromList items = .err e) : e.AllWithin hull :=
  (recvHooks_spansIn env hull ho name).fromList items hi e he

/-- **C03 for every target type over a corpus** (built-in conversions, wrappers and maps over the
    corpus's receivers, to any depth): no hypothesis about receivers is left -/
theorem corpus_spansIn (env : Env.T) (A : Span) (ho : OracleArrWithin env.oracle A) (t : Ty) :
    (hooksOf env.oracle (Env.recvHooks env) t).SpansIn A :=
  hooksOf_spansIn env.oracle _ A (recvHooks_spansIn env A ho) ho t

theorem corpus_allWithin (env : Env.T) (t : Ty) (m : Meta) (hwf : m.spanWF = true)
    (ho : OracleArrWithin env.oracle m.span) (e : Err)
    (he : (hooksOf env.oracle (Env.recvHooks env) t).fromMeta m = .err e) : e.AllWithin m.span :=
  (corpus_spansIn env m.span ho t).fromMeta m hwf (within_refl _) e he

/-- … in the shape of the converter contract `ConvSpans` -/
theorem corpus_convSpans (env : Env.T) (t : Ty) (m : Meta) (hwf : m.spanWF = true)
    (ho : OracleArrWithin env.oracle m.span) (e : Err)
    (he : (hooksOf env.oracle (Env.recvHooks env) t).fromMeta m = .err e) :
    ∀ sp, e.span = some sp → sp.within m.span = true :=
  (corpus_allWithin env t m hwf ho e he).span

/-! ### non-vacuity -/

private def fld (n : String) (t : Ty) : FieldD := { ident := some n, ty := t, tyToks := "", vis := "", attrs := [] }

/-- the corpus
    `#[derive(FromMeta)] struct R { a: bool, inner: E }`,
    `#[derive(FromMeta)] enum E { Unit, St { x: u8 } }` -/
private def exEnv : Env.T :=
  { decls := [
      ("R", .fromMeta,
        { ident := "R", attrs := [], body := .struct .named [fld "a" .bool, fld "inner" (.recv "E")] }, {}),
      ("E", .fromMeta,
        { ident := "E", attrs := [], body := .enum [
            { ident := "Unit", style := .unit, fields := [], attrs := [], discriminant := none },
            { ident := "St", style := .named, fields := [fld "x" (.int ⟨"u8", false, 8, false⟩)],
              attrs := [], discriminant := none }] }, {})],
    oracle := {}, thr := 0 }

private def pth (n : String) (lo hi : Nat) : Path :=
  { global := false, segs := [n], plain := true, toks := n, span := ⟨lo, hi⟩ }

/-- `r(a = 1, inner(st(x = "q", y)))`, the value of `x` ending at `xHi` -/
private def mRx (xHi : Nat) : Meta :=
  .list (pth "r" 0 1)
    [.item (.nameValue (pth "a" 2 3) (.lit ⟨.int "1" "", "1", ⟨6, 7⟩⟩) "a = 1" ⟨2, 7⟩),
     .item (.list (pth "inner" 9 14)
        [.item (.list (pth "st" 15 17)
            [.item (.nameValue (pth "x" 18 19) (.lit ⟨.str "q", "\"q\"", ⟨22, xHi⟩⟩) "x = \"q\"" ⟨18, 25⟩),
             .item (.path (pth "y" 27 28))]
            none (some ⟨18, 28⟩) "x = \"q\", y" ⟨15, 29⟩)]
        none (some ⟨15, 29⟩) "st(x = \"q\", y)" ⟨9, 30⟩)]
    none (some ⟨2, 30⟩) "a = 1, inner(st(x = \"q\", y))" ⟨0, 31⟩

private def mR : Meta := mRx 25

private theorem mRx_err (xHi : Nat) : (Env.recvHooks exEnv "R").fromMeta (mRx xHi) = .err
    (.multi [.leaf (.unexpectedType "int") ["a"] (some ⟨6, 7⟩),
      .multi [.leaf (.unknownValue "q") ["x"] (some ⟨22, xHi⟩), .leaf (.unknownField "y" none) [] (some ⟨27, 28⟩)]
        ["inner", "st"] (some ⟨15, 29⟩)] [] (some ⟨0, 31⟩)) := by rfl

example : mR.spanWF = true := by decide
example : (mRx 40).spanWF = false := by decide

/-- three mistakes at three nesting levels (wrong literal type 6..7, bad integer 22..25, unknown
    field 27..28 inside a bundle spanned with the nested item 9..30, the whole spanned with the
    item 0..31): every span lies inside the item -/
example : ∃ e, (Env.recvHooks exEnv "R").fromMeta mR = .err e
    ∧ e.allWithin mR.span = true ∧ e.len = 3 ∧ e.unspanned = false :=
  ⟨_, mRx_err 25, by decide, by decide, by decide⟩

/-- … as an instance of the theorem -/
example (e : Err) (he : (Env.recvHooks exEnv "R").fromMeta mR = .err e) : e.AllWithin mR.span :=
  recv_allWithin exEnv "R" mR (by decide) (oracle_arrsWithin (by decide)) e he

/-- … and through a wrapper over the receiver -/
example (e : Err)
    (he : (hooksOf exEnv.oracle (Env.recvHooks exEnv) (.option (.recv "R"))).fromMeta mR = .err e) :
    e.AllWithin mR.span :=
  corpus_allWithin exEnv _ mR (by decide) (oracle_arrsWithin (by decide)) e he

/-- well-formedness is needed: on the ill-formed item a span sticks out -/
example : ∃ e, (Env.recvHooks exEnv "R").fromMeta (mRx 40) = .err e
    ∧ e.allWithin (mRx 40).span = false :=
  ⟨_, mRx_err 40, by decide⟩

end C03
