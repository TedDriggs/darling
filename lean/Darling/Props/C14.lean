import Darling.FromMeta.Maps
import Darling.Spec.C14
import Darling.Lemmas.Error
/-
  C14 — Keyed collections: all distinct keys kept, every repeat and bad entry reported.
  For every key kind, every element implementor `h` that does not panic, and every item list
  (any length, any repetition pattern).
-/
open Maps Spec.C14

namespace C14
variable {α : Type}

/-- the element type's verdict on an item, located under the item's name -/
def conv (h : Hooks α) (m : Meta) : Except Err α :=
  match (h.fromMeta m).mapErr (·.at m.path'.toStr) with
  | .ok v => .ok v
  | .err e => .error e
  | .panic _ => .error (Err.custom "unreachable: element conversion panicked")

/-- the error `map!` pushes for a repeated key: names the key, points at the repeated name -/
def dupErr (k : KeyKind) (key : String) (p : Path) : Err :=
  (Err.new (.duplicateField (keyDisplay k key p))).withSpan p.span

def NoPanic (h : Hooks α) : Prop := ∀ m msg, h.fromMeta m ≠ .panic msg

/-- entries actually inserted: named, key converts, value converts, key not seen before -/
def inserted (k : KeyKind) (h : Hooks α) : List NestedMeta → List NestedMeta → List (String × α)
  | _, [] => []
  | earlier, it :: rest =>
      (match it with
       | .item m => (match keyOf k m.path', conv h m with
           | .ok key, .ok v => if repeated (keyOf k) earlier key then [] else [(key, v)]
           | _, _ => [])
       | .lit _ => []) ++ inserted k h (earlier ++ [it]) rest

theorem conv_ok {h : Hooks α} {m : Meta} {v : α} (hv : h.fromMeta m = .ok v) : conv h m = .ok v := by
  simp only [conv, hv, Outcome.mapErr]

theorem conv_err {h : Hooks α} {m : Meta} {e : Err} (hv : h.fromMeta m = .err e) :
    conv h m = .error (e.at m.path'.toStr) := by
  simp only [conv, hv, Outcome.mapErr]

/-! `Maps.step` on a named item, one equation per branch: by whether the key converts (`keyOf`) and
    by the element type's verdict on the item (`h.fromMeta`).  Proofs about the loop, here and in
    `C14Spec`, go through these and never unfold `step`. -/
section step
variable (k : KeyKind) {h : Hooks α} (s : St α) {m : Meta}

theorem step_panic {msg : String} (hv : h.fromMeta m = .panic msg) :
    step k h s (.item m) = .panic msg := by
  simp only [step, hv, Outcome.mapErr]

theorem step_badKey_ok {ke : Err} {v : α} (hk : keyOf k m.path' = .error ke) (hv : h.fromMeta m = .ok v) :
    step k h s (.item m) = .cont { s with errs := s.errs ++ [ke] } := by
  simp only [step, hv, hk, Outcome.mapErr]

theorem step_badKey_err {ke e : Err} (hk : keyOf k m.path' = .error ke) (hv : h.fromMeta m = .err e) :
    step k h s (.item m) = .cont { s with errs := s.errs ++ [ke] ++ [e.at m.path'.toStr] } := by
  simp only [step, hv, hk, Outcome.mapErr]

theorem step_key_ok {key : String} {v : α} (hk : keyOf k m.path' = .ok key) (hv : h.fromMeta m = .ok v) :
    step k h s (.item m) = .cont
      { errs := s.errs ++ (if s.seen.contains key then [dupErr k key m.path'] else [])
        seen := s.seen ++ [key]
        map := s.map ++ (if s.seen.contains key then [] else [(key, v)]) } := by
  simp only [step, hv, hk, Outcome.mapErr]
  cases s.seen.contains key <;> simp only [Bool.false_eq_true, if_false, if_true, List.append_nil, dupErr]

theorem step_key_err {key : String} {e : Err} (hk : keyOf k m.path' = .ok key) (hv : h.fromMeta m = .err e) :
    step k h s (.item m) = .cont
      { errs := s.errs ++ (if s.seen.contains key then [dupErr k key m.path'] else []) ++ [e.at m.path'.toStr]
        seen := s.seen ++ [key]
        map := s.map } := by
  simp only [step, hv, hk, Outcome.mapErr]
  cases s.seen.contains key <;> simp only [Bool.false_eq_true, if_false, if_true, List.append_nil, dupErr]

end step

theorem repeated_append (key? : Path → Except Err String) (a b : List NestedMeta) (x : String) :
    repeated key? (a ++ b) x = (repeated key? a x || repeated key? b x) := by
  simp only [repeated, List.any_append]

theorem repeated_lit (key? : Path → Except Err String) (l : Lit) (x : String) :
    repeated key? [.lit l] x = false := by
  simp only [repeated, nameOf?, List.any_cons, List.any_nil, Bool.or_false]

theorem repeated_item_ok {key? : Path → Except Err String} {m : Meta} {key : String}
    (hk : key? m.path' = .ok key) (x : String) : repeated key? [.item m] x = (key == x) := by
  simp only [repeated, nameOf?, hk, List.any_cons, List.any_nil, Bool.or_false]

theorem repeated_item_error {key? : Path → Except Err String} {m : Meta} {ke : Err}
    (hk : key? m.path' = .error ke) (x : String) : repeated key? [.item m] x = false := by
  simp only [repeated, nameOf?, hk, List.any_cons, List.any_nil, Bool.or_false]

theorem inserted_cons (k : KeyKind) (h : Hooks α) (earlier : List NestedMeta) (it : NestedMeta) (rest : List NestedMeta) :
    inserted k h earlier (it :: rest) = inserted k h earlier [it] ++ inserted k h (earlier ++ [it]) rest := by
  simp only [inserted, List.append_nil]

theorem step_spec (k : KeyKind) (h : Hooks α) (hnp : NoPanic h) (earlier : List NestedMeta) (it : NestedMeta)
    (s : St α) (hseen : ∀ x, s.seen.contains x = repeated (keyOf k) earlier x) :
    ∃ s', step k h s it = .cont s'
      ∧ s'.errs = s.errs ++ itemMistakes (keyOf k) (dupErr k) (conv h) earlier it
      ∧ s'.map = s.map ++ inserted k h earlier [it]
      ∧ ∀ x, s'.seen.contains x = repeated (keyOf k) (earlier ++ [it]) x := by
  cases it with
  | lit l =>
      refine ⟨_, rfl, rfl, (List.append_nil _).symm, fun x => ?_⟩
      rw [repeated_append, repeated_lit, Bool.or_false]; exact hseen x
  | item m =>
      cases hk : keyOf k m.path' with
      | error ke =>
          have hs' : ∀ x, s.seen.contains x = repeated (keyOf k) (earlier ++ [.item m]) x := fun x => by
            rw [repeated_append, repeated_item_error hk, Bool.or_false]; exact hseen x
          cases hv : h.fromMeta m with
          | panic msg => exact absurd hv (hnp m msg)
          | ok v =>
              refine ⟨_, step_badKey_ok k s hk hv, ?_, ?_, hs'⟩
              · simp only [itemMistakes, hk, conv_ok hv]
              · simp only [inserted, hk, List.append_nil]
          | err e =>
              refine ⟨_, step_badKey_err k s hk hv, ?_, ?_, hs'⟩
              · simp only [itemMistakes, hk, conv_err hv, List.append_assoc, List.cons_append, List.nil_append]
              · simp only [inserted, hk, List.append_nil]
      | ok key =>
          have hs' : ∀ x, (s.seen ++ [key]).contains x = repeated (keyOf k) (earlier ++ [.item m]) x := fun x => by
            rw [repeated_append, repeated_item_ok hk, List.contains_append, hseen, List.contains_cons,
              List.contains_nil, Bool.or_false, BEq.comm]
          cases hv : h.fromMeta m with
          | panic msg => exact absurd hv (hnp m msg)
          | ok v =>
              refine ⟨_, step_key_ok k s hk hv, ?_, ?_, hs'⟩
              · simp only [itemMistakes, hk, conv_ok hv, hseen, List.append_nil]
              · simp only [inserted, hk, conv_ok hv, hseen, List.append_nil]
          | err e =>
              refine ⟨_, step_key_err k s hk hv, ?_, ?_, hs'⟩
              · simp only [itemMistakes, hk, conv_err hv, hseen, List.append_assoc]
              · simp only [inserted, hk, conv_err hv, List.append_nil]

/-- the loop invariant, generalised over the state reached after `earlier` -/
theorem loop_spec (k : KeyKind) (h : Hooks α) (hnp : NoPanic h) :
    ∀ (rest earlier : List NestedMeta) (s : St α),
      (∀ x, s.seen.contains x = repeated (keyOf k) earlier x) →
      ∃ s', loop k h s rest = .cont s'
        ∧ s'.errs = s.errs ++ mistakes (keyOf k) (dupErr k) (conv h) earlier rest
        ∧ s'.map = s.map ++ inserted k h earlier rest := by
  intro rest
  induction rest with
  | nil => exact fun earlier s _ => ⟨s, rfl, (List.append_nil _).symm, (List.append_nil _).symm⟩
  | cons it rest ih =>
      intro earlier s hseen
      obtain ⟨s₁, hst, he₁, hm₁, hseen₁⟩ := step_spec k h hnp earlier it s hseen
      obtain ⟨s', hl, he, hm⟩ := ih (earlier ++ [it]) s₁ hseen₁
      refine ⟨s', by simp only [loop, hst, hl], ?_, ?_⟩
      · rw [he, he₁, List.append_assoc]; rfl
      · rw [hm, hm₁, List.append_assoc, ← inserted_cons]

/-- a mistake-free list inserts exactly one entry per item -/
theorem inserted_eq_entries (k : KeyKind) (h : Hooks α) :
    ∀ (rest earlier : List NestedMeta),
      mistakes (keyOf k) (dupErr k) (conv h) earlier rest = [] →
      inserted k h earlier rest = entries (keyOf k) (conv h) rest ∧ (entries (keyOf k) (conv h) rest).length = rest.length := by
  intro rest
  induction rest with
  | nil => exact fun _ _ => ⟨rfl, rfl⟩
  | cons it rest ih =>
      intro earlier hm
      obtain ⟨hi, hr⟩ := List.append_eq_nil_iff.1 hm
      obtain ⟨ih1, ih2⟩ := ih _ hr
      cases it with
      | lit l => cases hi
      | item m =>
          simp only [itemMistakes] at hi
          cases hk : keyOf k m.path' with
          | error ke => simp only [hk, reduceCtorEq] at hi
          | ok key =>
              cases hc : conv h m with
              | error e => simp [hk, hc] at hi
              | ok v =>
                  -- no mistake at this item: its key is not one seen earlier
                  have hrep : repeated (keyOf k) earlier key = false := by
                    simpa [hk, hc] using hi
                  have hent : entries (keyOf k) (conv h) (.item m :: rest) =
                      (key, v) :: entries (keyOf k) (conv h) rest := by
                    simp only [entries, hk, hc, List.singleton_append]
                  constructor
                  · rw [inserted_cons, ih1, hent]
                    simp only [inserted, hk, hc, hrep, Bool.false_eq_true, if_false, List.append_nil,
                      List.singleton_append]
                  · rw [hent, List.length_cons, List.length_cons, ih2]

/-- **C14.**  The conversion returns `entries` (one entry per item) if `mistakes = []`, and
    otherwise the bundle of the mistakes, in item order.  What `= []` means for the list — every
    item named, keys pairwise distinct after conversion, every value accepted — is
    `clean_iff_acceptable` with `expected_eq_mistakes`, both in `C14Spec`. -/
theorem fromList_spec (k : KeyKind) (h : Hooks α) (hnp : NoPanic h) (items : List NestedMeta) :
    fromList k h items =
      (let ms := mistakes (keyOf k) (dupErr k) (conv h) [] items
       if ms.isEmpty then .ok (entries (keyOf k) (conv h) items)
       else Err.bundleErr ms) := by
  obtain ⟨s', hl, he, hm⟩ := loop_spec k h hnp items [] {} (fun _ => rfl)
  have he' : s'.errs = mistakes (keyOf k) (dupErr k) (conv h) [] items := he
  have hm' : s'.map = inserted k h [] items := hm
  simp only [fromList, hl, he', hm']
  cases hms : mistakes (keyOf k) (dupErr k) (conv h) [] items with
  | nil => rw [(inserted_eq_entries k h items [] hms).1]
  | cons e es => rfl

/-- `ok_length` in `C14Spec` reaches the same conclusion without `hnp` -/
theorem ok_has_one_entry_per_item (k : KeyKind) (h : Hooks α) (hnp : NoPanic h) (items : List NestedMeta)
    (kvs : List (String × α)) (hok : fromList k h items = .ok kvs) : kvs.length = items.length := by
  rw [fromList_spec k h hnp] at hok
  cases hms : mistakes (keyOf k) (dupErr k) (conv h) [] items with
  | nil =>
      simp only [hms, List.isEmpty_nil, if_true, Outcome.ok.injEq] at hok
      rw [← hok]; exact (inserted_eq_entries k h items [] hms).2
  | cons e es =>
      obtain ⟨e', he', _⟩ := Err.bundleErr_of_ne_nil (α := List (String × α)) (List.cons_ne_nil e es)
      simp only [hms, List.isEmpty_cons, Bool.false_eq_true, if_false, he', reduceCtorEq] at hok

/-- never a panic: `Error::multiple` is only called with at least one error -/
theorem never_panics (k : KeyKind) (h : Hooks α) (hnp : NoPanic h) (items : List NestedMeta) (msg : String) :
    fromList k h items ≠ .panic msg := by
  rw [fromList_spec k h hnp]
  cases hms : mistakes (keyOf k) (dupErr k) (conv h) [] items with
  | nil => exact fun hc => nomatch hc
  | cons e es =>
      obtain ⟨e', he', _⟩ := Err.bundleErr_of_ne_nil (α := List (String × α)) (List.cons_ne_nil e es)
      simp only [List.isEmpty_cons, Bool.false_eq_true, if_false, he', ne_eq, reduceCtorEq, not_false_eq_true]

/-- the model has a single `fromList` for hash and ordered maps, so on the model their agreement
    is this reflexivity and says nothing more; that `hooksOf` does not consult the `ordered` flag
    is `hash_ordered_same` in `C14Spec` -/
theorem hash_and_ordered_agree (k : KeyKind) (h : Hooks α) (items : List NestedMeta) :
    fromList k h items = fromList k h items := rfl

end C14
