import Darling.Props.C15
import Darling.Props.C15a
/-
  C15 — an independent, positional specification written from the property text, and the
  end-to-end theorems `model = specification`.

  Part A (splitting)   `CommaSeparatedFrom` says what a comma-separated list of literals and
                       meta items is, by the token ranges its elements occupy; the model returns
                       `items` iff the stream is such a list of exactly these elements (hypothesis
                       `OracleSane` for "only if").
  Part B (round trip)  printing = the stream without its trailing comma; re-parsing it gives the
                       same elements IF syn's parsers answer as before at every element start.
                       They do not for `a = -1,` (DISCREPANCY 1, finding F28: `Expr::Unary` before,
                       `Expr::Lit` after).
  Part C (routing)     `selected`: the routing table, a function of (override subset, form);
                       `from_nested_meta` = outcome of that one hook (or the documented default),
                       with the precisely specified span.  Against the statement's wording "the
                       item's span": for `name = literal` it is the literal's span (DISCREPANCY 2).
-/
namespace C15
open ParseList

/-! ## Part A — what a comma-separated list of literals and meta items *is* -/
section Split
variable (toks : List Tok) (o : SynOracle)

/-- token `i` is an identifier (any: keywords and raw identifiers included) -/
def IdentAt (i : Nat) : Prop := ∃ w sp, toks[i]? = some ⟨.ident w, sp⟩
/-- token `i` is the identifier `w` -/
def WordAt (i : Nat) (w : String) : Prop := ∃ sp, toks[i]? = some ⟨.ident w, sp⟩
/-- token `i` is the punctuation character `c` -/
def PunctAt (i : Nat) (c : Char) : Prop := ∃ jt sp, toks[i]? = some ⟨.punct c jt, sp⟩
/-- tokens `i`, `i+1` spell `::` (two colons, the first glued to the second) -/
def PathSepAt (i : Nat) : Prop := (∃ sp, toks[i]? = some ⟨.punct ':' true, sp⟩) ∧ PunctAt toks (i + 1) ':'
/-- `true = …` / `false = …`: the word is the *name* of a name-value item, not a literal -/
def BoolNameAt (i : Nat) : Prop := (WordAt toks i "true" ∨ WordAt toks i "false") ∧ PunctAt toks (i + 1) '='
/-- a literal stands at `i`: syn reads one there, and it is not `true`/`false` used as a name
    ("`true` alone is a literal") -/
def LiteralAt (i : Nat) : Prop := (o.lit i).isSome = true ∧ ¬ BoolNameAt toks i
/-- a path starts at `i`: an identifier — keyword or not — or `::` followed by one -/
def PathStartAt (i : Nat) : Prop := IdentAt toks i ∨ (PathSepAt toks i ∧ IdentAt toks (i + 2))

/-- tokens `[i, j)` are one list element `it`: a literal (what syn's `Lit` parser reads there),
    or else a meta item (what syn's `Meta` parser reads there, at the start of a path);
    an element occupies at least one token -/
inductive Reads : Nat → Nat → Item → Prop where
  | literal {i len : Nat} {s : String} :
      LiteralAt toks o i → o.lit i = some (len, s) → 0 < len → Reads i (i + len) (.lit s)
  | item {i len : Nat} {s : String} :
      ¬ LiteralAt toks o i → PathStartAt toks i → o.meta_ i = .ok (len, s) → 0 < len → Reads i (i + len) (.item s)

/-- **the specification of clause (a)**: `bounds[k] = (a, b)` says element `k` occupies tokens
    `[a, b)`.  The first element starts at `start` (0 for the whole stream), neighbours are
    separated by exactly one comma, after the last element the stream ends, possibly after one
    more comma; no elements only for the empty stream. -/
structure CommaSeparatedFrom (start : Nat) (items : List Item) (bounds : List (Nat × Nat)) : Prop where
  same_len : bounds.length = items.length
  reads : ∀ (k a b : Nat) (it : Item), bounds[k]? = some (a, b) → items[k]? = some it → Reads toks o a b it
  first : ∀ (a b : Nat), bounds[0]? = some (a, b) → a = start
  sep : ∀ (k a b a' b' : Nat), bounds[k]? = some (a, b) → bounds[k + 1]? = some (a', b') → PunctAt toks b ',' ∧ a' = b + 1
  last : ∀ (a b : Nat), bounds.getLast? = some (a, b) → b = toks.length ∨ (PunctAt toks b ',' ∧ b + 1 = toks.length)
  empty : bounds = [] → toks.length ≤ start

/-- syn's parsers consume at least one token and stay inside the stream -/
def OracleSane : Prop :=
  (∀ i len s, o.lit i = some (len, s) → 0 < len ∧ i + len ≤ toks.length) ∧
  (∀ i len s, o.meta_ i = .ok (len, s) → 0 < len ∧ i + len ≤ toks.length)

/-! ### the token predicates are what the model's look-ahead tests -/

theorem isAnyIdent_iff (i : Nat) : isAnyIdent toks i = true ↔ IdentAt toks i := by
  unfold isAnyIdent
  split
  next h => exact iff_of_true rfl ⟨_, _, h⟩
  next hn => exact iff_of_false Bool.false_ne_true fun ⟨w, sp, h⟩ => hn w sp h

theorem isBoolIdent_iff (i : Nat) : isBoolIdent toks i = true ↔ (WordAt toks i "true" ∨ WordAt toks i "false") := by
  unfold isBoolIdent
  split
  next n sp h => simp [WordAt, show toks[i]? = _ from h]
  next hn => exact iff_of_false Bool.false_ne_true fun h => h.elim (fun ⟨sp, h⟩ => hn _ sp h) (fun ⟨sp, h⟩ => hn _ sp h)

theorem isEq_iff (i : Nat) : isEq toks i = true ↔ PunctAt toks i '=' := by
  unfold isEq
  split
  next h => exact iff_of_true rfl ⟨_, _, h⟩
  next hn => exact iff_of_false Bool.false_ne_true fun ⟨jt, sp, h⟩ => hn jt sp h

theorem isComma_iff (i : Nat) : isComma toks i = true ↔ PunctAt toks i ',' := by
  unfold isComma
  split
  next h => exact iff_of_true rfl ⟨_, _, h⟩
  next hn => exact iff_of_false Bool.false_ne_true fun ⟨jt, sp, h⟩ => hn jt sp h

theorem isColon2_iff (i : Nat) : isColon2 toks i = true ↔ PathSepAt toks i := by
  unfold isColon2
  split
  next h h' => exact iff_of_true rfl ⟨⟨_, h⟩, _, _, h'⟩
  next hn => exact iff_of_false Bool.false_ne_true fun ⟨⟨sp, h⟩, jt, sp', h'⟩ => hn sp jt sp' h h'

theorem boolName_iff (i : Nat) : (isBoolIdent toks i && isEq toks (i + 1)) = true ↔ BoolNameAt toks i := by
  simp only [Bool.and_eq_true, isBoolIdent_iff, isEq_iff, BoolNameAt]

theorem pathStart_iff (i : Nat) :
    (isAnyIdent toks i || (isColon2 toks i && isAnyIdent toks (i + 2))) = true ↔ PathStartAt toks i := by
  simp only [Bool.or_eq_true, Bool.and_eq_true, isAnyIdent_iff, isColon2_iff, PathStartAt]

/-- the look-ahead takes the literal branch exactly where the text says a literal stands -/
theorem branch_lit_iff_literalAt (i : Nat) : branch toks o i = .lit ↔ LiteralAt toks o i := by
  rw [C15a.branch_lit_iff, Bool.and_eq_true, Bool.not_eq_true', ← Bool.not_eq_true, boolName_iff]
  exact Iff.rfl

/-- … and the item branch exactly where no literal stands and a path starts -/
theorem branch_item_iff_pathStart (i : Nat) : branch toks o i = .item ↔ (¬ LiteralAt toks o i ∧ PathStartAt toks i) := by
  rw [C15a.branch_item_iff, ← Bool.not_eq_true, ← C15a.branch_lit_iff, branch_lit_iff_literalAt, pathStart_iff]

/-- one element of the specification = one successful step of the model that makes progress -/
theorem reads_iff_itemAt (i j : Nat) (it : Item) :
    Reads toks o i j it ↔ (itemAt toks o i = .ok (it, j) ∧ i < j) := by
  constructor
  · intro h
    cases h with
    | literal hl ho hpos =>
        exact ⟨C15a.lit_item toks o i _ _ ((branch_lit_iff_literalAt toks o i).mpr hl) ho, Nat.lt_add_of_pos_right hpos⟩
    | item hnl hp ho hpos =>
        exact ⟨C15a.meta_item_ok toks o i _ _ ((branch_item_iff_pathStart toks o i).mpr ⟨hnl, hp⟩) ho, Nat.lt_add_of_pos_right hpos⟩
  · rintro ⟨h, hlt⟩
    obtain ⟨len, s, rfl, ⟨hb, ho, rfl⟩ | ⟨hb, ho, rfl⟩⟩ := C15a.itemAt_ok toks o h
    · exact .literal ((branch_lit_iff_literalAt toks o i).mp hb) ho (Nat.pos_of_lt_add_right hlt)
    · have := (branch_item_iff_pathStart toks o i).mp hb
      exact .item this.1 this.2 ho (Nat.pos_of_lt_add_right hlt)

theorem punctAt_lt {i : Nat} {c : Char} (h : PunctAt toks i c) : i < toks.length := by
  obtain ⟨jt, sp, h⟩ := h
  exact (List.getElem?_eq_some_iff.mp h).1

theorem itemAt_sane (hs : OracleSane toks o) {i j : Nat} {it : Item} (h : itemAt toks o i = .ok (it, j)) :
    i < j ∧ j ≤ toks.length := by
  obtain ⟨len, s, rfl, ⟨_, ho, _⟩ | ⟨_, ho, _⟩⟩ := C15a.itemAt_ok toks o h
  · exact ⟨Nat.lt_add_of_pos_right (hs.1 i len s ho).1, (hs.1 i len s ho).2⟩
  · exact ⟨Nat.lt_add_of_pos_right (hs.2 i len s ho).1, (hs.2 i len s ho).2⟩

theorem commaSeparated_nil (start : Nat) (items : List Item) :
    CommaSeparatedFrom toks o start items [] ↔ items = [] ∧ toks.length ≤ start := by
  constructor
  · exact fun h => ⟨List.eq_nil_of_length_eq_zero h.same_len.symm, h.empty rfl⟩
  · rintro ⟨rfl, hs⟩
    exact ⟨rfl, nofun, nofun, nofun, nofun, fun _ => hs⟩

theorem commaSeparated_cons (start a b : Nat) (it : Item) (rest : List Item) (bs : List (Nat × Nat)) :
    CommaSeparatedFrom toks o start (it :: rest) ((a, b) :: bs) ↔
      a = start ∧ Reads toks o a b it ∧
        ((b = toks.length ∧ rest = [] ∧ bs = []) ∨ (PunctAt toks b ',' ∧ CommaSeparatedFrom toks o (b + 1) rest bs)) := by
  constructor
  · intro h
    refine ⟨h.first a b rfl, h.reads 0 a b it rfl rfl, ?_⟩
    cases bs with
    | nil =>
        have hr : rest = [] := List.eq_nil_of_length_eq_zero (Nat.succ.inj h.same_len).symm
        cases h.last a b rfl with
        | inl hb => exact .inl ⟨hb, hr, rfl⟩
        | inr hb => exact .inr ⟨hb.1, (commaSeparated_nil toks o _ _).mpr ⟨hr, Nat.le_of_eq hb.2.symm⟩⟩
    | cons b0 bs =>
        obtain ⟨a', b'⟩ := b0
        have hsep := h.sep 0 a b a' b' rfl rfl
        -- the rest's fields are the whole's, one index further on
        exact .inr ⟨hsep.1, Nat.succ.inj h.same_len, fun k => h.reads (k + 1), fun a'' b'' hb => (h.sep 0 a b a'' b'' rfl hb).2,
          fun k => h.sep (k + 1), fun a'' b'' hb => h.last a'' b'' (List.getLast?_cons_cons.trans hb), nofun⟩
  · rintro ⟨rfl, hr, ⟨hb, rfl, rfl⟩ | ⟨hp, h⟩⟩
    · refine ⟨rfl, ?_, ?_, nofun, ?_, nofun⟩
      · rintro (_ | k) a' b' it' hb' hi'
        · cases hb'; cases hi'; exact hr
        · cases hb'
      · rintro a' b' hb'; cases hb'; rfl
      · rintro a' b' hb'; cases hb'; exact .inl hb
    · refine ⟨congrArg (· + 1) h.same_len, ?_, ?_, ?_, ?_, nofun⟩
      · rintro (_ | k) a' b' it' hb' hi'
        · cases hb'; cases hi'; exact hr
        · exact h.reads k a' b' it' hb' hi'
      · rintro a' b' hb'; cases hb'; rfl
      · rintro (_ | k) a1 b1 a2 b2 h1 h2
        · cases h1; exact ⟨hp, h.first a2 b2 h2⟩
        · exact h.sep k a1 b1 a2 b2 h1 h2
      · intro a' b' hl
        cases bs with
        | nil => cases hl; exact .inr ⟨hp, Nat.le_antisymm (punctAt_lt toks hp) (h.empty rfl)⟩
        | cons b0 bs => exact h.last a' b' (List.getLast?_cons_cons.symm.trans hl)

/-- model ⟹ specification -/
theorem splits_commaSeparated (hs : OracleSane toks o) {i : Nat} {items : List Item}
    (h : C15a.Splits toks o i items) : ∃ bounds, CommaSeparatedFrom toks o i items bounds := by
  induction h with
  | done hi => exact ⟨[], (commaSeparated_nil toks o _ _).mpr ⟨rfl, hi⟩⟩
  | @last i j it hi hit hj =>
      have hsane := itemAt_sane toks o hs hit
      exact ⟨[(i, j)], (commaSeparated_cons toks o i i j it [] []).mpr
        ⟨rfl, (reads_iff_itemAt toks o i j it).mpr ⟨hit, hsane.1⟩, .inl ⟨Nat.le_antisymm hsane.2 hj, rfl, rfl⟩⟩⟩
  | @cons i j it rest hi hit hj hc _ ih =>
      obtain ⟨bs, hbs⟩ := ih
      exact ⟨(i, j) :: bs, (commaSeparated_cons toks o i i j it rest bs).mpr
        ⟨rfl, (reads_iff_itemAt toks o i j it).mpr ⟨hit, (itemAt_sane toks o hs hit).1⟩,
          .inr ⟨(isComma_iff toks j).mp hc, hbs⟩⟩⟩

/-- specification ⟹ model -/
theorem commaSeparated_splits : ∀ (bounds : List (Nat × Nat)) (start : Nat) (items : List Item),
    CommaSeparatedFrom toks o start items bounds → C15a.Splits toks o start items := by
  intro bounds
  induction bounds with
  | nil =>
      intro start items h
      obtain ⟨rfl, hs⟩ := (commaSeparated_nil toks o start items).mp h
      exact .done hs
  | cons ab bs ih =>
      obtain ⟨a, b⟩ := ab
      intro start items h
      cases items with
      | nil => exact nomatch h.same_len
      | cons it rest =>
          obtain ⟨rfl, hr, hrest⟩ := (commaSeparated_cons toks o start a b it rest bs).mp h
          have hit := ((reads_iff_itemAt toks o a b it).mp hr).1
          have ha := ((reads_iff_itemAt toks o a b it).mp hr).2
          rcases hrest with ⟨rfl, rfl, rfl⟩ | ⟨hp, ht⟩
          · exact .last ha hit (Nat.le_refl _)
          · have hb := punctAt_lt toks hp
            exact .cons (Nat.lt_trans ha hb) hit hb ((isComma_iff toks b).mpr hp) (ih (b + 1) rest ht)

/-- **Clause (a), end to end.**  `parse_meta_list` returns `items` exactly when the stream is a
    comma-separated sequence (optional trailing comma, possibly empty) of literals and meta
    items, and `items` are those elements in source order. -/
theorem parseList_ok_iff_commaSeparated (hs : OracleSane toks o) (items : List Item) :
    parseList toks o = .ok items ↔ ∃ bounds, CommaSeparatedFrom toks o 0 items bounds := by
  rw [C15a.parse_ok_iff]
  exact ⟨splits_commaSeparated toks o hs, fun ⟨bounds, h⟩ => commaSeparated_splits toks o bounds 0 items h⟩

/-- the direction that needs no assumption on the oracle -/
theorem commaSeparated_parseList (items : List Item) (bounds : List (Nat × Nat))
    (h : CommaSeparatedFrom toks o 0 items bounds) : parseList toks o = .ok items :=
  (C15a.parse_ok_iff toks o items).mpr (commaSeparated_splits toks o bounds 0 items h)

theorem reads_lt {a b : Nat} {it : Item} (h : Reads toks o a b it) : a < b := by
  cases h <;> omega

theorem item_of_bound {start : Nat} {items : List Item} {bounds : List (Nat × Nat)}
    (h : CommaSeparatedFrom toks o start items bounds) {k : Nat} {p : Nat × Nat} (hb : bounds[k]? = some p) :
    ∃ it, items[k]? = some it := by
  have hk : k < bounds.length := (List.getElem?_eq_some_iff.mp hb).1
  have hk' : k < items.length := by rw [← h.same_len]; exact hk
  exact ⟨items[k], List.getElem?_eq_getElem hk'⟩

theorem bound_lt {start : Nat} {items : List Item} {bounds : List (Nat × Nat)}
    (h : CommaSeparatedFrom toks o start items bounds) {k a b : Nat} (hb : bounds[k]? = some (a, b)) : a < b := by
  obtain ⟨it, hit⟩ := item_of_bound toks o h hb
  exact reads_lt toks o (h.reads k a b it hb hit)

/-- **order is kept**: an earlier element of the result ends (and its comma too) before a later
    one begins -/
theorem ends_before {start : Nat} {items : List Item} {bounds : List (Nat × Nat)}
    (h : CommaSeparatedFrom toks o start items bounds) :
    ∀ (d k a b a' b' : Nat), bounds[k]? = some (a, b) → bounds[k + d + 1]? = some (a', b') → b < a' := by
  intro d
  induction d with
  | zero =>
      intro k a b a' b' h1 h2
      rw [(h.sep k a b a' b' h1 h2).2]
      exact Nat.lt_succ_self b
  | succ d ih =>
      intro k a b a' b' h1 h2
      -- through the element in between: it starts after `b`, is not empty, and `a'` follows its comma
      have hk : k + (d + 1) + 1 < bounds.length := (List.getElem?_eq_some_iff.mp h2).1
      obtain ⟨⟨am, bm⟩, hmid⟩ : ∃ p, bounds[k + d + 1]? = some p := ⟨_, List.getElem?_eq_getElem (Nat.lt_of_succ_lt hk)⟩
      rw [(h.sep (k + d + 1) am bm a' b' hmid h2).2]
      exact Nat.lt_succ_of_lt (Nat.lt_trans (ih k a b am bm h1 hmid) (bound_lt toks o h hmid))

theorem end_le_last {start : Nat} {items : List Item} {bounds : List (Nat × Nat)}
    (h : CommaSeparatedFrom toks o start items bounds) {k a b al bl : Nat}
    (hb : bounds[k]? = some (a, b)) (hl : bounds.getLast? = some (al, bl)) : b ≤ bl := by
  rw [List.getLast?_eq_getElem?] at hl
  have hk : k < bounds.length := (List.getElem?_eq_some_iff.mp hb).1
  by_cases hlast : k = bounds.length - 1
  · rw [← hlast, hb] at hl
    cases hl
    exact Nat.le_refl b
  · obtain ⟨d, hd⟩ := Nat.exists_eq_add_of_lt (Nat.lt_of_le_of_ne (Nat.le_sub_one_of_lt hk) hlast)
    rw [hd] at hl
    exact Nat.le_of_lt (Nat.lt_trans (ends_before toks o h d k a b al bl hb hl) (bound_lt toks o h hl))

end Split

/-! ## Part B — printing and re-parsing

  Printing the parsed elements separated by commas (`quote!(#(#items),*)`) gives back the stream
  without its optional trailing comma (each element prints as the tokens it was read from — syn's
  own print/parse law for `Lit` and `Meta`).  So "print, then re-parse, is the identity" is: the
  stream without the trailing comma parses to the same elements.  In the second stream syn's
  parsers are asked again (oracle `o'`); the theorem needs them to answer as before at the
  positions where elements start.  They do not always (see `negative_value_not_stable`). -/

/-- the token `c` is a comma, glued to what follows or not -/
def IsCommaTok (c : Tok) : Prop := ∃ jt, c.kind = .punct ',' jt

section RoundTrip
variable (body : List Tok) (c : Tok)

theorem lookup_snoc_ne {k : Nat} (hk : k ≠ body.length) : (body ++ [c])[k]? = body[k]? := by
  by_cases h : k < body.length
  · exact List.getElem?_append_left h
  · rw [List.getElem?_eq_none (by simp; omega), List.getElem?_eq_none (by omega)]

theorem lookup_snoc_iff (hc : IsCommaTok c) {k : Nat} {t : Tok} (ht : ¬ IsCommaTok t) :
    (body ++ [c])[k]? = some t ↔ body[k]? = some t := by
  by_cases hk : k = body.length
  · subst hk
    rw [List.getElem?_concat_length, List.getElem?_eq_none (Nat.le_refl _)]
    exact ⟨fun h => absurd (Option.some.inj h ▸ hc) ht, nofun⟩
  · rw [lookup_snoc_ne body c hk]

theorem identAt_snoc (hc : IsCommaTok c) (k : Nat) : IdentAt (body ++ [c]) k ↔ IdentAt body k :=
  exists_congr fun _ => exists_congr fun _ => lookup_snoc_iff body c hc nofun

theorem wordAt_snoc (hc : IsCommaTok c) (k : Nat) (w : String) : WordAt (body ++ [c]) k w ↔ WordAt body k w :=
  exists_congr fun _ => lookup_snoc_iff body c hc nofun

theorem punctAt_snoc (hc : IsCommaTok c) (k : Nat) (ch : Char) (hch : ch ≠ ',') :
    PunctAt (body ++ [c]) k ch ↔ PunctAt body k ch :=
  exists_congr fun _ => exists_congr fun _ => lookup_snoc_iff body c hc fun ⟨_, h⟩ => hch (TokKind.punct.inj h).1

theorem pathStartAt_snoc (hc : IsCommaTok c) (k : Nat) : PathStartAt (body ++ [c]) k ↔ PathStartAt body k := by
  unfold PathStartAt PathSepAt
  rw [identAt_snoc body c hc, identAt_snoc body c hc, exists_congr fun _ => lookup_snoc_iff body c hc fun ⟨_, h⟩ => absurd (TokKind.punct.inj h).1 (by decide),
    punctAt_snoc body c hc _ _ (by decide)]

theorem boolNameAt_snoc (hc : IsCommaTok c) (k : Nat) : BoolNameAt (body ++ [c]) k ↔ BoolNameAt body k := by
  unfold BoolNameAt
  rw [wordAt_snoc body c hc, wordAt_snoc body c hc, punctAt_snoc body c hc _ _ (by decide)]

/-- an element read in the longer stream is read in the shorter one, if syn's parsers answer
    the same at its start -/
theorem reads_snoc (hc : IsCommaTok c) (o o' : SynOracle) {a b : Nat} {it : Item}
    (hl : o'.lit a = o.lit a) (hm : o'.meta_ a = o.meta_ a)
    (h : Reads (body ++ [c]) o a b it) : Reads body o' a b it := by
  cases h with
  | literal hlit ho hpos =>
      refine .literal ⟨?_, ?_⟩ (hl ▸ ho) hpos
      · rw [hl]; exact hlit.1
      · rw [← boolNameAt_snoc body c hc]; exact hlit.2
  | item hnl hp ho hpos =>
      refine .item ?_ ((pathStartAt_snoc body c hc a).mp hp) (hm ▸ ho) hpos
      intro hx
      apply hnl
      refine ⟨?_, ?_⟩
      · rw [← hl]; exact hx.1
      · rw [boolNameAt_snoc body c hc]; exact hx.2

/-- **Clause "printing then re-parsing is the identity", under a side condition.**  A list with a trailing
    comma, printed (= without that comma) and parsed again, gives the same elements at the same
    places — PROVIDED syn's `Lit` / `Meta` parsers answer in the shorter stream what they
    answered in the longer one at every element start (`hagree`).  `htrail`: the final comma is
    the list's trailing comma (the last element ends just before it). -/
theorem drop_trailing_comma_partial (hc : IsCommaTok c) (o o' : SynOracle)
    (items : List Item) (bounds : List (Nat × Nat))
    (h : CommaSeparatedFrom (body ++ [c]) o 0 items bounds)
    (htrail : ∀ (a b : Nat), bounds.getLast? = some (a, b) → b = body.length)
    (hagree : ∀ (k a b : Nat), bounds[k]? = some (a, b) → o'.lit a = o.lit a ∧ o'.meta_ a = o.meta_ a) :
    CommaSeparatedFrom body o' 0 items bounds := by
  have hlast_some : ∀ {k : Nat} {p : Nat × Nat}, bounds[k]? = some p → ∃ al bl, bounds.getLast? = some (al, bl) := by
    intro k p hk
    have hk' : k < bounds.length := (List.getElem?_eq_some_iff.mp hk).1
    rw [List.getLast?_eq_getElem?]
    exact ⟨_, _, List.getElem?_eq_getElem (Nat.sub_lt (Nat.zero_lt_of_lt hk') Nat.one_pos)⟩
  refine ⟨h.same_len, ?_, h.first, ?_, ?_, ?_⟩
  · intro k a b it hb hi
    have hag := hagree k a b hb
    exact reads_snoc body c hc o o' hag.1 hag.2 (h.reads k a b it hb hi)
  · intro k a b a' b' h1 h2
    obtain ⟨hp, ha'⟩ := h.sep k a b a' b' h1 h2
    refine ⟨?_, ha'⟩
    obtain ⟨al, bl, hl⟩ := hlast_some h2
    have hbl := htrail al bl hl
    have h3 := end_le_last _ o h h2 hl
    have h4 := bound_lt _ o h h2
    obtain ⟨jt, sp, hp⟩ := hp
    exact ⟨jt, sp, by rw [← lookup_snoc_ne body c (by omega)]; exact hp⟩
  · intro a b hl
    exact .inl (htrail a b hl)
  · intro hb
    have := h.empty hb
    simp at this

/-- the same on the model: if the stream with its trailing comma is a list (specification),
    the stream without it parses, to the same elements -/
theorem parse_drop_trailing_comma_partial (hc : IsCommaTok c) (o o' : SynOracle)
    (items : List Item) (bounds : List (Nat × Nat))
    (h : CommaSeparatedFrom (body ++ [c]) o 0 items bounds)
    (htrail : ∀ (a b : Nat), bounds.getLast? = some (a, b) → b = body.length)
    (hagree : ∀ (k a b : Nat), bounds[k]? = some (a, b) → o'.lit a = o.lit a ∧ o'.meta_ a = o.meta_ a) :
    parseList (body ++ [c]) o = .ok items ∧ parseList body o' = .ok items :=
  ⟨commaSeparated_parseList _ o items bounds h,
   commaSeparated_parseList _ o' items bounds (drop_trailing_comma_partial body c hc o o' items bounds h htrail hagree)⟩

end RoundTrip

/-! ### Parts A and B: examples (non-vacuity of every hypothesis, the text's classification
    cases, and the discrepancies) -/
section ExamplesAB

private def tk (k : TokKind) : Tok := ⟨k, ⟨0, 0⟩⟩
private def comma : Tok := tk (.punct ',' false)

/-- `a,` with syn's answers for it -/
private def sA : List Tok := [tk (.ident "a")]
private def oA : SynOracle :=
  { lit := fun _ => none, meta_ := fun i => if i = 0 then .ok (1, "a") else .error ("expected path", none) }

private theorem oA_sane (extra : List Tok) : OracleSane (sA ++ extra) oA := by
  constructor
  · intro i len s h; simp [oA] at h
  · intro i len s h
    simp only [oA] at h
    split at h
    · cases h; subst_vars; simp [sA]
    · cases h

private theorem specA : CommaSeparatedFrom (sA ++ [comma]) oA 0 [.item "a"] [(0, 1)] :=
  (commaSeparated_cons _ _ 0 0 1 _ [] []).mpr
    ⟨rfl, .item (len := 1) (fun h => nomatch h.1) (.inl ⟨"a", ⟨0, 0⟩, rfl⟩) rfl (by decide),
      .inr ⟨⟨false, ⟨0, 0⟩, rfl⟩, (commaSeparated_nil _ _ 2 []).mpr ⟨rfl, Nat.le_refl 2⟩⟩⟩

/-- non-vacuity of `parseList_ok_iff_commaSeparated`: a sane oracle, both sides hold -/
example : OracleSane (sA ++ [comma]) oA ∧ parseList (sA ++ [comma]) oA = .ok [.item "a"] ∧
    ∃ bounds, CommaSeparatedFrom (sA ++ [comma]) oA 0 [.item "a"] bounds :=
  ⟨oA_sane [comma], rfl, (parseList_ok_iff_commaSeparated _ _ (oA_sane [comma]) _).mp rfl⟩

/-- non-vacuity of `drop_trailing_comma_partial` (all three hypotheses hold): `a,` ↦ `a` -/
example : parseList (sA ++ [comma]) oA = .ok [.item "a"] ∧ parseList sA oA = .ok [.item "a"] :=
  parse_drop_trailing_comma_partial sA comma ⟨false, rfl⟩ oA oA [.item "a"] [(0, 1)] specA
    (by intro a b h; simp only [List.getLast?_singleton, Option.some.injEq, Prod.mk.injEq] at h; exact h.2.symm)
    (fun _ _ _ _ => ⟨rfl, rfl⟩)

/-- the empty stream is the empty list; a lone comma is not a list -/
example : parseList [] oA = .ok [] := rfl
example : parseList [comma] oA = .error ("expected identifier or literal", some ⟨0, 0⟩) := rfl

/-- "`true` alone is a literal", "`true = 1` is classified as an item" (and then it is up to
    syn's `Meta` parser, which refuses a keyword as a name) -/
private def oTrue : SynOracle :=
  { lit := fun i => if i = 0 then some (1, "true") else if i = 2 then some (1, "1") else none,
    meta_ := fun _ => .error ("expected path", none) }
example : parseList [tk (.ident "true")] oTrue = .ok [.lit "true"] := rfl
example : branch [tk (.ident "true"), tk (.punct '=' false), tk .literal] oTrue 0 = .item := rfl
example : parseList [tk (.ident "true"), tk (.punct '=' false), tk .literal] oTrue = .error ("expected path", none) := rfl

/-- "a path starting with `::` or a keyword is an item": `::crate::x`, `self` -/
private def oPath (len : Nat) (s : String) : SynOracle :=
  { lit := fun _ => none, meta_ := fun i => if i = 0 then .ok (len, s) else .error ("expected path", none) }
example : parseList [tk (.punct ':' true), tk (.punct ':' false), tk (.ident "crate"), tk (.punct ':' true),
    tk (.punct ':' false), tk (.ident "x")] (oPath 6 ":: crate :: x") = .ok [.item ":: crate :: x"] := rfl
example : parseList [tk (.ident "self")] (oPath 1 "self") = .ok [.item "self"] := rfl
/-- `: :a` (colons not glued) is not a path -/
example : parseList [tk (.punct ':' false), tk (.punct ':' false), tk (.ident "a")] (oPath 3 ":: a")
    = .error ("expected identifier or literal", some ⟨0, 0⟩) := rfl

/-- why `OracleSane` is needed: the model treats "the parser ran past the end" as "the stream
    ended" — an artefact of the totalised model, not of the library -/
private def oWild : SynOracle := { lit := fun i => if i = 0 then some (5, "x") else none, meta_ := fun _ => .error ("", none) }
example : parseList [tk .literal] oWild = .ok [.lit "x"] := rfl
example : ¬ ∃ bounds, CommaSeparatedFrom [tk .literal] oWild 0 [.lit "x"] bounds := by
  rintro ⟨_ | ⟨⟨a, b⟩, bs⟩, h⟩
  · exact nomatch h.same_len
  · obtain ⟨rfl, hr, hrest⟩ := (commaSeparated_cons _ _ 0 a b _ [] bs).mp h
    -- the literal read at 0 ends at 5, but a last element must end at 1 or before a comma
    cases hr with
    | literal _ ho _ =>
        cases ho
        rcases hrest with ⟨hb, _⟩ | ⟨hp, _⟩
        · cases hb
        · exact absurd (punctAt_lt _ hp) (by decide)

/-- **DISCREPANCY 1 (round trip; finding F28).**  `a = -1,`: while anything
    follows the value — the trailing comma counts — syn's `Meta` parser reads it as the
    expression `-1` (`Expr::Unary`); in the printed stream `a = - 1` nothing follows, and the
    same parser reads the *literal* `-1` (`Expr::Lit`).  The oracle strings below name the tree
    that was read.  The two lists differ, so print-then-re-parse is not the identity, and
    `hagree` of `drop_trailing_comma_partial` fails at position 0. -/
private def sNeg : List Tok := [tk (.ident "a"), tk (.punct '=' false), tk (.punct '-' false), tk .literal]
private def oNegComma : SynOracle :=
  { lit := fun i => if i = 2 then some (2, "-1") else if i = 3 then some (1, "1") else none,
    meta_ := fun i => if i = 0 then .ok (4, "a = Expr::Unary(Neg, Lit 1)") else .error ("expected path", none) }
private def oNegAlone : SynOracle :=
  { lit := fun i => if i = 2 then some (2, "-1") else if i = 3 then some (1, "1") else none,
    meta_ := fun i => if i = 0 then .ok (4, "a = Expr::Lit(-1)") else .error ("expected path", none) }
theorem negative_value_not_stable :
    parseList (sNeg ++ [comma]) oNegComma = .ok [.item "a = Expr::Unary(Neg, Lit 1)"] ∧
    parseList sNeg oNegAlone = .ok [.item "a = Expr::Lit(-1)"] ∧
    oNegAlone.meta_ 0 ≠ oNegComma.meta_ 0 :=
  ⟨rfl, rfl, by simp [oNegAlone, oNegComma]⟩

/-- **MODEL LIMITATION (outside the quantified grammar).**  A token stream can contain an
    invisible (None-delimited) group; the real parser looks through it (`⟦a⟧` is the item `a`,
    `⟦a, b⟧` even two items), the token model has a single opaque `group` kind and rejects. -/
example : parseList [tk .group] (oPath 1 "a") = .error ("expected identifier or literal", some ⟨0, 0⟩) := rfl

end ExamplesAB

/-! ## Part C — routing: one hook per item, chosen by the item's form alone -/
section Routing
open Spec.C15
variable {α : Type}

/-- the seven hooks of the statement -/
inductive HookId where
  | word | list | bool | string | char | literal | expr
  deriving DecidableEq, Repr

/-- the subset of hooks an implementer overrides -/
def overridden (h : Hooks α) : HookId → Bool
  | .word => h.fromWord?.isSome
  | .list => h.fromList?.isSome
  | .bool => h.fromBool?.isSome
  | .string => h.fromString?.isSome
  | .char => h.fromChar?.isSome
  | .literal => h.fromValue?.isSome
  | .expr => h.fromExpr?.isSome

/-- the seven forms of the statement -/
inductive FormTag where
  | word | list | bool | string | char | otherLit | nonLit
  deriving DecidableEq, Repr

/-- the hooks that may serve a form, the most general first.  `asValue`: the literal is the
    value of `name = …`, an expression, so the expression hook comes before the literal hooks;
    a literal standing directly in a list is not an expression. -/
def candidates (asValue : Bool) : FormTag → List HookId
  | .word => [.word]
  | .list => [.list]
  | .bool => (if asValue then [.expr] else []) ++ [.literal, .bool]
  | .string => (if asValue then [.expr] else []) ++ [.literal, .string]
  | .char => (if asValue then [.expr] else []) ++ [.literal, .char]
  | .otherLit => (if asValue then [.expr] else []) ++ [.literal]
  | .nonLit => [.expr]

/-- **the routing table**: a function of the override subset and the form — nothing else.
    `none`: no candidate is overridden, the item is rejected by a default. -/
def selected (ov : HookId → Bool) (asValue : Bool) (t : FormTag) : Option HookId :=
  (candidates asValue t).find? ov

/-- which of the seven forms a form is; a list that does not parse has none and is routed nowhere -/
def tagOf : Form → Option FormTag
  | .word => some .word
  | .list _ => some .list
  | .unparsableList _ _ => none
  | .boolLit _ _ => some .bool
  | .strLit _ _ => some .string
  | .charLit _ _ => some .char
  | .otherLit _ => some .otherLit
  | .nonLit _ => some .nonLit

def litOf : Form → Option Lit
  | .boolLit _ l | .strLit _ l | .charLit _ l | .otherLit l => some l
  | _ => none

/-- the form of a list element: an item's form, or the literal's -/
def formOfItem : NestedMeta → Form
  | .item m => formOf m
  | .lit l => litForm l

/-- the value expression as written (invisible groups included), for `name = value` -/
def writtenValue : NestedMeta → Option Expr
  | .item (.nameValue _ e _ _) => some e
  | _ => none

/-- hand the item's content to hook `id`, if the implementer overrides it and it fits the form -/
def callHook (h : Hooks α) (written : Option Expr) (f : Form) : HookId → Option (Outcome α)
  | .word => (match f with | .word => h.fromWord? | _ => none)
  | .list => (match f with | .list items => h.fromList?.map (fun g => g items) | _ => none)
  | .bool => (match f with | .boolLit b _ => h.fromBool?.map (fun g => g b) | _ => none)
  | .string => (match f with | .strLit s _ => h.fromString?.map (fun g => g s) | _ => none)
  | .char => (match f with | .charLit c _ => h.fromChar?.map (fun g => g c) | _ => none)
  | .literal => (match litOf f with | some l => h.fromValue?.map (fun g => g l) | none => none)
  | .expr => (match written with | some e => h.fromExpr?.map (fun g => g e) | none => none)

/-- "every hook left at its default rejects with the documented kind of error" -/
def defaultError : Form → Err
  | .word => .leaf (.unexpectedFormat "word") [] none                  -- `unsupported_format("word")`
  | .list _ => .leaf (.unexpectedFormat "list") [] none                -- `unsupported_format("list")`
  | .boolLit _ _ => .leaf (.unexpectedType "bool") [] none             -- `unexpected_type("bool")`
  | .strLit _ _ => .leaf (.unexpectedType "string") [] none
  | .charLit _ _ => .leaf (.unexpectedType "char") [] none
  | .otherLit l => .leaf (.unexpectedType l.typeName) [] (some l.span) -- `unexpected_lit_type(lit)`
  | .nonLit e => .leaf (.unexpectedType e.kindName) [] (some e.span)   -- `unexpected_expr_type(expr)`
  | .unparsableList msg sp => .leaf (.custom msg) [] (some sp)          -- the list parser's own error

/-- what comes back before any span is attached: the outcome of the one selected hook, or the
    default rejection.  `written`: the value as written, for `name = value`; `f`: the form. -/
def innerOf (h : Hooks α) (written : Option Expr) (f : Form) : Outcome α :=
  match tagOf f with
  | none => .err (defaultError f)
  | some t =>
      match selected (overridden h) written.isSome t with
      | some id => (callHook h written f id).getD (.err (defaultError f))
      | none => .err (defaultError f)

/-- the span a span-less error receives: the literal's when a literal hook (or its default) is
    reached, the whole item's otherwise -/
def attachedOf (h : Hooks α) (written : Option Expr) (f : Form) (itemSpan : Span) : Span :=
  match litOf f, (tagOf f).bind (selected (overridden h) written.isSome) with
  | some _, some .expr => itemSpan
  | some l, _ => l.span
  | none, _ => itemSpan

def inner (h : Hooks α) (n : NestedMeta) : Outcome α := innerOf h (writtenValue n) (formOfItem n)
def attachedSpan (h : Hooks α) (n : NestedMeta) : Span := attachedOf h (writtenValue n) (formOfItem n) n.span

/-- the precise specification -/
def routed (h : Hooks α) (n : NestedMeta) : Outcome α := (inner h n).mapErr (·.withSpan (attachedSpan h n))

/-- the specification as the statement words it: "… comes back carrying the item's span" -/
def routedText (h : Hooks α) (n : NestedMeta) : Outcome α := (inner h n).mapErr (·.withSpan n.span)

/-! ### model = specification -/

theorem litOf_litForm (l : Lit) : litOf (litForm l) = some l := by
  obtain ⟨b, hf⟩ | ⟨s, hf⟩ | ⟨c, hf⟩ | hf := litForm_cases l <;> rw [hf] <;> rfl

/-- the literal hooks: generic-literal hook first, then the hook of the literal's kind -/
theorem litChain (h : Hooks α) (l : Lit) (w : Option Expr) (sp : Span) (hx : w = none ∨ h.fromExpr? = none) :
    litTerminal h l = innerOf h w (litForm l) ∧ attachedOf h w (litForm l) sp = l.span := by
  have hsel : ∀ t rest, (candidates w.isSome t = (if w.isSome then [HookId.expr] else []) ++ rest) →
      selected (overridden h) w.isSome t = rest.find? (overridden h) := by
    intro t rest hc
    unfold selected
    rw [hc]
    cases hx with
    | inl hw => subst hw; rfl
    | inr hx => cases w <;> simp [overridden, hx]
  unfold litTerminal innerOf attachedOf
  -- what is left is a table over which of the hooks are overridden; with the record taken apart
  -- both sides compute
  cases h with
  | mk fromNestedMeta? fromMeta? fromNone fromWord? fromList? fromValue? fromExpr? fromChar? fromString? fromBool? =>
  obtain ⟨b, hf⟩ | ⟨s, hf⟩ | ⟨c, hf⟩ | hf := litForm_cases l <;> rw [hf] <;> dsimp only [tagOf, litOf, Option.bind_some]
  · rw [hsel .bool [.literal, .bool] rfl]
    cases fromValue? <;> cases fromBool? <;> exact ⟨rfl, rfl⟩
  · rw [hsel .string [.literal, .string] rfl]
    cases fromValue? <;> cases fromString? <;> exact ⟨rfl, rfl⟩
  · rw [hsel .char [.literal, .char] rfl]
    cases fromValue? <;> cases fromChar? <;> exact ⟨rfl, rfl⟩
  · rw [hsel .otherLit [.literal] rfl]
    cases fromValue? <;> exact ⟨rfl, rfl⟩

/-- with the expression hook overridden, every `name = value` item goes to it, as written -/
theorem exprHook_takes_all (h : Hooks α) (g : Expr → Outcome α) (hx : h.fromExpr? = some g) (e : Expr) (sp : Span) :
    innerOf h (some e) (exprForm e) = g e ∧ attachedOf h (some e) (exprForm e) sp = sp := by
  -- with the record taken apart and `fromExpr?` known, both sides compute
  cases h with
  | mk fromNestedMeta? fromMeta? fromNone fromWord? fromList? fromValue? fromExpr? fromChar? fromString? fromBool? =>
  cases hx
  obtain ⟨l, _, hf⟩ | ⟨_, hf⟩ := exprForm_cases e <;> rw [hf]
  · obtain ⟨b, hf⟩ | ⟨s, hf⟩ | ⟨c, hf⟩ | hf := litForm_cases l <;> rw [hf] <;> exact ⟨rfl, rfl⟩
  · exact ⟨rfl, rfl⟩

/-- **Routing, end to end (model = precise specification).**  For every implementer that keeps
    `from_nested_meta` / `from_meta` at their defaults — any subset of the seven hooks
    overridden, with arbitrary bodies — and every list element. -/
theorem route_eq (h : Hooks α) (hm : h.fromMeta? = none) (hn : h.fromNestedMeta? = none) (n : NestedMeta) :
    h.fromNestedMeta n = routed h n := by
  cases n with
  | lit l =>
      rw [nested_literal_routes h hn l]
      obtain ⟨h1, h2⟩ := litChain h l none l.span (.inl rfl)
      simp only [routed, inner, attachedSpan, writtenValue, formOfItem, NestedMeta.span]
      rw [← h1, h2]
  | item m =>
      unfold Hooks.fromNestedMeta
      rw [hn]
      simp only [Hooks.fromNestedMetaD, NestedMeta.span]
      unfold Hooks.fromMeta
      rw [hm]
      cases m with
      | path p =>
          simp only [Hooks.fromMetaD, Meta.span, Outcome.mapErr_withSpan_withSpan]
          -- with the word hook known to be there or not, both sides compute
          cases h with
          | mk fromNestedMeta? fromMeta? fromNone fromWord? fromList? fromValue? fromExpr? fromChar? fromString? fromBool? =>
          cases fromWord? <;> rfl
      | list p items bad ts t s =>
          cases bad with
          | none =>
              simp only [Hooks.fromMetaD, Meta.span, Outcome.mapErr_withSpan_withSpan]
              cases h with
              | mk fromNestedMeta? fromMeta? fromNone fromWord? fromList? fromValue? fromExpr? fromChar? fromString? fromBool? =>
              cases fromList? <;> rfl
          | some b =>
              rfl
      | nameValue p e t s =>
          simp only [Hooks.fromMetaD, Meta.span, Outcome.mapErr_withSpan_withSpan, Hooks.fromExpr, routed, inner, attachedSpan,
            writtenValue, formOfItem, formOf, NestedMeta.span]
          cases hx : h.fromExpr? with
          | some g =>
              obtain ⟨h1, h2⟩ := exprHook_takes_all h g hx e s
              rw [h1, h2]
          | none =>
              dsimp only
              rw [fromExprD_routes, Outcome.mapErr_withSpan_withSpan]
              obtain ⟨l, hu, hf⟩ | ⟨hl, hf⟩ := exprForm_cases e <;> rw [hf]
              · obtain ⟨h1, h2⟩ := litChain h l (some e) s (.inr hx)
                rw [exprTerminalD_ungroup, hu, ← h1, h2]
                rfl
              · rw [exprTerminalD_nonLit h e hl]
                -- no candidate of a non-literal value but `expr`, which is not overridden
                simp only [innerOf, attachedOf, tagOf, litOf, Option.bind_some, selected, candidates, List.find?_cons,
                  List.find?_nil, overridden, hx, Option.isSome_none]
                rfl

/-! ### exactly one hook, chosen by the form alone -/

/-- the hook an item is routed to -/
def hookOf (h : Hooks α) (n : NestedMeta) : Option HookId :=
  (tagOf (formOfItem n)).bind (selected (overridden h) (writtenValue n).isSome)

/-- **by its form alone**: two items of the same form, given to two implementers overriding the
    same subset of hooks, are routed to the same hook -/
theorem hookOf_form_alone {β : Type} (h : Hooks α) (h' : Hooks β) (n n' : NestedMeta)
    (hsub : overridden h = overridden h') (htag : tagOf (formOfItem n) = tagOf (formOfItem n'))
    (hpos : (writtenValue n).isSome = (writtenValue n').isSome) : hookOf h n = hookOf h' n' := by
  unfold hookOf
  rw [hsub, htag, hpos]

theorem nonLit_has_value (n : NestedMeta) (h : tagOf (formOfItem n) = some .nonLit) : (writtenValue n).isSome = true := by
  cases n with
  | lit l => obtain ⟨b, hf⟩ | ⟨s, hf⟩ | ⟨c, hf⟩ | hf := litForm_cases l <;> rw [formOfItem, hf] at h <;> cases h
  | item m =>
      cases m with
      | path p => cases h
      | list p items bad ts t s => cases bad <;> cases h
      | nameValue p e t s => rfl

theorem mem_value_candidates {asValue : Bool} {id : HookId} {rest : List HookId}
    (h : id ∈ (if asValue then [HookId.expr] else []) ++ rest) : (id = .expr ∧ asValue = true) ∨ id ∈ rest := by
  rcases List.mem_append.mp h with h | h
  · cases asValue with
    | false => cases h
    | true => exact .inl ⟨List.mem_singleton.mp h, rfl⟩
  · exact .inr h

theorem callHook_expr_isSome (h : Hooks α) {w : Option Expr} (f : Form) (hw : w.isSome = true)
    (hov : overridden h .expr = true) : (callHook h w f .expr).isSome = true := by
  cases w with
  | none => cases hw
  | some e => exact Option.isSome_map.trans hov

theorem callHook_lit_isSome (h : Hooks α) (w : Option Expr) (f : Form) (id k : HookId)
    (hmem : id ∈ (if w.isSome then [HookId.expr] else []) ++ [.literal, k])
    (hlit : overridden h .literal = true → (callHook h w f .literal).isSome = true)
    (hkind : overridden h k = true → (callHook h w f k).isSome = true)
    (hov : overridden h id = true) : (callHook h w f id).isSome = true := by
  rcases mem_value_candidates hmem with ⟨rfl, hv⟩ | hrest
  · exact callHook_expr_isSome h f hv hov
  · rcases List.mem_cons.mp hrest with rfl | hrest
    · exact hlit hov
    · cases List.mem_singleton.mp hrest
      exact hkind hov

theorem callHook_isSome (h : Hooks α) (w : Option Expr) (f : Form) (t : FormTag) (id : HookId)
    (ht : tagOf f = some t) (hw : t = .nonLit → w.isSome = true)
    (hmem : id ∈ candidates w.isSome t) (hov : overridden h id = true) :
    (callHook h w f id).isSome = true := by
  cases f with
  | unparsableList msg sp => cases ht
  | word =>
      cases ht
      cases List.mem_singleton.mp hmem
      exact hov
  | list items =>
      cases ht
      cases List.mem_singleton.mp hmem
      exact Option.isSome_map.trans hov
  | boolLit b l =>
      cases ht
      exact callHook_lit_isSome h w _ id .bool hmem Option.isSome_map.trans Option.isSome_map.trans hov
  | strLit s l =>
      cases ht
      exact callHook_lit_isSome h w _ id .string hmem Option.isSome_map.trans Option.isSome_map.trans hov
  | charLit c l =>
      cases ht
      exact callHook_lit_isSome h w _ id .char hmem Option.isSome_map.trans Option.isSome_map.trans hov
  | otherLit l =>
      cases ht
      rcases mem_value_candidates hmem with ⟨rfl, hv⟩ | hrest
      · exact callHook_expr_isSome h _ hv hov
      · cases List.mem_singleton.mp hrest
        exact Option.isSome_map.trans hov
  | nonLit e =>
      cases ht
      cases List.mem_singleton.mp hmem
      exact callHook_expr_isSome h _ (hw rfl) hov

/-- **exactly one hook**: the outcome is what the selected hook returns, given the item's
    content (`callHook` of that one hook); … -/
theorem inner_of_hook (h : Hooks α) (n : NestedMeta) (id : HookId) (hsel : hookOf h n = some id) :
    overridden h id = true ∧ ∃ r, callHook h (writtenValue n) (formOfItem n) id = some r ∧ inner h n = r := by
  unfold hookOf at hsel
  cases ht : tagOf (formOfItem n) with
  | none => simp [ht] at hsel
  | some t =>
      simp only [ht, Option.bind_some] at hsel
      have hfound := hsel
      unfold selected at hfound
      have hov : overridden h id = true := List.find?_some hfound
      have hmem : id ∈ candidates (writtenValue n).isSome t := List.mem_of_find?_eq_some hfound
      have hsome := callHook_isSome h (writtenValue n) (formOfItem n) t id ht
        (fun ht' => nonLit_has_value n (ht' ▸ ht)) hmem hov
      refine ⟨hov, ?_⟩
      cases hc : callHook h (writtenValue n) (formOfItem n) id with
      | none => simp [hc] at hsome
      | some r => exact ⟨r, rfl, by simp [inner, innerOf, ht, hsel, hc]⟩

/-- … and when no hook on the item's path is overridden, the documented default rejection -/
theorem inner_of_no_hook (h : Hooks α) (n : NestedMeta) (hsel : hookOf h n = none) :
    inner h n = .err (defaultError (formOfItem n)) := by
  unfold hookOf at hsel
  unfold inner innerOf
  cases ht : tagOf (formOfItem n) with
  | none => rfl
  | some t =>
      simp only [ht, Option.bind_some] at hsel
      simp [hsel]

/-- an implementer overriding nothing rejects every item with the default of its form -/
theorem all_defaults_reject (h : Hooks α) (hnone : ∀ id, overridden h id = false) (n : NestedMeta) :
    inner h n = .err (defaultError (formOfItem n)) := by
  apply inner_of_no_hook
  unfold hookOf
  cases tagOf (formOfItem n) with
  | none => rfl
  | some t =>
      simp only [Option.bind_some, selected]
      exact List.find?_eq_none.mpr (fun id _ => by simp [hnone id])

/-! ### the statement's wording of the span clause -/

def SpanlessErr (r : Outcome α) : Prop := ∃ e, r = .err e ∧ e.span = none

theorem withSpan_inj_of_spanless {e : Err} (h : e.span = none) (a b : Span) : e.withSpan a = e.withSpan b ↔ a = b := by
  refine ⟨fun hab => ?_, fun hab => hab ▸ rfl⟩
  have hs := congrArg Err.span hab
  rw [Err.span_withSpan, Err.span_withSpan, h] at hs
  exact Option.some.inj hs

/-- `precise specification = statement's wording` exactly when the attached span is the item's,
    or nothing span-less comes back -/
theorem routed_eq_text_iff (h : Hooks α) (n : NestedMeta) :
    routed h n = routedText h n ↔ (attachedSpan h n = n.span ∨ ¬ SpanlessErr (inner h n)) := by
  unfold routed routedText SpanlessErr
  cases hi : inner h n with
  | ok a => simp [Outcome.mapErr]
  | panic m => simp [Outcome.mapErr]
  | err e =>
      simp only [Outcome.mapErr, Outcome.err.injEq, exists_eq_left']
      by_cases hs : e.span = none
      · rw [withSpan_inj_of_spanless hs]
        exact ⟨.inl, fun h' => h'.resolve_right (not_not_intro hs)⟩
      · rw [Err.withSpan_of_spanned hs, Err.withSpan_of_spanned hs]
        exact iff_of_true rfl (.inr hs)

/-- **Routing against the statement's wording ("carrying the item's span"), under a side condition.**  The side
    condition is the weakest possible (`route_text_iff`): the span attached is the whole item's,
    or no span-less error comes back. -/
theorem route_text_partial (h : Hooks α) (hm : h.fromMeta? = none) (hn : h.fromNestedMeta? = none) (n : NestedMeta)
    (side : attachedSpan h n = n.span ∨ ¬ SpanlessErr (inner h n)) : h.fromNestedMeta n = routedText h n := by
  rw [route_eq h hm hn n]
  exact (routed_eq_text_iff h n).mpr side

theorem route_text_iff (h : Hooks α) (hm : h.fromMeta? = none) (hn : h.fromNestedMeta? = none) (n : NestedMeta) :
    h.fromNestedMeta n = routedText h n ↔ (attachedSpan h n = n.span ∨ ¬ SpanlessErr (inner h n)) := by
  rw [route_eq h hm hn n]
  exact routed_eq_text_iff h n

/-- where the side condition holds for free: bare words, lists, literals directly in a list,
    non-literal values … -/
theorem attachedSpan_item_of_no_value_literal (h : Hooks α) (n : NestedMeta)
    (hnv : writtenValue n = none ∨ litOf (formOfItem n) = none) : attachedSpan h n = n.span := by
  unfold attachedSpan attachedOf
  cases n with
  | lit l =>
      -- a literal's own span is attached whichever hook is selected
      rw [formOfItem, litOf_litForm]
      cases (tagOf (litForm l)).bind (selected (overridden h) (writtenValue (.lit l)).isSome) with
      | none => rfl
      | some id => cases id <;> rfl
  | item m =>
      have hl : litOf (formOf m) = none := by
        refine hnv.elim (fun hw => ?_) id
        cases m with
        | path p => rfl
        | list p items bad ts t s => cases bad <;> rfl
        | nameValue p e t s => cases hw
      rw [formOfItem, hl]

/-- … and every item when the expression hook is overridden -/
theorem attachedSpan_item_of_exprHook (h : Hooks α) (g : Expr → Outcome α) (hx : h.fromExpr? = some g)
    (p : Path) (e : Expr) (t : String) (s : Span) :
    attachedSpan h (.item (.nameValue p e t s)) = s :=
  (exprHook_takes_all h g hx e s).2

end Routing

/-! ### Part C: examples -/
section ExamplesC

private def strLit (v : String) (sp : Span) : Lit := ⟨.str v, "\"" ++ v ++ "\"", sp⟩
/-- `x = "v"`: the item spans bytes 0..7, the literal 4..7 -/
private def xEqV : NestedMeta := .item (.nameValue pX (.lit (strLit "v" ⟨4, 7⟩)) "x = \"v\"" ⟨0, 7⟩)
/-- the same with the value inside two invisible groups -/
private def xEqGroupedV : NestedMeta :=
  .item (.nameValue pX (.group (.group (.lit (strLit "v" ⟨4, 7⟩)) ⟨4, 7⟩) ⟨4, 7⟩) "x = \"v\"" ⟨0, 7⟩)
private def yEqW : NestedMeta := .item (.nameValue pX (.lit (strLit "w" ⟨14, 17⟩)) "y = \"w\"" ⟨10, 17⟩)

/-- a probe whose string hook refuses without giving a span -/
private def strProbe : Hooks Unit := { fromString? := some (fun _ => .err (Err.custom "string hook says no")) }
/-- a probe whose expression hook refuses without giving a span -/
private def exprProbe : Hooks Unit := { fromExpr? := some (fun _ => .err (Err.custom "expr hook says no")) }
private def noHooks : Hooks Unit := {}

/-- non-vacuity of `route_eq` (both hypotheses hold for every probe of the 2⁷ family) -/
example : strProbe.fromMeta? = none ∧ strProbe.fromNestedMeta? = none := ⟨rfl, rfl⟩
example : strProbe.fromNestedMeta xEqV = routed strProbe xEqV := route_eq strProbe rfl rfl xEqV

/-- one hook, by form: string value ↦ string hook, groups or not; with the expression hook
    overridden ↦ expression hook; nothing overridden ↦ none -/
example : hookOf strProbe xEqV = some .string := by decide
example : hookOf strProbe xEqGroupedV = some .string := by decide
example : hookOf exprProbe xEqGroupedV = some .expr := by decide
example : hookOf noHooks xEqV = none := by decide
example : hookOf strProbe (.lit (strLit "v" ⟨0, 3⟩)) = some .string := by decide
/-- non-vacuity of `hookOf_form_alone`: different items, different implementers -/
private def echoProbe : Hooks String := { fromString? := some (fun v => .ok v) }
example : hookOf strProbe xEqV = hookOf echoProbe yEqW := by
  refine hookOf_form_alone strProbe echoProbe xEqV yEqW ?_ rfl rfl
  funext id; cases id <;> rfl
/-- non-vacuity of `inner_of_hook` / `inner_of_no_hook` / `all_defaults_reject` -/
example : inner strProbe xEqV = .err (Err.custom "string hook says no") := rfl
example : inner noHooks xEqV = .err (.leaf (.unexpectedType "string") [] none) :=
  all_defaults_reject noHooks (fun id => by cases id <;> rfl) xEqV

/-- non-vacuity of `route_text_partial`: the side condition holds (first disjunct) for the
    expression hook, and (second disjunct) for a hook that returns a spanned error -/
example : exprProbe.fromNestedMeta xEqV = routedText exprProbe xEqV :=
  route_text_partial exprProbe rfl rfl xEqV (.inl rfl)
private def spannedProbe : Hooks Unit := { fromString? := some (fun _ => .err (.leaf (.custom "no") [] (some ⟨90, 91⟩))) }
example : spannedProbe.fromNestedMeta xEqV = routedText spannedProbe xEqV :=
  route_text_partial spannedProbe rfl rfl xEqV (.inr (by
    rintro ⟨e, he, hs⟩
    have : inner spannedProbe xEqV = .err (.leaf (.custom "no") [] (some ⟨90, 91⟩)) := rfl
    rw [this] at he
    cases he
    simp [Err.span] at hs))

/-- **DISCREPANCY 2 (wording of the span clause; the model agrees with the library).**  For
    `x = "v"` and a string hook returning a span-less error, the error comes back with the span
    of the *literal* (4..7), not "the item's span" (0..7). -/
theorem value_literal_error_gets_literal_span :
    strProbe.fromNestedMeta xEqV = .err (.leaf (.custom "string hook says no") [] (some ⟨4, 7⟩)) ∧
    routedText strProbe xEqV = .err (.leaf (.custom "string hook says no") [] (some ⟨0, 7⟩)) ∧
    strProbe.fromNestedMeta xEqV ≠ routedText strProbe xEqV := by
  have h1 : strProbe.fromNestedMeta xEqV = .err (.leaf (.custom "string hook says no") [] (some ⟨4, 7⟩)) := rfl
  have h2 : routedText strProbe xEqV = .err (.leaf (.custom "string hook says no") [] (some ⟨0, 7⟩)) := rfl
  refine ⟨h1, h2, ?_⟩
  rw [h1, h2]
  simp
/-- the same for a default: `x = "v"` into an implementer overriding nothing -/
example : noHooks.fromNestedMeta xEqV = .err (.leaf (.unexpectedType "string") [] (some ⟨4, 7⟩)) := rfl

end ExamplesC

end C15
