import Darling.Props.C06
/-
  C06 (end to end) — `Options.derive` never panics on a declaration whose identifiers are safe
  for the rename rules.

  The pieces are in `C06.lean`; here the container-level option chains, the body loops and the two
  top-level functions.  The only hypothesis is `DeclSafe`: no field or variant identifier makes
  `ident_case` panic (known finding F8, see `C06.F8_witness_*`).

  At the end, for the properties that speak of a derived receiver (C07, C10, C16): what the two
  top-level functions have computed when they emit an impl (`deriveFromMeta_ok`, `deriveOuter_ok`).
-/
open Options Wrappers Scalars SynTypes

namespace C06

/-! ### the remaining option readers return -/

theorem readRenameRule_returns (m : Meta) : (readRenameRule m).Returns :=
  (C07.renameRule_np _ _).fromMeta m

theorem readOptWherePreds_returns (o : Oracle) (m : Meta) : (readOptWherePreds o m).Returns :=
  (C07.option_np some none _ (C07.wherePreds_np _ id)).fromMeta m

theorem list_np {α : Type} {f : List NestedMeta → Outcome α} (hf : ∀ items, (f items).Returns) :
    ({ fromList? := some f } : Hooks α).NP :=
  .of_overrides { list := hf }

theorem readPathList_returns (m : Meta) : (readPathList m).Returns :=
  (list_np (C07.pathListFromList_returns _)).fromMeta m

theorem fwd_np : fwdHooks.NP :=
  .of_overrides {
    word := Outcome.returns_ok _
    list := fun items => (C07.pathListFromList_returns _ items).map _ }

theorem readOptFwd_returns (m : Meta) : (readOptFwd m).Returns :=
  (C07.option_np some none _ fwd_np).fromMeta m

/-- `DeriveInputShapeSet::from_list` -/
theorem dissFromListLoop_returns : (items : List NestedMeta) → (d : DISS) → (DISS.fromListLoop d items).Returns
  | [], d => Outcome.returns_ok _
  | .item (.path p) :: rest, d => by
      unfold DISS.fromListLoop
      cases p.getIdent with
      | none => exact Outcome.returns_err _
      | some w =>
          dsimp only
          cases d.applyWord w with
          | ok d' => exact dissFromListLoop_returns rest d'
          | error e => exact Outcome.returns_err _
  | .item (.list _ _ _ _ _ _) :: _, d => Outcome.returns_err _
  | .item (.nameValue _ _ _ _) :: _, d => Outcome.returns_err _
  | .lit _ :: _, d => Outcome.returns_err _

theorem dissFromList_returns (items : List NestedMeta) : (DISS.fromList items).Returns :=
  dissFromListLoop_returns items {}

/-- `DataShape::from_list` -/
theorem dataShapeFromList_returns (items : List NestedMeta) : (DataShape.fromList items).Returns := by
  unfold DataShape.fromList
  generalize DataShape.fromListLoop {} [] items = r
  obtain ⟨d, errs⟩ := r
  match errs with
  | [] => exact Outcome.returns_ok _
  | x :: r => exact Err.bundleErr_returns (List.cons_ne_nil _ _)

theorem readOptDISS_returns (m : Meta) : (readOptDISS m).Returns :=
  (C07.option_np some none _ (list_np dissFromList_returns)).fromMeta m

theorem readOptDataShape_returns (m : Meta) : (readOptDataShape m).Returns :=
  (C07.option_np some none _ (list_np dataShapeFromList_returns)).fromMeta m

/-! ### the container-level option chains never panic -/

/-- `impl ParseAttribute for Core` -/
theorem coreStep_returns (o : Oracle) (s : CoreOpts) (mi : Meta) : StepR.Returns (coreStep o s mi) := by
  unfold coreStep
  refine ite_returns (once_returns _ _ _ (defaultFromMeta_returns o mi) fun _ => trivial) ?_
  refine ite_returns (withRead_returns _ _ _ (readRenameRule_returns mi) fun _ => trivial) ?_
  refine ite_returns ?_ ?_
  · cases s.post
    · exact withRead_returns _ _ _ (readPath_returns o mi) fun _ => trivial
    · exact ite_returns trivial trivial
  refine ite_returns (withRead_returns _ _ _ (readOptWherePreds_returns o mi) fun _ => trivial) ?_
  exact ite_returns (once_returns _ _ _ (readOptBool_returns mi) fun _ => trivial) trivial

theorem liftCore_returns {σ : Type} (s : σ) (get : σ → CoreOpts) (set : σ → CoreOpts → σ) (r : StepR CoreOpts)
    (hr : StepR.Returns r) : StepR.Returns (liftCore s get set r) := by
  cases r with
  | ok c => trivial
  | err c e => trivial
  | panic m => exact hr

/-- `impl ParseAttribute for OuterFrom` -/
theorem outerStep_returns (o : Oracle) (s : OuterOpts) (mi : Meta) : StepR.Returns (outerStep o s mi) := by
  unfold outerStep
  refine ite_returns (withRead_returns _ _ _ (readPathList_returns mi) fun _ => trivial) ?_
  refine ite_returns (withRead_returns _ _ _ (readOptFwd_returns mi) fun _ => trivial) ?_
  exact ite_returns trivial (liftCore_returns _ _ _ _ (coreStep_returns o s.core mi))

/-- the element-level traits (`supports` of FromDeriveInput / FromVariant on top of `OuterFrom`) -/
theorem outerTraitStep_returns (t : Trait) (o : Oracle) (s : OuterOpts) (mi : Meta) :
    StepR.Returns (outerTraitStep t o s mi) := by
  unfold outerTraitStep
  refine ite_returns (withRead_returns _ _ _ (readOptDISS_returns mi) fun _ => trivial) ?_
  exact ite_returns (withRead_returns _ _ _ (readOptDataShape_returns mi) fun _ => trivial) (outerStep_returns o s mi)

/-- `impl ParseAttribute for FromMetaOptions` -/
theorem fromMetaStep_returns (o : Oracle) (s : FromMetaOpts) (mi : Meta) : StepR.Returns (fromMetaStep o s mi) := by
  unfold fromMetaStep
  refine ite_returns (once_returns _ _ _ (readCallable_returns mi) fun _ => trivial) ?_
  exact ite_returns (once_returns _ _ _ (readCallable_returns mi) fun _ => trivial)
    (liftCore_returns _ _ _ _ (coreStep_returns o s.core mi))

/-- the container options of a `FromMeta` receiver: an options record or diagnostics -/
theorem fromMeta_options_return (o : Oracle) (start : FromMetaOpts) (attrs : List Attr) :
    (finishWith (parseAttributes (fromMetaStep o) start [] attrs)).Returns :=
  finishWith_returns _ (parseAttributes_ok _ (fromMetaStep_returns o) attrs _ _)

/-- the container options of an element-level receiver -/
theorem outer_options_return (t : Trait) (o : Oracle) (start : OuterOpts) (attrs : List Attr) :
    (finishWith (parseAttributes (outerTraitStep t o) start [] attrs)).Returns :=
  finishWith_returns _ (parseAttributes_ok _ (outerTraitStep_returns t o) attrs _ _)

/-! ### safety of the identifiers -/

/-- the identifier is safe under every rename rule -/
def IdentSafe (id : String) : Prop := ∀ rule : RenameRule, RenameOk rule id

/-- the field's identifier (the placeholder `"__unnamed"` for an unnamed field) is safe -/
def FieldSafe (f : FieldD) : Prop := IdentSafe (f.ident.getD "__unnamed")

/-- the variant's identifier and all its fields are safe -/
def VariantSafe (v : VariantD) : Prop := IdentSafe v.ident ∧ ∀ f ∈ v.fields, FieldSafe f

/-- every field identifier (or the placeholder `"__unnamed"` for unnamed fields) and every variant
    identifier of the declaration is safe -/
def DeclSafe (d : DeclD) : Prop :=
  match d.body with
  | .struct _ fs => ∀ f ∈ fs, FieldSafe f
  | .enum vs => ∀ v ∈ vs, VariantSafe v
  | .union => True

theorem returns_of_eq_ok {α : Type} {r : Outcome α} {a : α} (h : r = .ok a) : r.Returns := by
  rw [h]; exact Outcome.returns_ok _

theorem identSafe_of_camel {id : String} (h : RenameOk .camel id) : IdentSafe id := fun rule =>
  if hr : rule = .camel then hr ▸ h else rename_ok_unless_camel rule id hr

/-- the placeholder of unnamed fields is safe: tuple structs never trip `ident_case` -/
theorem unnamed_safe : IdentSafe "__unnamed" :=
  identSafe_of_camel ⟨returns_of_eq_ok rfl, returns_of_eq_ok rfl⟩

theorem ident_a_safe : IdentSafe "a" := identSafe_of_camel ⟨returns_of_eq_ok rfl, returns_of_eq_ok rfl⟩

theorem ident_b_safe : IdentSafe "b" := identSafe_of_camel ⟨returns_of_eq_ok rfl, returns_of_eq_ok rfl⟩

/-! ### fields and variants of the body -/

/-- `impl ParseAttribute for ForwardedField` -/
theorem forwardedStep_returns (o : Oracle) (sim : String → Option (Nat × String)) (s : Option String) (mi : Meta) :
    StepR.Returns (forwardedStep o sim s mi) := by
  unfold forwardedStep
  exact ite_returns (once_returns _ _ _ (readOptPath_returns o mi) fun _ => trivial) trivial

/-- `ForwardedField::from_field` (the `attrs` / `data` magic fields) -/
theorem forwardedFromField_returns (o : Oracle) (sim : String → Option (Nat × String)) (f : FieldD) :
    (forwardedFromField o sim f).Returns := by
  unfold forwardedFromField
  cases f.ident with
  | none => exact Outcome.returns_err _
  | some id =>
      exact Outcome.returns_cases _ (finishWith_returns _ (parseAttributes_ok _ (forwardedStep_returns o sim) f.attrs none []))
        (fun _ => Outcome.returns_ok _) fun _ => Outcome.returns_err _

theorem variantFields_returns (o : Oracle) (core : CoreOpts) :
    (fs : List FieldD) → (∀ f ∈ fs, FieldSafe f) → (variantFields o core fs).Returns
  | [], _ => Outcome.returns_ok _
  | f :: rest, h => by
      unfold variantFields
      exact Outcome.returns_cases _ (fieldFromDecl_returns o core f (h f (List.mem_cons_self ..) core.renameRule))
        (fun _ => (variantFields_returns o core rest fun g hg => h g (List.mem_cons_of_mem _ hg)).map _)
        fun _ => Outcome.returns_err _

/-- `InputVariant::from_variant` -/
theorem variantFromDecl_returns (o : Oracle) (core : CoreOpts) (v : VariantD) (h : VariantSafe v) :
    (variantFromDecl o core v).Returns := by
  unfold variantFromDecl
  refine Outcome.returns_cases _ (variant_options_return (v.style == .unit) v.attrs) (fun s => ?_) fun _ => Outcome.returns_err _
  refine Outcome.returns_cases _ (variantFields_returns o core v.fields h.2) (fun fs => ?_) fun _ => Outcome.returns_err _
  refine Outcome.Returns.bind ?_ _ fun _ => Outcome.returns_ok _
  cases s.attrName with
  | some n => exact Outcome.returns_ok _
  | none => exact (h.1 core.renameRule).2

theorem ite_ok {α : Type} {c : Prop} [Decidable c] {a b : Except String α} (ha : ∃ x, a = .ok x)
    (hb : ∃ x, b = .ok x) : ∃ x, (if c then a else b) = .ok x :=
  ite_ind (P := fun r : Except String α => ∃ x, r = .ok x) ha hb

/-- one `errors.handle(self.parse_field(field))` never stops the walk -/
theorem parseFieldStep_ok (t : Trait) (o : Oracle) (sim : String → Option (Nat × String)) (core : CoreOpts)
    (st : BodySt) (f : FieldD) (h : FieldSafe f) : ∃ st', parseFieldStep t o sim core st f = .ok st' := by
  unfold parseFieldStep
  refine ite_ok (ite_ok ?_ ⟨_, rfl⟩) ?_
  · exact Outcome.returns_cases _ (forwardedFromField_returns o sim f) (fun _ => ⟨_, rfl⟩) fun _ => ⟨_, rfl⟩
  · exact Outcome.returns_cases _ (fieldFromDecl_returns o core f (h core.renameRule)) (fun _ => ⟨_, rfl⟩) fun _ => ⟨_, rfl⟩

theorem parseFields_ok (t : Trait) (o : Oracle) (sim : String → Option (Nat × String)) (core : CoreOpts) :
    (fs : List FieldD) → (st : BodySt) → (∀ f ∈ fs, FieldSafe f) → ∃ st', parseFields t o sim core st fs = .ok st'
  | [], st, _ => ⟨st, rfl⟩
  | f :: rest, st, h => by
      unfold parseFields
      obtain ⟨st', hst⟩ := parseFieldStep_ok t o sim core st f (h f (List.mem_cons_self ..))
      rw [hst]
      exact parseFields_ok t o sim core rest st' (fun g hg => h g (List.mem_cons_of_mem _ hg))

theorem parseVariants_ok (t : Trait) (o : Oracle) (core : CoreOpts) :
    (vs : List VariantD) → (st : BodySt) → (∀ v ∈ vs, VariantSafe v) → ∃ st', parseVariants t o core st vs = .ok st'
  | [], st, _ => ⟨st, rfl⟩
  | v :: rest, st, h => by
      unfold parseVariants
      have hrest : ∀ w ∈ rest, VariantSafe w := fun w hw => h w (List.mem_cons_of_mem _ hw)
      exact ite_ok
        (Outcome.returns_cases _ (variantFromDecl_returns o core v (h v (List.mem_cons_self ..)))
          (fun _ => parseVariants_ok t o core rest _ hrest) fun _ => parseVariants_ok t o core rest _ hrest)
        (parseVariants_ok t o core rest _ hrest)

/-! ### the two top-level functions -/

/- The shape of the declaration matters only where the body parser is chosen, so both walks keep the
   body a variable and look at it once, to show that the chosen parser cannot have failed. -/

theorem deriveFromMeta_returns (o : Oracle) (sp : DeclSpans) (d : DeclD) (h : DeclSafe d) :
    (deriveFromMeta o sp d).Returns := by
  unfold deriveFromMeta
  unfold DeclSafe at h
  generalize d.body = b at h ⊢
  split
  · exact Outcome.returns_err _
  · dsimp only
    refine Outcome.returns_cases _ (fromMeta_options_return o _ d.attrs) (fun fm => ?_) fun _ => Outcome.returns_err _
    dsimp only
    split
    · rename_i m hm
      cases b with
      | struct s fs =>
          obtain ⟨st, hst⟩ := parseFields_ok .fromMeta o (fun _ => none) fm.core fs {} h
          cases hst.symm.trans hm
      | enum vs =>
          obtain ⟨st, hst⟩ := parseVariants_ok .fromMeta o fm.core vs {} h
          cases hst.symm.trans hm
      | union => cases hm
    · rename_i st _
      generalize st.errs ++ fromMetaValidate _ _ _ _ _ _ = errs
      match errs with
      | [] => exact Outcome.returns_ok _
      | x :: r => exact Err.bundleErr_returns (List.cons_ne_nil _ _)

theorem deriveOuter_returns (t : Trait) (o : Oracle) (sim : String → Option (Nat × String)) (sp : DeclSpans)
    (d : DeclD) (h : DeclSafe d) : (deriveOuter t o sim sp d).Returns := by
  unfold deriveOuter
  unfold DeclSafe at h
  generalize d.body = b at h ⊢
  split
  · exact Outcome.returns_err _
  · exact Outcome.returns_err _
  · refine Outcome.returns_cases _ (outer_options_return t o {} d.attrs) (fun oo => ?_) fun _ => Outcome.returns_err _
    dsimp only
    split
    · rename_i m hm
      cases b with
      | struct s fs =>
          obtain ⟨st, hst⟩ := parseFields_ok t o sim oo.core fs {} h
          cases hst.symm.trans hm
      | enum vs =>
          obtain ⟨st, hst⟩ := parseVariants_ok t o oo.core vs {} h
          cases hst.symm.trans hm
      | union => cases hm
    · rename_i st _
      generalize st.errs ++ (flattenErrs st.fields ++ _) = errs
      match errs with
      | [] => exact ite_ind (Outcome.returns_err _) (Outcome.returns_ok _)
      | x :: r => exact Err.bundleErr_returns (List.cons_ne_nil _ _)

/-- **C06, end to end**: the derive model returns an impl or diagnostics — it never panics — on
    every declaration whose identifiers are safe for the rename rules -/
theorem derive_returns (t : Trait) (o : Oracle) (sim : String → Option (Nat × String)) (sp : DeclSpans) (d : DeclD)
    (h : DeclSafe d) : (Options.derive t o sim sp d).Returns := by
  unfold Options.derive
  exact ite_ind (deriveFromMeta_returns o sp d h) (deriveOuter_returns t o sim sp d h)

/-! ### what an emitted impl was computed from -/

theorem deriveFromMeta_ok (o : Oracle) (sp : DeclSpans) (d : DeclD) (dv : Derived)
    (h : deriveFromMeta o sp d = .ok dv) :
    ∃ (fm : FromMetaOpts) (st : BodySt) (r : RFromMeta), dv = .fromMeta r ∧ r.base.dflt = fm.core.dflt ∧
      ((∃ s fs, d.body = .struct s fs ∧ parseFields .fromMeta o (fun _ => none) fm.core {} fs = .ok st ∧
          r.base.data = .struct s st.fields) ∨
       (∃ vs, d.body = .enum vs ∧ parseVariants .fromMeta o fm.core {} vs = .ok st ∧
          r.base.data = .enum st.variants)) := by
  unfold deriveFromMeta at h
  generalize hb : d.body = b at h
  split at h
  · cases h
  · dsimp only at h
    generalize finishWith (parseAttributes (fromMetaStep o) _ [] d.attrs) = fw at h
    cases fw with
    | err e => cases h
    | panic m => cases h
    | ok fm =>
        dsimp only at h
        split at h
        · cases h
        · rename_i st hst
          generalize st.errs ++ fromMetaValidate _ _ _ _ _ _ = E at h
          cases E with
          | cons e es => exact absurd h (Err.bundleErr_ne_ok _ _)
          | nil =>
              cases h
              cases b with
              | union => contradiction
              | struct s fs => exact ⟨fm, st, _, rfl, rfl, .inl ⟨s, fs, rfl, hst, rfl⟩⟩
              | «enum» vs => exact ⟨fm, st, _, rfl, rfl, .inr ⟨vs, rfl, hst, rfl⟩⟩

/-- for an enum body the receiver is a unit struct: the walk only collects the refusals of the variants -/
theorem deriveOuter_ok (t : Trait) (o : Oracle) (sim : String → Option (Nat × String)) (sp : DeclSpans)
    (d : DeclD) (dv : Derived) (h : deriveOuter t o sim sp d = .ok dv) :
    ∃ (oo : OuterOpts) (st : BodySt) (style : Style),
      ((∃ fs, d.body = .struct style fs ∧ parseFields t o sim oo.core {} fs = .ok st) ∨
       (∃ vs, d.body = .enum vs ∧ vs ≠ [] ∧ style = .unit ∧ parseVariants t o oo.core {} vs = .ok st)) ∧
      st.errs = [] ∧
      dv = .outer {
        trait_ := t,
        base := { ident := d.ident, data := .struct style st.fields, dflt := oo.core.dflt, post := oo.core.post,
                  allowUnknown := oo.core.allowUnknown.getD false, typeParams := d.generics.typeParams },
        attrNames := oo.attrNames, forward := oo.forward, attrsField := st.attrsField, dataField := st.dataField,
        magic := st.magic, fromIdent := oo.fromIdent, supports := oo.supports, vsupports := oo.vsupports } := by
  unfold deriveOuter at h
  -- the body stays a variable until the receiver is read off: a union and an empty enum are refused at once
  generalize hb : d.body = b at h
  split at h
  · cases h
  · cases h
  · rename_i hnu hne
    generalize finishWith (parseAttributes (outerTraitStep t o) {} [] d.attrs) = fw at h
    cases fw with
    | err e => cases h
    | panic m => cases h
    | ok oo =>
        dsimp only at h
        split at h
        · cases h
        · rename_i st hst
          generalize hE : st.errs ++ (flattenErrs st.fields ++ _) = E at h
          cases E with
          | cons e es => exact absurd h (Err.bundleErr_ne_ok _ _)
          | nil =>
              dsimp only at h
              have herrs := (List.append_eq_nil_iff.1 hE).1
              cases b with
              | union => exact absurd rfl hnu
              | struct s fs =>
                  refine ⟨oo, st, s, .inl ⟨fs, rfl, hst⟩, herrs, ?_⟩
                  dsimp only at h
                  split at h
                  · cases h
                  · exact (Outcome.ok.inj h).symm
              | «enum» vs =>
                  refine ⟨oo, st, .unit, .inr ⟨vs, rfl, fun hv => hne (hv ▸ rfl), rfl, hst⟩, herrs, ?_⟩
                  dsimp only at h
                  split at h
                  · cases h
                  · exact (Outcome.ok.inj h).symm

theorem deriveFromMeta_not_outer (o : Oracle) (sp : DeclSpans) (d : DeclD) (r : ROuter) :
    deriveFromMeta o sp d ≠ .ok (.outer r) := by
  intro h
  obtain ⟨_, _, _, hr, _⟩ := deriveFromMeta_ok o sp d _ h
  cases hr

theorem deriveOuter_not_fromMeta (t : Trait) (o : Oracle) (sim : String → Option (Nat × String)) (sp : DeclSpans)
    (d : DeclD) (r : RFromMeta) : deriveOuter t o sim sp d ≠ .ok (.fromMeta r) := by
  intro h
  obtain ⟨_, _, _, _, _, hr⟩ := deriveOuter_ok t o sim sp d _ h
  cases hr

/-! ### non-vacuity -/

/-- `struct S { a: bool, b: String }` -/
def exampleDecl : DeclD :=
  { ident := "S", attrs := [],
    body := .struct .named
      [ { ident := some "a", ty := .bool, tyToks := "bool", vis := "", attrs := [] },
        { ident := some "b", ty := .string, tyToks := "String", vis := "", attrs := [] } ] }

theorem exampleDecl_safe : DeclSafe exampleDecl := by
  intro f hf
  simp only [List.mem_cons, List.not_mem_nil, or_false] at hf
  rcases hf with rfl | rfl
  · exact ident_a_safe
  · exact ident_b_safe

example (t : Trait) (o : Oracle) (sim : String → Option (Nat × String)) (sp : DeclSpans) :
    (Options.derive t o sim sp exampleDecl).Returns :=
  derive_returns t o sim sp exampleDecl exampleDecl_safe

/-- the hypothesis is not redundant: `__` is not safe -/
example : ¬ IdentSafe "__" := fun h => F8_witness_underscores (h .camel)

end C06
