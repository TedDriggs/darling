import Darling.Error
import Darling.Spec.C03
import Darling.Spec.C04
import Darling.Lemmas.Error
import Darling.Props.C04
/-
  C03 — Errors carry the most specific source span and never lose it.
  Error algebra: a span once attached is never replaced; bundling,
  flattening and conversion to compiler diagnostics preserve each leaf's span or give it its
  enclosing bundle's span if it had none.  For all trees and all spans.
-/
open Spec.C03 Err

namespace C03

/-- a span once attached is never replaced (by a coarser or any other one) -/
theorem withSpan_keeps (e : Err) (s t : Span) (h : e.span = some s) : (e.withSpan t) = e :=
  withSpan_of_spanned (h ▸ Option.some_ne_none s) t

theorem withSpan_sets (e : Err) (t : Span) (h : e.span = none) : (e.withSpan t).span = some t := by
  rw [span_withSpan, h]; rfl

/-- first writer wins -/
theorem withSpan_first_wins (e : Err) (s t : Span) (h : e.span = none) :
    (e.withSpan s).withSpan t = e.withSpan s :=
  withSpan_keeps _ s t (withSpan_sets e s h)

theorem at_span (e : Err) (l : String) : (e.at l).span = e.span := by
  cases e <;> rfl

theorem span_inherit (k ls s sp) : ((Err.leaf k ls s).inheritSpan sp).span = s.or sp :=
  congrArg Err.span (inheritSpan_leaf_eq k ls s sp)

mutual
theorem intoVecP_spans (pre sp) (e : Err) : (intoVecP pre sp e).map Err.span = spansUnder sp e := by
  cases e with
  | leaf k ls s =>
      rw [intoVecP_leaf, spansUnder, List.map_singleton, span_inherit]
  | multi cs ls s =>
      rw [intoVecP_multi, spansUnder]
      exact intoVecListP_spans _ _ cs
theorem intoVecListP_spans (pre sp) (es : List Err) :
    (intoVecListP pre sp es).map Err.span = spansListUnder sp es := by
  cases es with
  | nil => rfl
  | cons c cs =>
      rw [intoVecListP_cons, List.map_append, intoVecP_spans pre sp c, intoVecListP_spans pre sp cs,
        spansListUnder]
end

/-- the items of a flattened error are the elements of `into_vec` -/
theorem flatten_intoIter {e f : Err} (hf : e.flatten = .ok f) : f.intoIter = intoVec e :=
  (C04.flatten_ok hf).1

/-- **flattening preserves each leaf's span, or gives it its enclosing bundle's span if it had
    none** — for every tree -/
theorem flatten_spans {e f : Err} (hf : e.flatten = .ok f) :
    f.intoIter.map Err.span = leafSpans e := by
  rw [flatten_intoIter hf]; exact intoVecP_spans [] none e

theorem synRow_fst (x : Err) : (synRow x).1 = x.span := by
  unfold synRow
  cases x.span with
  | none => rfl
  | some s => rfl

/-- conversion to compiler diagnostics places each diagnostic at that same span -/
theorem toSyn_spans {e : Err} (h : C04.Reachable e) : e.toSyn.map (·.1) = leafSpans e := by
  rw [C04.toSyn_rows h, List.map_map]
  exact (List.map_congr_left fun x _ => synRow_fst x).trans (intoVecP_spans [] none e)

theorem spansUnder_leaf_some (inh k ls) (s : Span) : spansUnder inh (.leaf k ls (some s)) = [some s] := by
  simp [spansUnder]

/-! non-vacuity: the nested-absence case (two missing fields inside a spanned nested item) -/
def nested : Err :=
  .multi [.leaf (.missingField "a") [] none, .leaf (.missingField "b") [] none] ["inner"] (some ⟨10, 17⟩)

example : leafSpans nested = [some ⟨10, 17⟩, some ⟨10, 17⟩] := by decide
example : nested.toSyn.map (·.1) = [some ⟨10, 17⟩, some ⟨10, 17⟩] := by decide

end C03
