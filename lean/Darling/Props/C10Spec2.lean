import Darling.Props.C10Spec
import Darling.Props.C06Derive
/-
  C10, positional form, part 2 — the *container* options and the whole declaration.

  Container options.  One vocabulary `ContKw`, read through a `Dialect`: `Core` alone, an
  element-level derive (`OuterFrom` + `supports`, `Options.outerTraitStep t`), or `FromMetaOptions`
  (`Options.fromMetaStep`); the last two hand every item that is not their own to `Core`
  (`Options.coreStep` through `liftCore`).
  What the code does, as the specification says it: `default`, `map`/`and_then`,
  `allow_unknown_fields`, `from_word`, `from_none` may be given once (the first read wins, a repeat is
  `Duplicate field` — spanned at the *path* for `from_word`/`from_none`); `rename_all`, `attributes`,
  `forward_attrs`, `supports` may be repeated, the last read wins; `bound` is read and dropped;
  `from_ident` has no reader at all and also *is* a container default — so `default` after `from_ident`
  is a duplicate while `from_ident` after `default` silently replaces it.  That is one of two rules that depend
  on order (`ContWellFormed.defaultFirst`); the other is `FromAttributes`' need of a non-empty `attributes(..)`,
  where the *last* `attributes` item read counts (last clause of `OuterDeclOk`, stated through `outerStateP`).

  The whole declaration.  Under `C06.DeclSafe d`, the derive emits an impl ⟺ `FromMetaDeclOk o d` /
  `OuterDeclOk t o sim d`, and reports diagnostics otherwise (`derive_ok_iff`, `derive_rejects_iff`).
  For a forwarded field (`attrs` / `data`) `BodyFieldOk` asks that the model's `forwardedFromField`
  succeeds, which `forwardedFromField_ok_iff` spells out as a condition on its `with` option.  The
  `flatten` rule (`C10.flattenErrs_nil_iff` of `C10.lean`) applies to a struct body and to the field
  list of every variant.
-/
open Options Wrappers Scalars SynTypes

namespace C10

/-! ## container options: one item, whatever its position -/

/-- who reads the container attributes: `Core` alone, an element-level derive (`OuterFrom`, plus
    `supports` for `FromDeriveInput` / `FromVariant`), or `FromMetaOptions` -/
inductive Dialect where
  | core
  | outer (t : Trait)
  | fromMeta

inductive ContKw where
  | default | renameAll | map | andThen | bound | allowUnknown            -- `Core`
  | attributes | forwardAttrs | fromIdent | supportsDI | supportsV         -- `OuterFrom`, `supports`
  | fromWord | fromNone                                                    -- `FromMetaOptions`
  deriving DecidableEq, Repr

def ContKw.name : ContKw → String
  | .default => "default" | .renameAll => "rename_all" | .map => "map" | .andThen => "and_then"
  | .bound => "bound" | .allowUnknown => "allow_unknown_fields" | .attributes => "attributes"
  | .forwardAttrs => "forward_attrs" | .fromIdent => "from_ident" | .supportsDI => "supports"
  | .supportsV => "supports" | .fromWord => "from_word" | .fromNone => "from_none"

/-- the options of `Core` (same tests, same order as `Core::parse_nested`) -/
def coreKw (mi : Meta) : Option ContKw :=
  if mi.path'.isIdent "default" then some .default
  else if mi.path'.isIdent "rename_all" then some .renameAll
  else if mi.path'.isIdent "map" then some .map
  else if mi.path'.isIdent "and_then" then some .andThen
  else if mi.path'.isIdent "bound" then some .bound
  else if mi.path'.isIdent "allow_unknown_fields" then some .allowUnknown
  else none

/-- which option an item spells for a given reader (the reader's own options first, then `Core`'s) -/
def contKw : Dialect → Meta → Option ContKw
  | .core, mi => coreKw mi
  | .outer t, mi =>
      if mi.path'.isIdent "supports" && t == .fromDeriveInput then some .supportsDI
      else if mi.path'.isIdent "supports" && t == .fromVariant then some .supportsV
      else if mi.path'.isIdent "attributes" then some .attributes
      else if mi.path'.isIdent "forward_attrs" then some .forwardAttrs
      else if mi.path'.isIdent "from_ident" then some .fromIdent
      else coreKw mi
  | .fromMeta, mi =>
      if mi.path'.isIdent "from_word" then some .fromWord
      else if mi.path'.isIdent "from_none" then some .fromNone
      else coreKw mi

/-- what an option's reader hands back -/
inductive ContVal where
  | default (v : DefaultExpr)
  | renameAll (v : RenameRule)
  | post (f : String)
  | bound
  | allowUnknown (v : Option Bool)
  | attributes (v : List String)
  | forwardAttrs (v : Option FwdFilter)
  | fromIdent (sp : Span)
  | supportsDI (v : Option DISS)
  | supportsV (v : Option DataShape)
  | fromWord (c : String) (sp : Span)
  | fromNone (c : String)

/-- the span remembered with `from_word`: the value expression of `from_word = …`, else the item -/
def fromWordSpan (mi : Meta) : Span :=
  match mi with
  | .nameValue _ e _ _ => e.span
  | m => m.span

/-- the reader of option `k` applied to the item.  `from_ident` has none: whatever follows the word
    is ignored. -/
def contReadR (o : Oracle) (k : ContKw) (mi : Meta) : Outcome ContVal :=
  match k with
  | .default => (defaultFromMeta o mi).map .default
  | .renameAll => (readRenameRule mi).map .renameAll
  | .map => (readPath o mi).map .post
  | .andThen => (readPath o mi).map .post
  | .bound => (readOptWherePreds o mi).map (fun _ => .bound)
  | .allowUnknown => (readOptBool mi).map .allowUnknown
  | .attributes => (readPathList mi).map .attributes
  | .forwardAttrs => (readOptFwd mi).map .forwardAttrs
  | .fromIdent => .ok (.fromIdent mi.path'.span)
  | .supportsDI => (readOptDISS mi).map .supportsDI
  | .supportsV => (readOptDataShape mi).map .supportsV
  | .fromWord => (readCallable mi).map (fun c => .fromWord c (fromWordSpan mi))
  | .fromNone => (readCallable mi).map .fromNone

def contRead (dl : Dialect) (o : Oracle) (mi : Meta) : Option ContVal :=
  match contKw dl mi with
  | some k => (match contReadR o k mi with | .ok v => some v | _ => none)
  | none => none

def contReadErr (dl : Dialect) (o : Oracle) (mi : Meta) : Option Err :=
  match contKw dl mi with
  | some k => (match contReadR o k mi with | .err e => some e | _ => none)
  | none => none

/-- the storage an option writes: `map` and `and_then` share one -/
def ContKw.slot : ContKw → ContKw
  | .andThen => .map
  | k => k

/-- the slot an item writes: known option, successful read -/
def contWrites (dl : Dialect) (o : Oracle) (mi : Meta) : Option ContKw :=
  match contKw dl mi with
  | some k => if (contRead dl o mi).isSome then some k.slot else none
  | none => none

/-! ## an item among the items before it -/

/-- the first / the last earlier item that writes a slot -/
def firstEff (dl : Dialect) (o : Oracle) (pre : List Meta) (sl : ContKw) : Option Meta :=
  pre.find? (fun m => contWrites dl o m == some sl)
def lastEff (dl : Dialect) (o : Oracle) (pre : List Meta) (sl : ContKw) : Option Meta :=
  pre.reverse.find? (fun m => contWrites dl o m == some sl)

/-- `Error::duplicate_field_path(path).with_span(path)` — `FromMetaOptions` spans the *path* -/
def dupErrAtPath (mi : Meta) : Err := (Err.new (.duplicateField mi.path'.toStr)).withSpan mi.path'.span

/-- is a container default already in force?  `default` read earlier, **or `from_ident` seen** -/
def dfltHeld (dl : Dialect) (o : Oracle) (pre : List Meta) : Bool :=
  (firstEff dl o pre .default).isSome || (lastEff dl o pre .fromIdent).isSome

/-- the complaint (if any) about a repeat.  Only `default`, `map`/`and_then`,
    `allow_unknown_fields`, `from_word`, `from_none` may not be repeated; `rename_all`, `bound`,
    `attributes`, `forward_attrs`, `from_ident`, `supports` may. -/
def contRepeat (dl : Dialect) (o : Oracle) (pre : List Meta) (k : ContKw) (mi : Meta) : Option Err :=
  match k with
  | .default => if dfltHeld dl o pre then some (dupErr mi) else none
  | .map => (firstEff dl o pre .map).map fun holder =>
      if contKw dl holder = some .andThen then exclusiveErr "map" "and_then" mi else dupErr mi
  | .andThen => (firstEff dl o pre .map).map fun holder =>
      if contKw dl holder = some .map then exclusiveErr "and_then" "map" mi else dupErr mi
  | .allowUnknown => if (firstEff dl o pre .allowUnknown).isSome then some (dupErr mi) else none
  | .fromWord => if (firstEff dl o pre .fromWord).isSome then some (dupErrAtPath mi) else none
  | .fromNone => if (firstEff dl o pre .fromNone).isSome then some (dupErrAtPath mi) else none
  | _ => none

/-- the one error (if any) item `mi` pushes, given the items `pre` before it -/
def contPush (dl : Dialect) (o : Oracle) (pre : List Meta) (mi : Meta) : Option Err :=
  match contKw dl mi with
  | none => some (unknownErr mi)
  | some k =>
      match contRepeat dl o pre k mi with
      | some e => some e
      | none =>
          match contRead dl o mi with
          | some _ => none
          | none => contReadErr dl o mi

/-- **the verdict on one container item** -/
def contVerdict (dl : Dialect) (o : Oracle) (pre : List Meta) (mi : Meta) : List Err := (contPush dl o pre mi).toList

/-- the container default in force: `Default::default()` spanned at the last `from_ident` if there
    is one, else the first `default` read -/
def contDflt (dl : Dialect) (o : Oracle) (pre : List Meta) : Option DefaultExpr :=
  match lastEff dl o pre .fromIdent with
  | some m => some (.trait_ m.path'.span)
  | none => match (firstEff dl o pre .default).bind (contRead dl o) with
      | some (.default v) => some v
      | _ => none

/-- `Core` after `pre`, starting from rename rule `r0`: first `default` / transformer /
    `allow_unknown_fields`, **last** `rename_all` -/
def coreStateP (dl : Dialect) (o : Oracle) (r0 : RenameRule) (pre : List Meta) : CoreOpts :=
  { dflt := contDflt dl o pre
    renameRule := match (lastEff dl o pre .renameAll).bind (contRead dl o) with | some (.renameAll v) => v | _ => r0
    post := match firstEff dl o pre .map with
      | some m => (match contRead dl o m with
          | some (.post f) => some ⟨if contKw dl m = some .map then "map" else "and_then", f⟩
          | _ => none)
      | none => none
    allowUnknown := match (firstEff dl o pre .allowUnknown).bind (contRead dl o) with
      | some (.allowUnknown v) => v | _ => none }

/-- `OuterFrom` (+ `supports`) after `pre`: the **last** `attributes` / `forward_attrs` / `supports` -/
def outerStateP (t : Trait) (o : Oracle) (pre : List Meta) : OuterOpts :=
  { core := coreStateP (.outer t) o .none pre
    attrNames := match (lastEff (.outer t) o pre .attributes).bind (contRead (.outer t) o) with
      | some (.attributes v) => v | _ => []
    forward := match (lastEff (.outer t) o pre .forwardAttrs).bind (contRead (.outer t) o) with
      | some (.forwardAttrs v) => v | _ => none
    fromIdent := (lastEff (.outer t) o pre .fromIdent).isSome
    supports := match (lastEff (.outer t) o pre .supportsDI).bind (contRead (.outer t) o) with
      | some (.supportsDI v) => v | _ => none
    vsupports := match (lastEff (.outer t) o pre .supportsV).bind (contRead (.outer t) o) with
      | some (.supportsV v) => v | _ => none }

/-- `FromMetaOptions` after `pre`: the first `from_word` / `from_none` -/
def fromMetaStateP (o : Oracle) (r0 : RenameRule) (pre : List Meta) : FromMetaOpts :=
  { core := coreStateP .fromMeta o r0 pre
    fromWord := match (firstEff .fromMeta o pre .fromWord).bind (contRead .fromMeta o) with
      | some (.fromWord c sp) => some (c, sp) | _ => none
    fromNone := match (firstEff .fromMeta o pre .fromNone).bind (contRead .fromMeta o) with
      | some (.fromNone c) => some c | _ => none }


/-! ## the keyword tests -/

theorem getIdent_of_coreKw (mi : Meta) (k : ContKw) (h : coreKw mi = some k) : mi.path'.getIdent = some k.name :=
  ite_some_elim k h beq_iff_eq.mp fun h =>
  ite_some_elim k h beq_iff_eq.mp fun h =>
  ite_some_elim k h beq_iff_eq.mp fun h =>
  ite_some_elim k h beq_iff_eq.mp fun h =>
  ite_some_elim k h beq_iff_eq.mp fun h =>
  ite_some_elim k h beq_iff_eq.mp fun h => nomatch h

theorem coreKw_cases (mi : Meta) (k : ContKw) (h : coreKw mi = some k) :
    k = .default ∨ k = .renameAll ∨ k = .map ∨ k = .andThen ∨ k = .bound ∨ k = .allowUnknown :=
  ite_some_elim k h (fun _ => .inl rfl) fun h =>
  ite_some_elim k h (fun _ => .inr (.inl rfl)) fun h =>
  ite_some_elim k h (fun _ => .inr (.inr (.inl rfl))) fun h =>
  ite_some_elim k h (fun _ => .inr (.inr (.inr (.inl rfl)))) fun h =>
  ite_some_elim k h (fun _ => .inr (.inr (.inr (.inr (.inl rfl))))) fun h =>
  ite_some_elim k h (fun _ => .inr (.inr (.inr (.inr (.inr rfl))))) fun h => nomatch h

theorem toStr_of_getIdent (p : Path) (n : String) (h : p.getIdent = some n) : p.toStr = n := by
  unfold Path.getIdent at h
  split at h
  · rename_i s hg hs hp
    cases h
    simp only [Path.toStr, hs]
    rfl
  · cases h

/-- for an item spelled as a plain identifier, `Duplicate field` names that identifier -/
theorem dupErr_of_isIdent (mi : Meta) (n : String) (h : mi.path'.isIdent n = true) :
    (Err.new (.duplicateField n)).withSpan mi.span = dupErr mi := by
  rw [dupErr, toStr_of_getIdent _ _ (beq_iff_eq.mp h)]

/-- **`Core::parse_nested` dispatches on `coreKw`**: the same tests, in the same order -/
theorem coreStep_eq (o : Oracle) (s : CoreOpts) (mi : Meta) :
    coreStep o s mi = match coreKw mi with
      | some .default =>
          if s.dflt.isSome then .err s (dupErr mi) else
          withRead s (defaultFromMeta o mi) fun v => .ok { s with dflt := some v }
      | some .renameAll => withRead s (readRenameRule mi) fun v => .ok { s with renameRule := v }
      | some .map => (match s.post with
          | some pt => .err s (if "map" == pt.transformer then dupErr mi else exclusiveErr "map" pt.transformer mi)
          | none => withRead s (readPath o mi) fun f => .ok { s with post := some ⟨"map", f⟩ })
      | some .andThen => (match s.post with
          | some pt => .err s (if "and_then" == pt.transformer then dupErr mi else exclusiveErr "and_then" pt.transformer mi)
          | none => withRead s (readPath o mi) fun f => .ok { s with post := some ⟨"and_then", f⟩ })
      | some .bound => withRead s (readOptWherePreds o mi) fun _ => .ok s
      | some .allowUnknown =>
          if s.allowUnknown.isSome then .err s (dupErr mi) else
          withRead s (readOptBool mi) fun v => .ok { s with allowUnknown := v }
      | _ => .err s (unknownErr mi) := by
  simp only [coreStep, coreKw]
  by_cases a : mi.path'.isIdent "default" = true
  · rw [if_pos a, if_pos a, dupErr_of_isIdent mi _ a]
  rw [if_neg a, if_neg a]
  by_cases b : mi.path'.isIdent "rename_all" = true
  · rw [if_pos b, if_pos b]
  rw [if_neg b, if_neg b]
  by_cases c : mi.path'.isIdent "map" = true
  · rw [if_pos c]
    simp only [c, Bool.true_or, if_true]
    rw [dupErr_of_isIdent mi _ c]
    cases s.post with
    | none => rfl
    | some pt => cases h : "map" == pt.transformer <;> simp only [h, if_true, Bool.false_eq_true, if_false]
  rw [if_neg c]
  by_cases d : mi.path'.isIdent "and_then" = true
  · rw [if_pos d]
    simp only [Bool.eq_false_iff.mpr c, d, Bool.false_or, if_true, Bool.false_eq_true, if_false]
    rw [dupErr_of_isIdent mi _ d]
    cases s.post with
    | none => rfl
    | some pt => cases h : "and_then" == pt.transformer <;> simp only [h, if_true, Bool.false_eq_true, if_false]
  rw [if_neg d]
  simp only [Bool.eq_false_iff.mpr c, Bool.eq_false_iff.mpr d, Bool.false_or, Bool.false_eq_true, if_false]
  by_cases e : mi.path'.isIdent "bound" = true
  · rw [if_pos e, if_pos e]
  rw [if_neg e, if_neg e]
  by_cases f : mi.path'.isIdent "allow_unknown_fields" = true
  · rw [if_pos f, if_pos f, dupErr_of_isIdent mi _ f]
  · rw [if_neg f, if_neg f]


theorem contReadR_returns (o : Oracle) (k : ContKw) (mi : Meta) : (contReadR o k mi).Returns := by
  cases k <;> simp only [contReadR]
  · exact (C06.defaultFromMeta_returns o mi).map _
  · exact (C06.readRenameRule_returns mi).map _
  · exact (C06.readPath_returns o mi).map _
  · exact (C06.readPath_returns o mi).map _
  · exact (C06.readOptWherePreds_returns o mi).map _
  · exact (C06.readOptBool_returns mi).map _
  · exact (C06.readPathList_returns mi).map _
  · exact (C06.readOptFwd_returns mi).map _
  · exact Outcome.returns_ok _
  · exact (C06.readOptDISS_returns mi).map _
  · exact (C06.readOptDataShape_returns mi).map _
  · exact (C06.readCallable_returns mi).map _
  · exact (C06.readCallable_returns mi).map _

/-! ### first / last effective occurrence -/

theorem firstEff_snoc (dl : Dialect) (o : Oracle) (pre : List Meta) (mi : Meta) (sl : ContKw) :
    firstEff dl o (pre ++ [mi]) sl = (firstEff dl o pre sl).or (if contWrites dl o mi = some sl then some mi else none) := by
  simp only [firstEff, List.find?_append, List.find?_cons, List.find?_nil]
  congr 1
  by_cases h : contWrites dl o mi = some sl
  · simp [h]
  · have : (contWrites dl o mi == some sl) = false := by simpa using h
    simp [h, this]

theorem lastEff_snoc (dl : Dialect) (o : Oracle) (pre : List Meta) (mi : Meta) (sl : ContKw) :
    lastEff dl o (pre ++ [mi]) sl = if contWrites dl o mi = some sl then some mi else lastEff dl o pre sl := by
  simp only [lastEff, List.reverse_append, List.reverse_cons, List.reverse_nil, List.nil_append, List.cons_append,
    List.find?_cons]
  by_cases h : contWrites dl o mi = some sl
  · simp [h]
  · have : (contWrites dl o mi == some sl) = false := by simpa using h
    simp [h, this]

/-- … when the new item writes slot `sl0` -/
theorem firstEff_snoc_writes (dl : Dialect) (o : Oracle) (pre : List Meta) (mi : Meta) (sl0 : ContKw)
    (h : contWrites dl o mi = some sl0) (sl : ContKw) :
    firstEff dl o (pre ++ [mi]) sl = (firstEff dl o pre sl).or (if sl0 = sl then some mi else none) := by
  simp only [firstEff_snoc, h, Option.some.injEq]

theorem lastEff_snoc_writes (dl : Dialect) (o : Oracle) (pre : List Meta) (mi : Meta) (sl0 : ContKw)
    (h : contWrites dl o mi = some sl0) (sl : ContKw) :
    lastEff dl o (pre ++ [mi]) sl = if sl0 = sl then some mi else lastEff dl o pre sl := by
  simp only [lastEff_snoc, h, Option.some.injEq]

theorem firstEff_writes (dl : Dialect) (o : Oracle) (pre : List Meta) (sl : ContKw) (m : Meta)
    (h : firstEff dl o pre sl = some m) : contWrites dl o m = some sl := by
  have := List.find?_some h
  simpa using this

theorem lastEff_writes (dl : Dialect) (o : Oracle) (pre : List Meta) (sl : ContKw) (m : Meta)
    (h : lastEff dl o pre sl = some m) : contWrites dl o m = some sl := by
  have := List.find?_some h
  simpa using this

theorem contWrites_eq_some (dl : Dialect) (o : Oracle) (m : Meta) (sl : ContKw) (h : contWrites dl o m = some sl) :
    ∃ k v, contKw dl m = some k ∧ k.slot = sl ∧ contRead dl o m = some v ∧ contReadR o k m = .ok v := by
  unfold contWrites at h
  cases hk : contKw dl m with
  | none => rw [hk] at h; cases h
  | some k =>
      rw [hk] at h
      simp only [] at h
      cases hr : contRead dl o m with
      | none => rw [hr] at h; cases h
      | some v =>
          rw [hr] at h
          simp only [Option.isSome_some, if_true, Option.some.injEq] at h
          refine ⟨k, v, rfl, h, rfl, ?_⟩
          unfold contRead at hr
          rw [hk] at hr
          simp only [] at hr
          split at hr
          · cases hr; assumption
          · cases hr

theorem contRead_of_ok (dl : Dialect) (o : Oracle) (mi : Meta) (k : ContKw) (v : ContVal) (hk : contKw dl mi = some k)
    (hr : contReadR o k mi = .ok v) : contRead dl o mi = some v ∧ contWrites dl o mi = some k.slot := by
  have h1 : contRead dl o mi = some v := by simp [contRead, hk, hr]
  exact ⟨h1, by simp [contWrites, hk, h1]⟩

theorem contRead_of_err (dl : Dialect) (o : Oracle) (mi : Meta) (k : ContKw) (e : Err) (hk : contKw dl mi = some k)
    (hr : contReadR o k mi = .err e) :
    contRead dl o mi = none ∧ contReadErr dl o mi = some e ∧ contWrites dl o mi = none := by
  have h1 : contRead dl o mi = none := by simp [contRead, hk, hr]
  exact ⟨h1, by simp [contReadErr, hk, hr], by simp [contWrites, hk, h1]⟩

theorem held_cdefault (dl : Dialect) (o : Oracle) (pre : List Meta) (m : Meta) (h : firstEff dl o pre .default = some m) :
    ∃ x, contRead dl o m = some (.default x) := by
  obtain ⟨k, v, hk, hsl, hrd, hR⟩ := contWrites_eq_some dl o m _ (firstEff_writes dl o pre _ m h)
  cases k <;> simp only [ContKw.slot, reduceCtorEq] at hsl
  obtain ⟨a, ha, rfl⟩ := map_eq_ok hR
  exact ⟨a, hrd⟩

theorem held_cpost (dl : Dialect) (o : Oracle) (pre : List Meta) (m : Meta) (h : firstEff dl o pre .map = some m) :
    ∃ f, (contKw dl m = some .map ∨ contKw dl m = some .andThen) ∧ contRead dl o m = some (.post f) := by
  obtain ⟨k, v, hk, hsl, hrd, hR⟩ := contWrites_eq_some dl o m _ (firstEff_writes dl o pre _ m h)
  cases k <;> simp only [ContKw.slot, reduceCtorEq] at hsl
  · obtain ⟨a, ha, rfl⟩ := map_eq_ok hR
    exact ⟨a, .inl hk, hrd⟩
  · obtain ⟨a, ha, rfl⟩ := map_eq_ok hR
    exact ⟨a, .inr hk, hrd⟩

theorem held_callowUnknown (dl : Dialect) (o : Oracle) (pre : List Meta) (m : Meta)
    (h : firstEff dl o pre .allowUnknown = some m) : ∃ x, contRead dl o m = some (.allowUnknown (some x)) := by
  obtain ⟨k, v, hk, hsl, hrd, hR⟩ := contWrites_eq_some dl o m _ (firstEff_writes dl o pre _ m h)
  cases k <;> simp only [ContKw.slot, reduceCtorEq] at hsl
  obtain ⟨a, ha, rfl⟩ := map_eq_ok hR
  obtain ⟨x, rfl⟩ := readOptBool_some m a ha
  exact ⟨x, hrd⟩

theorem held_cfromWord (dl : Dialect) (o : Oracle) (pre : List Meta) (m : Meta)
    (h : firstEff dl o pre .fromWord = some m) : ∃ c sp, contRead dl o m = some (.fromWord c sp) := by
  obtain ⟨k, v, hk, hsl, hrd, hR⟩ := contWrites_eq_some dl o m _ (firstEff_writes dl o pre _ m h)
  cases k <;> simp only [ContKw.slot, reduceCtorEq] at hsl
  obtain ⟨a, ha, rfl⟩ := map_eq_ok hR
  exact ⟨a, _, hrd⟩

theorem held_cfromNone (dl : Dialect) (o : Oracle) (pre : List Meta) (m : Meta)
    (h : firstEff dl o pre .fromNone = some m) : ∃ c, contRead dl o m = some (.fromNone c) := by
  obtain ⟨k, v, hk, hsl, hrd, hR⟩ := contWrites_eq_some dl o m _ (firstEff_writes dl o pre _ m h)
  cases k <;> simp only [ContKw.slot, reduceCtorEq] at hsl
  obtain ⟨a, ha, rfl⟩ := map_eq_ok hR
  exact ⟨a, hrd⟩

/-! ### the `Core` state, field by field -/

theorem cstate_dflt_isSome (dl : Dialect) (o : Oracle) (r0 : RenameRule) (pre : List Meta) :
    (coreStateP dl o r0 pre).dflt.isSome = dfltHeld dl o pre := by
  simp only [coreStateP, contDflt, dfltHeld]
  cases hl : lastEff dl o pre .fromIdent with
  | some m => simp
  | none =>
      cases hf : firstEff dl o pre .default with
      | none => simp
      | some m =>
          obtain ⟨x, hr⟩ := held_cdefault dl o pre m hf
          simp [hr]

theorem cstate_allowUnknown_isSome (dl : Dialect) (o : Oracle) (r0 : RenameRule) (pre : List Meta) :
    (coreStateP dl o r0 pre).allowUnknown.isSome = (firstEff dl o pre .allowUnknown).isSome := by
  cases h : firstEff dl o pre .allowUnknown with
  | none => simp only [coreStateP, h, Option.bind_none, Option.isSome_none]
  | some m =>
      obtain ⟨x, hr⟩ := held_callowUnknown dl o pre m h
      simp only [coreStateP, h, hr, Option.bind_some, Option.isSome_some]

/-- an item that writes nothing leaves `Core` as it is -/
theorem coreStateP_snoc_inert (dl : Dialect) (o : Oracle) (r0 : RenameRule) (pre : List Meta) (mi : Meta)
    (h : contWrites dl o mi = none) : coreStateP dl o r0 (pre ++ [mi]) = coreStateP dl o r0 pre := by
  simp only [coreStateP, contDflt, firstEff_snoc, lastEff_snoc, h, reduceCtorEq, if_false, Option.or_none]


/-! ### `Core::parse_nested` is the positional verdict (in every dialect) -/

/-- **the shape every container option's reader has**, whatever the chain's state `state`: when the
    option is already held (`held`) the item is refused with `e` and changes nothing; otherwise the value read
    is stored by `set`, and a value that does not read is reported and changes nothing.  What the caller owes
    is how the positional state moves when the item writes its slot.  For an option that may be repeated
    `held` is `false` and `e` is immaterial. -/
theorem step_positional {σ β : Type} (state : List Meta → σ) (dl : Dialect) (o : Oracle) (pre : List Meta) (mi : Meta)
    (k : ContKw) (hk : contKw dl mi = some k) (r : Outcome β) (C : β → ContVal) (hR : contReadR o k mi = r.map C)
    (set : σ → β → σ) (held : Bool) (e : Err) (hrep : contRepeat dl o pre k mi = if held then some e else none)
    (hinert : contWrites dl o mi = none → state (pre ++ [mi]) = state pre)
    (hkeep : held = true → contWrites dl o mi = some k.slot → state (pre ++ [mi]) = state pre)
    (hset : held = false → ∀ a, contRead dl o mi = some (C a) → contWrites dl o mi = some k.slot →
      state (pre ++ [mi]) = set (state pre) a) :
    (if held then .err (state pre) e else withRead (state pre) r fun v => .ok (set (state pre) v))
      = stepOf (state (pre ++ [mi])) (contPush dl o pre mi) := by
  cases hr : r with
  | ok a =>
      obtain ⟨h1, h2⟩ := contRead_of_ok dl o mi k (C a) hk (by rw [hR, hr]; rfl)
      cases held with
      | true =>
          rw [hkeep rfl h2]
          simp [contPush, hk, hrep, stepOf]
      | false =>
          rw [hset rfl a h1 h2]
          simp [withRead, contPush, hk, hrep, h1, stepOf]
  | err e' =>
      obtain ⟨h1, h2, h3⟩ := contRead_of_err dl o mi k e' hk (by rw [hR, hr]; rfl)
      rw [hinert h3]
      cases held <;> simp [withRead, contPush, hk, hrep, h1, h2, stepOf]
  | panic p => exact absurd (by rw [hR, hr]; rfl) (contReadR_returns o k mi p)

theorem cstep_default (dl : Dialect) (o : Oracle) (r0 : RenameRule) (pre : List Meta) (mi : Meta)
    (hk : contKw dl mi = some .default) :
    (if (coreStateP dl o r0 pre).dflt.isSome then .err (coreStateP dl o r0 pre) (dupErr mi) else
      withRead (coreStateP dl o r0 pre) (defaultFromMeta o mi) fun v => .ok { coreStateP dl o r0 pre with dflt := some v })
      = stepOf (coreStateP dl o r0 (pre ++ [mi])) (contPush dl o pre mi) := by
  rw [cstate_dflt_isSome]
  refine step_positional (coreStateP dl o r0) dl o pre mi .default hk (defaultFromMeta o mi) .default rfl
    (fun s v => { s with dflt := some v }) (dfltHeld dl o pre) (dupErr mi) rfl (coreStateP_snoc_inert dl o r0 pre mi)
    (fun hh h2 => ?_) (fun hh a h1 h2 => ?_)
  · simp only [dfltHeld, Bool.or_eq_true] at hh
    cases hl : lastEff dl o pre .fromIdent with
    | some m =>
        simp only [coreStateP, contDflt, firstEff_snoc_writes dl o pre mi _ h2, lastEff_snoc_writes dl o pre mi _ h2,
          ContKw.slot, hl, reduceCtorEq, if_false, Option.or_none]
    | none =>
        rw [hl] at hh
        simp only [Option.isSome_none, Bool.false_eq_true, or_false] at hh
        obtain ⟨m, hm⟩ := Option.isSome_iff_exists.mp hh
        simp only [coreStateP, contDflt, firstEff_snoc_writes dl o pre mi _ h2, lastEff_snoc_writes dl o pre mi _ h2,
          ContKw.slot, hl, hm, reduceCtorEq, if_false, if_true, Option.or_none, Option.or_some, Option.getD_some,
          Option.bind_some]
  · simp only [dfltHeld, Bool.or_eq_false_iff, Option.isSome_eq_false_iff, Option.isNone_iff_eq_none] at hh
    simp only [coreStateP, contDflt, firstEff_snoc_writes dl o pre mi _ h2, lastEff_snoc_writes dl o pre mi _ h2, ContKw.slot,
      hh.1, hh.2, h1, reduceCtorEq, if_false, if_true, Option.or_none, Option.or_some, Option.getD_none, Option.bind_some]

theorem cstep_renameAll (dl : Dialect) (o : Oracle) (r0 : RenameRule) (pre : List Meta) (mi : Meta)
    (hk : contKw dl mi = some .renameAll) :
    (withRead (coreStateP dl o r0 pre) (readRenameRule mi) fun v => .ok { coreStateP dl o r0 pre with renameRule := v })
      = stepOf (coreStateP dl o r0 (pre ++ [mi])) (contPush dl o pre mi) :=
  step_positional (coreStateP dl o r0) dl o pre mi .renameAll hk (readRenameRule mi) .renameAll rfl
    (fun s v => { s with renameRule := v }) false (dupErr mi) rfl (coreStateP_snoc_inert dl o r0 pre mi) nofun
    (fun _ a h1 h2 => by
      simp only [coreStateP, contDflt, firstEff_snoc_writes dl o pre mi _ h2, lastEff_snoc_writes dl o pre mi _ h2, ContKw.slot,
        reduceCtorEq, if_false, if_true, Option.or_none, Option.bind_some, h1])

theorem cstep_bound (dl : Dialect) (o : Oracle) (r0 : RenameRule) (pre : List Meta) (mi : Meta)
    (hk : contKw dl mi = some .bound) :
    (withRead (coreStateP dl o r0 pre) (readOptWherePreds o mi) fun _ => .ok (coreStateP dl o r0 pre))
      = stepOf (coreStateP dl o r0 (pre ++ [mi])) (contPush dl o pre mi) :=
  step_positional (coreStateP dl o r0) dl o pre mi .bound hk (readOptWherePreds o mi) (fun _ => .bound) rfl
    (fun s _ => s) false (dupErr mi) rfl (coreStateP_snoc_inert dl o r0 pre mi) nofun
    (fun _ a h1 h2 => by simp only [coreStateP, contDflt, firstEff_snoc_writes dl o pre mi _ h2,
      lastEff_snoc_writes dl o pre mi _ h2, ContKw.slot, reduceCtorEq, if_false, Option.or_none])

theorem cstep_allowUnknown (dl : Dialect) (o : Oracle) (r0 : RenameRule) (pre : List Meta) (mi : Meta)
    (hk : contKw dl mi = some .allowUnknown) :
    (if (coreStateP dl o r0 pre).allowUnknown.isSome then .err (coreStateP dl o r0 pre) (dupErr mi) else
      withRead (coreStateP dl o r0 pre) (readOptBool mi) fun v => .ok { coreStateP dl o r0 pre with allowUnknown := v })
      = stepOf (coreStateP dl o r0 (pre ++ [mi])) (contPush dl o pre mi) := by
  rw [cstate_allowUnknown_isSome]
  refine step_positional (coreStateP dl o r0) dl o pre mi .allowUnknown hk (readOptBool mi) .allowUnknown rfl
    (fun s v => { s with allowUnknown := v }) (firstEff dl o pre .allowUnknown).isSome (dupErr mi) rfl
    (coreStateP_snoc_inert dl o r0 pre mi) (fun hh h2 => ?_) (fun hh a h1 h2 => ?_)
  · obtain ⟨m, he⟩ := Option.isSome_iff_exists.mp hh
    simp only [coreStateP, contDflt, firstEff_snoc_writes dl o pre mi _ h2, lastEff_snoc_writes dl o pre mi _ h2, ContKw.slot,
      he, reduceCtorEq, if_false, if_true, Option.or_none, Option.or_some, Option.getD_some, Option.bind_some]
  · have he : firstEff dl o pre .allowUnknown = none := by simpa using hh
    simp only [coreStateP, contDflt, firstEff_snoc_writes dl o pre mi _ h2, lastEff_snoc_writes dl o pre mi _ h2, ContKw.slot,
      he, h1, reduceCtorEq, if_false, if_true, Option.or_none, Option.or_some, Option.getD_none, Option.bind_some]

theorem contRepeat_post (dl : Dialect) (o : Oracle) (pre : List Meta) (mi : Meta) (k : ContKw) (tr : String)
    (hkt : k = .map ∧ tr = "map" ∨ k = .andThen ∧ tr = "and_then") (holder : Meta)
    (he : firstEff dl o pre .map = some holder)
    (hkw : contKw dl holder = some .map ∨ contKw dl holder = some .andThen) :
    contRepeat dl o pre k mi = some
      (if tr == (if contKw dl holder = some .map then "map" else "and_then") then dupErr mi
       else exclusiveErr tr (if contKw dl holder = some .map then "map" else "and_then") mi) := by
  rcases hkt with ⟨rfl, rfl⟩ | ⟨rfl, rfl⟩
  · rcases hkw with h | h
    · simp [contRepeat, he, h]
    · simp [contRepeat, he, h]
  · rcases hkw with h | h
    · simp [contRepeat, he, h]
    · simp [contRepeat, he, h]

theorem cstep_post (dl : Dialect) (o : Oracle) (r0 : RenameRule) (pre : List Meta) (mi : Meta) (k : ContKw) (tr : String)
    (hk : contKw dl mi = some k) (hkt : k = .map ∧ tr = "map" ∨ k = .andThen ∧ tr = "and_then") :
    (match (coreStateP dl o r0 pre).post with
      | some pt => .err (coreStateP dl o r0 pre) (if tr == pt.transformer then dupErr mi else exclusiveErr tr pt.transformer mi)
      | none => withRead (coreStateP dl o r0 pre) (readPath o mi) fun f =>
          .ok { coreStateP dl o r0 pre with post := some ⟨tr, f⟩ })
      = stepOf (coreStateP dl o r0 (pre ++ [mi])) (contPush dl o pre mi) := by
  have hsl : k.slot = .map := by rcases hkt with ⟨rfl, _⟩ | ⟨rfl, _⟩ <;> rfl
  have hR : contReadR o k mi = (readPath o mi).map .post := by rcases hkt with ⟨rfl, _⟩ | ⟨rfl, _⟩ <;> rfl
  cases he : firstEff dl o pre .map with
  | some holder =>
      obtain ⟨f, hkw, hrd⟩ := held_cpost dl o pre holder he
      have hp : (coreStateP dl o r0 pre).post = some ⟨if contKw dl holder = some .map then "map" else "and_then", f⟩ := by
        simp only [coreStateP, he, hrd]
      rw [hp]
      refine step_positional (coreStateP dl o r0) dl o pre mi k hk (readPath o mi) .post hR
        (fun s f => { s with post := some ⟨tr, f⟩ }) true _ ?_ (coreStateP_snoc_inert dl o r0 pre mi) (fun _ h2 => ?_) nofun
      · rw [contRepeat_post dl o pre mi k tr hkt holder he hkw]
        rfl
      · simp only [coreStateP, contDflt, firstEff_snoc_writes dl o pre mi _ h2, lastEff_snoc_writes dl o pre mi _ h2, hsl, he,
        reduceCtorEq, if_false, if_true, Option.or_none, Option.or_some, Option.getD_some]
  | none =>
      have hp : (coreStateP dl o r0 pre).post = none := by simp only [coreStateP, he]
      rw [hp]
      refine step_positional (coreStateP dl o r0) dl o pre mi k hk (readPath o mi) .post hR
        (fun s f => { s with post := some ⟨tr, f⟩ }) false (dupErr mi) ?_ (coreStateP_snoc_inert dl o r0 pre mi) nofun
        (fun _ a h1 h2 => ?_)
      · rcases hkt with ⟨rfl, rfl⟩ | ⟨rfl, rfl⟩ <;> simp [contRepeat, he]
      · have htr : (if contKw dl mi = some .map then "map" else "and_then") = tr := by
          rcases hkt with ⟨rfl, rfl⟩ | ⟨rfl, rfl⟩ <;> simp [hk]
        simp only [coreStateP, contDflt, firstEff_snoc_writes dl o pre mi _ h2, lastEff_snoc_writes dl o pre mi _ h2, hsl, he,
          h1, htr, reduceCtorEq, if_false, if_true, Option.or_none, Option.or_some, Option.getD_none]

/-- **one step of `Core::parse_nested`** on an item that the dialect hands to `Core` (it is not one
    of the reader's own options) **is the positional verdict** -/
theorem coreStep_specD (dl : Dialect) (o : Oracle) (r0 : RenameRule) (pre : List Meta) (mi : Meta)
    (hc : contKw dl mi = coreKw mi) :
    coreStep o (coreStateP dl o r0 pre) mi = stepOf (coreStateP dl o r0 (pre ++ [mi])) (contPush dl o pre mi) := by
  rw [coreStep_eq]
  cases hk : coreKw mi with
  | none =>
      rw [hk] at hc
      rw [coreStateP_snoc_inert dl o r0 pre mi (by simp [contWrites, hc])]
      simp [contPush, hc, stepOf]
  | some k =>
      rw [hk] at hc
      rcases coreKw_cases mi k hk with rfl | rfl | rfl | rfl | rfl | rfl
      · exact cstep_default dl o r0 pre mi hc
      · exact cstep_renameAll dl o r0 pre mi hc
      · exact cstep_post dl o r0 pre mi .map "map" hc (.inl ⟨rfl, rfl⟩)
      · exact cstep_post dl o r0 pre mi .andThen "and_then" hc (.inr ⟨rfl, rfl⟩)
      · exact cstep_bound dl o r0 pre mi hc
      · exact cstep_allowUnknown dl o r0 pre mi hc

/-- `Core` read on its own -/
theorem coreStep_spec (o : Oracle) (r0 : RenameRule) (pre : List Meta) (mi : Meta) :
    coreStep o (coreStateP .core o r0 pre) mi = stepOf (coreStateP .core o r0 (pre ++ [mi])) (contPush .core o pre mi) :=
  coreStep_specD .core o r0 pre mi rfl

theorem liftCore_stepOf {σ : Type} (s : σ) (get : σ → CoreOpts) (set : σ → CoreOpts → σ) (c : CoreOpts) (e : Option Err) :
    liftCore s get set (stepOf c e) = stepOf (set s c) e := by
  cases e <;> rfl


/-! ### `FromMetaOptions::parse_nested` and `OuterFrom::parse_nested` (+ `supports`), one option at a time -/

theorem fromWordSpan_eq (mi : Meta) :
    (match mi with
      | .nameValue _ e _ _ => e.span
      | m => m.span) = fromWordSpan mi := by
  cases mi <;> rfl

/-- **`FromMetaOptions::parse_nested`, option by option**: the tests of `contKw .fromMeta` are those of the code -/
theorem fromMetaStep_cases (o : Oracle) (s : FromMetaOpts) (mi : Meta) :
    (contKw .fromMeta mi = some .fromWord ∧ fromMetaStep o s mi =
      if s.fromWord.isSome then .err s (dupErrAtPath mi) else
      withRead s (readCallable mi) fun v => .ok { s with fromWord := some (v, fromWordSpan mi) }) ∨
    (contKw .fromMeta mi = some .fromNone ∧ fromMetaStep o s mi =
      if s.fromNone.isSome then .err s (dupErrAtPath mi) else
      withRead s (readCallable mi) fun v => .ok { s with fromNone := some v }) ∨
    (contKw .fromMeta mi = coreKw mi ∧
      fromMetaStep o s mi = liftCore s (·.core) (fun s c => { s with core := c }) (coreStep o s.core mi)) := by
  simp only [fromMetaStep, contKw]
  by_cases a : mi.path'.isIdent "from_word" = true
  · rw [if_pos a, if_pos a]
    exact .inl ⟨rfl, by cases mi <;> rfl⟩
  rw [if_neg a, if_neg a]
  refine .inr ?_
  by_cases b : mi.path'.isIdent "from_none" = true
  · rw [if_pos b, if_pos b]
    exact .inl ⟨rfl, rfl⟩
  · rw [if_neg b, if_neg b]
    exact .inr ⟨rfl, rfl⟩

/-- **an element-level derive's `parse_nested`, option by option** -/
theorem outerTraitStep_cases (t : Trait) (o : Oracle) (s : OuterOpts) (mi : Meta) :
    (contKw (.outer t) mi = some .supportsDI ∧
      outerTraitStep t o s mi = withRead s (readOptDISS mi) fun v => .ok { s with supports := v }) ∨
    (contKw (.outer t) mi = some .supportsV ∧
      outerTraitStep t o s mi = withRead s (readOptDataShape mi) fun v => .ok { s with vsupports := v }) ∨
    (contKw (.outer t) mi = some .attributes ∧
      outerTraitStep t o s mi = withRead s (readPathList mi) fun v => .ok { s with attrNames := v }) ∨
    (contKw (.outer t) mi = some .forwardAttrs ∧
      outerTraitStep t o s mi = withRead s (readOptFwd mi) fun v => .ok { s with forward := v }) ∨
    (contKw (.outer t) mi = some .fromIdent ∧
      outerTraitStep t o s mi
        = .ok { s with core := { s.core with dflt := some (.trait_ mi.path'.span) }, fromIdent := true }) ∨
    (contKw (.outer t) mi = coreKw mi ∧
      outerTraitStep t o s mi = liftCore s (·.core) (fun s c => { s with core := c }) (coreStep o s.core mi)) := by
  simp only [outerTraitStep, outerStep, contKw]
  by_cases a : (mi.path'.isIdent "supports" && t == .fromDeriveInput) = true
  · exact .inl ⟨if_pos a, if_pos a⟩
  rw [if_neg a, if_neg a]
  refine .inr ?_
  by_cases b : (mi.path'.isIdent "supports" && t == .fromVariant) = true
  · exact .inl ⟨if_pos b, if_pos b⟩
  rw [if_neg b, if_neg b]
  refine .inr ?_
  by_cases c : mi.path'.isIdent "attributes" = true
  · exact .inl ⟨if_pos c, if_pos c⟩
  rw [if_neg c, if_neg c]
  refine .inr ?_
  by_cases d : mi.path'.isIdent "forward_attrs" = true
  · exact .inl ⟨if_pos d, if_pos d⟩
  rw [if_neg d, if_neg d]
  refine .inr ?_
  by_cases e : mi.path'.isIdent "from_ident" = true
  · exact .inl ⟨if_pos e, if_pos e⟩
  · exact .inr ⟨if_neg e, if_neg e⟩

/-- an item handed to `Core` writes one of `Core`'s slots (or nothing) -/
theorem contWrites_of_core (dl : Dialect) (o : Oracle) (mi : Meta) (hc : contKw dl mi = coreKw mi) (sl : ContKw)
    (hs : sl ∉ [ContKw.default, .renameAll, .map, .bound, .allowUnknown]) : contWrites dl o mi ≠ some sl := by
  intro h
  obtain ⟨k, v, hk, hsl, _, _⟩ := contWrites_eq_some dl o mi sl h
  rw [hc] at hk
  rcases coreKw_cases mi k hk with rfl | rfl | rfl | rfl | rfl | rfl <;> exact hs (hsl ▸ by decide)

theorem firstEff_snoc_ne (dl : Dialect) (o : Oracle) (pre : List Meta) (mi : Meta) (sl : ContKw)
    (h : contWrites dl o mi ≠ some sl) : firstEff dl o (pre ++ [mi]) sl = firstEff dl o pre sl := by
  rw [firstEff_snoc]; simp [h]

theorem lastEff_snoc_ne (dl : Dialect) (o : Oracle) (pre : List Meta) (mi : Meta) (sl : ContKw)
    (h : contWrites dl o mi ≠ some sl) : lastEff dl o (pre ++ [mi]) sl = lastEff dl o pre sl := by
  rw [lastEff_snoc]; simp [h]

theorem coreStateP_snoc_other (dl : Dialect) (o : Oracle) (r0 : RenameRule) (pre : List Meta) (mi : Meta) (sl : ContKw)
    (h : contWrites dl o mi = some sl) (hs : sl ∉ [ContKw.default, .fromIdent, .renameAll, .map, .allowUnknown]) :
    coreStateP dl o r0 (pre ++ [mi]) = coreStateP dl o r0 pre := by
  have hne : ∀ sl' ∈ [ContKw.default, .fromIdent, .renameAll, .map, .allowUnknown], contWrites dl o mi ≠ some sl' :=
    fun sl' hm e => hs (Option.some.inj (h.symm.trans e) ▸ hm)
  simp only [coreStateP, contDflt, firstEff_snoc_ne dl o pre mi _ (hne .default (by decide)),
    lastEff_snoc_ne dl o pre mi _ (hne .fromIdent (by decide)), lastEff_snoc_ne dl o pre mi _ (hne .renameAll (by decide)),
    firstEff_snoc_ne dl o pre mi _ (hne .map (by decide)), firstEff_snoc_ne dl o pre mi _ (hne .allowUnknown (by decide))]

theorem fmstate_fromWord_isSome (o : Oracle) (r0 : RenameRule) (pre : List Meta) :
    (fromMetaStateP o r0 pre).fromWord.isSome = (firstEff .fromMeta o pre .fromWord).isSome := by
  cases he : firstEff .fromMeta o pre .fromWord with
  | none => simp only [fromMetaStateP, he, Option.bind_none, Option.isSome_none]
  | some m =>
      obtain ⟨c, sp, hr⟩ := held_cfromWord _ o pre m he
      simp only [fromMetaStateP, he, hr, Option.bind_some, Option.isSome_some]

theorem fmstate_fromNone_isSome (o : Oracle) (r0 : RenameRule) (pre : List Meta) :
    (fromMetaStateP o r0 pre).fromNone.isSome = (firstEff .fromMeta o pre .fromNone).isSome := by
  cases he : firstEff .fromMeta o pre .fromNone with
  | none => simp only [fromMetaStateP, he, Option.bind_none, Option.isSome_none]
  | some m =>
      obtain ⟨c, hr⟩ := held_cfromNone _ o pre m he
      simp only [fromMetaStateP, he, hr, Option.bind_some, Option.isSome_some]

theorem fromMetaStateP_snoc_inert (o : Oracle) (r0 : RenameRule) (pre : List Meta) (mi : Meta)
    (h : contWrites .fromMeta o mi = none) : fromMetaStateP o r0 (pre ++ [mi]) = fromMetaStateP o r0 pre := by
  simp only [fromMetaStateP, coreStateP_snoc_inert .fromMeta o r0 pre mi h, firstEff_snoc, h, reduceCtorEq, if_false,
    Option.or_none]

/-- **one step of `FromMetaOptions::parse_nested` is the positional verdict** -/
theorem fromMetaStep_spec (o : Oracle) (r0 : RenameRule) (pre : List Meta) (mi : Meta) :
    fromMetaStep o (fromMetaStateP o r0 pre) mi
      = stepOf (fromMetaStateP o r0 (pre ++ [mi])) (contPush .fromMeta o pre mi) := by
  rcases fromMetaStep_cases o (fromMetaStateP o r0 pre) mi with ⟨hk, hs⟩ | ⟨hk, hs⟩ | ⟨hc, hs⟩ <;> rw [hs]
  · rw [fmstate_fromWord_isSome]
    refine step_positional (fromMetaStateP o r0) .fromMeta o pre mi .fromWord hk (readCallable mi)
      (fun c => .fromWord c (fromWordSpan mi)) rfl (fun s v => { s with fromWord := some (v, fromWordSpan mi) })
      (firstEff .fromMeta o pre .fromWord).isSome (dupErrAtPath mi) rfl (fromMetaStateP_snoc_inert o r0 pre mi)
      (fun hh h2 => ?_) (fun hh a h1 h2 => ?_)
    · obtain ⟨m, he⟩ := Option.isSome_iff_exists.mp hh
      simp only [fromMetaStateP, coreStateP_snoc_other .fromMeta o r0 pre mi _ h2 (by decide),
        firstEff_snoc_writes .fromMeta o pre mi _ h2, ContKw.slot, he, reduceCtorEq, if_false, if_true, Option.or_none,
        Option.or_some, Option.getD_some, Option.bind_some]
    · have he : firstEff .fromMeta o pre .fromWord = none := by simpa using hh
      simp only [fromMetaStateP, coreStateP_snoc_other .fromMeta o r0 pre mi _ h2 (by decide),
        firstEff_snoc_writes .fromMeta o pre mi _ h2, ContKw.slot, he, h1, reduceCtorEq, if_false, if_true, Option.or_none,
        Option.or_some, Option.getD_none, Option.bind_some]
  · rw [fmstate_fromNone_isSome]
    refine step_positional (fromMetaStateP o r0) .fromMeta o pre mi .fromNone hk (readCallable mi) .fromNone rfl
      (fun s v => { s with fromNone := some v }) (firstEff .fromMeta o pre .fromNone).isSome (dupErrAtPath mi) rfl
      (fromMetaStateP_snoc_inert o r0 pre mi) (fun hh h2 => ?_) (fun hh a h1 h2 => ?_)
    · obtain ⟨m, he⟩ := Option.isSome_iff_exists.mp hh
      simp only [fromMetaStateP, coreStateP_snoc_other .fromMeta o r0 pre mi _ h2 (by decide),
        firstEff_snoc_writes .fromMeta o pre mi _ h2, ContKw.slot, he, reduceCtorEq, if_false, if_true, Option.or_none,
        Option.or_some, Option.getD_some, Option.bind_some]
    · have he : firstEff .fromMeta o pre .fromNone = none := by simpa using hh
      simp only [fromMetaStateP, coreStateP_snoc_other .fromMeta o r0 pre mi _ h2 (by decide),
        firstEff_snoc_writes .fromMeta o pre mi _ h2, ContKw.slot, he, h1, reduceCtorEq, if_false, if_true, Option.or_none,
        Option.or_some, Option.getD_none, Option.bind_some]
  · have : (fromMetaStateP o r0 pre).core = coreStateP .fromMeta o r0 pre := rfl
    rw [this, coreStep_specD .fromMeta o r0 pre mi hc, liftCore_stepOf]
    have hne := fun sl hs => firstEff_snoc_ne .fromMeta o pre mi sl (contWrites_of_core .fromMeta o mi hc sl hs)
    have hst : { fromMetaStateP o r0 pre with core := coreStateP .fromMeta o r0 (pre ++ [mi]) }
        = fromMetaStateP o r0 (pre ++ [mi]) := by
      simp only [fromMetaStateP, hne .fromWord (by decide), hne .fromNone (by decide)]
    rw [hst]

theorem outerStateP_snoc_inert (t : Trait) (o : Oracle) (pre : List Meta) (mi : Meta)
    (h : contWrites (.outer t) o mi = none) : outerStateP t o (pre ++ [mi]) = outerStateP t o pre := by
  simp only [outerStateP, coreStateP_snoc_inert (.outer t) o .none pre mi h, lastEff_snoc, h, reduceCtorEq, if_false]

/-- **one step of an element-level derive's `parse_nested` is the positional verdict**: its own options may all
    be repeated, and the last value read is kept -/
theorem outerTraitStep_spec (t : Trait) (o : Oracle) (pre : List Meta) (mi : Meta) :
    outerTraitStep t o (outerStateP t o pre) mi
      = stepOf (outerStateP t o (pre ++ [mi])) (contPush (.outer t) o pre mi) := by
  rcases outerTraitStep_cases t o (outerStateP t o pre) mi with
    ⟨hk, hs⟩ | ⟨hk, hs⟩ | ⟨hk, hs⟩ | ⟨hk, hs⟩ | ⟨hk, hs⟩ | ⟨hc, hs⟩ <;> rw [hs]
  · exact step_positional (outerStateP t o) (.outer t) o pre mi .supportsDI hk (readOptDISS mi) .supportsDI rfl
      (fun s v => { s with supports := v }) false (dupErr mi) rfl (outerStateP_snoc_inert t o pre mi) nofun
      (fun _ a h1 h2 => by
        simp only [outerStateP, coreStateP_snoc_other (.outer t) o .none pre mi _ h2 (by decide),
          lastEff_snoc_writes (.outer t) o pre mi _ h2, ContKw.slot, h1, reduceCtorEq, if_false, if_true, Option.bind_some])
  · exact step_positional (outerStateP t o) (.outer t) o pre mi .supportsV hk (readOptDataShape mi) .supportsV rfl
      (fun s v => { s with vsupports := v }) false (dupErr mi) rfl (outerStateP_snoc_inert t o pre mi) nofun
      (fun _ a h1 h2 => by
        simp only [outerStateP, coreStateP_snoc_other (.outer t) o .none pre mi _ h2 (by decide),
          lastEff_snoc_writes (.outer t) o pre mi _ h2, ContKw.slot, h1, reduceCtorEq, if_false, if_true, Option.bind_some])
  · exact step_positional (outerStateP t o) (.outer t) o pre mi .attributes hk (readPathList mi) .attributes rfl
      (fun s v => { s with attrNames := v }) false (dupErr mi) rfl (outerStateP_snoc_inert t o pre mi) nofun
      (fun _ a h1 h2 => by
        simp only [outerStateP, coreStateP_snoc_other (.outer t) o .none pre mi _ h2 (by decide),
          lastEff_snoc_writes (.outer t) o pre mi _ h2, ContKw.slot, h1, reduceCtorEq, if_false, if_true, Option.bind_some])
  · exact step_positional (outerStateP t o) (.outer t) o pre mi .forwardAttrs hk (readOptFwd mi) .forwardAttrs rfl
      (fun s v => { s with forward := v }) false (dupErr mi) rfl (outerStateP_snoc_inert t o pre mi) nofun
      (fun _ a h1 h2 => by
        simp only [outerStateP, coreStateP_snoc_other (.outer t) o .none pre mi _ h2 (by decide),
          lastEff_snoc_writes (.outer t) o pre mi _ h2, ContKw.slot, h1, reduceCtorEq, if_false, if_true, Option.bind_some])
  · -- `from_ident` has no reader: the word alone sets the default and the flag
    obtain ⟨hr, hw⟩ := contRead_of_ok (.outer t) o mi .fromIdent (.fromIdent mi.path'.span) hk rfl
    have hst : outerStateP t o (pre ++ [mi])
        = { outerStateP t o pre with
            core := { (outerStateP t o pre).core with dflt := some (.trait_ mi.path'.span) }, fromIdent := true } := by
      simp only [outerStateP, coreStateP, contDflt, firstEff_snoc_writes _ o pre mi _ hw, lastEff_snoc_writes _ o pre mi _ hw,
        ContKw.slot, Option.isSome_some, reduceCtorEq, if_false, if_true, Option.or_none]
    rw [hst]
    simp [contPush, hk, contRepeat, hr, stepOf]
  · have : (outerStateP t o pre).core = coreStateP (.outer t) o .none pre := rfl
    rw [this, coreStep_specD (.outer t) o .none pre mi hc, liftCore_stepOf]
    have hne := fun sl hs => lastEff_snoc_ne (.outer t) o pre mi sl (contWrites_of_core (.outer t) o mi hc sl hs)
    have hst : { outerStateP t o pre with core := coreStateP (.outer t) o .none (pre ++ [mi]) }
        = outerStateP t o (pre ++ [mi]) := by
      simp only [outerStateP, hne .attributes (by decide), hne .forwardAttrs (by decide), hne .fromIdent (by decide),
        hne .supportsDI (by decide), hne .supportsV (by decide)]
    rw [hst]


/-! ## container options: the theorems -/

theorem coreStateP_nil (dl : Dialect) (o : Oracle) (r0 : RenameRule) : coreStateP dl o r0 [] = { renameRule := r0 } := rfl
theorem outerStateP_nil (t : Trait) (o : Oracle) : outerStateP t o [] = {} := rfl
theorem fromMetaStateP_nil (o : Oracle) (r0 : RenameRule) : fromMetaStateP o r0 [] = { core := { renameRule := r0 } } := rfl

def contVerdicts (dl : Dialect) (o : Oracle) (pre : List Meta) (items : List NestedMeta) : List Err :=
  verdicts (contPush dl o) pre items

/-- the chains over the items of one attribute -/
theorem coreItems_spec (o : Oracle) (r0 : RenameRule) (pre : List Meta) (errs0 : List Err) (items : List NestedMeta) :
    parseAttrItems (coreStep o) (coreStateP .core o r0 pre) errs0 items
      = .ok (coreStateP .core o r0 (pre ++ metasOf items), errs0 ++ contVerdicts .core o pre items) :=
  parseAttrItems_spec (coreStep o) (coreStateP .core o r0) (contPush .core o) (coreStep_spec o r0) items pre errs0

theorem outerItems_spec (t : Trait) (o : Oracle) (pre : List Meta) (errs0 : List Err) (items : List NestedMeta) :
    parseAttrItems (outerTraitStep t o) (outerStateP t o pre) errs0 items
      = .ok (outerStateP t o (pre ++ metasOf items), errs0 ++ contVerdicts (.outer t) o pre items) :=
  parseAttrItems_spec (outerTraitStep t o) (outerStateP t o) (contPush (.outer t) o) (outerTraitStep_spec t o) items pre errs0

theorem fromMetaItems_spec (o : Oracle) (r0 : RenameRule) (pre : List Meta) (errs0 : List Err) (items : List NestedMeta) :
    parseAttrItems (fromMetaStep o) (fromMetaStateP o r0 pre) errs0 items
      = .ok (fromMetaStateP o r0 (pre ++ metasOf items), errs0 ++ contVerdicts .fromMeta o pre items) :=
  parseAttrItems_spec (fromMetaStep o) (fromMetaStateP o r0) (contPush .fromMeta o) (fromMetaStep_spec o r0) items pre errs0

/-- all the attributes of the declaration -/
theorem coreAttrs_spec (o : Oracle) (r0 : RenameRule) (pre : List Meta) (errs0 : List Err) (attrs : List Attr) :
    parseAttributes (coreStep o) (coreStateP .core o r0 pre) errs0 attrs
      = .ok (coreStateP .core o r0 (pre ++ attrsMetas attrs), errs0 ++ attrVerdicts (contPush .core o) pre attrs) :=
  parseAttributes_spec (coreStep o) (coreStateP .core o r0) (contPush .core o) (coreStep_spec o r0) attrs pre errs0

theorem outerAttrs_spec (t : Trait) (o : Oracle) (pre : List Meta) (errs0 : List Err) (attrs : List Attr) :
    parseAttributes (outerTraitStep t o) (outerStateP t o pre) errs0 attrs
      = .ok (outerStateP t o (pre ++ attrsMetas attrs), errs0 ++ attrVerdicts (contPush (.outer t) o) pre attrs) :=
  parseAttributes_spec (outerTraitStep t o) (outerStateP t o) (contPush (.outer t) o) (outerTraitStep_spec t o) attrs pre errs0

theorem fromMetaAttrs_spec (o : Oracle) (r0 : RenameRule) (pre : List Meta) (errs0 : List Err) (attrs : List Attr) :
    parseAttributes (fromMetaStep o) (fromMetaStateP o r0 pre) errs0 attrs
      = .ok (fromMetaStateP o r0 (pre ++ attrsMetas attrs), errs0 ++ attrVerdicts (contPush .fromMeta o) pre attrs) :=
  parseAttributes_spec (fromMetaStep o) (fromMetaStateP o r0) (contPush .fromMeta o) (fromMetaStep_spec o r0) attrs pre errs0

/-- a chain's result, positionally: the state of all items, or the bundle of all verdicts -/
theorem finish_generic {σ : Type} (step : σ → Meta → StepR σ) (state : List Meta → σ)
    (push : List Meta → Meta → Option Err)
    (h : ∀ pre mi, step (state pre) mi = stepOf (state (pre ++ [mi])) (push pre mi)) (attrs : List Attr) :
    finishWith (parseAttributes step (state []) [] attrs)
      = match attrVerdicts push [] attrs with
        | [] => .ok (state (attrsMetas attrs))
        | errs => Err.bundleErr errs := by
  have hh := parseAttributes_spec step state push h attrs [] []
  simp only [List.nil_append] at hh
  rw [hh]
  match attrVerdicts push [] attrs with
  | [] => rfl
  | _ :: _ => rfl

/-! ## container options: well-formedness (almost) without reference to order -/

/-- the options that may be given only once -/
def ContKw.once : ContKw → Bool
  | .default | .map | .andThen | .allowUnknown | .fromWord | .fromNone => true
  | _ => false

/-- the once-only slot an item addresses, if any -/
def onceSlotOf (dl : Dialect) (mi : Meta) : Option ContKw :=
  match contKw dl mi with
  | some k => if k.once then some k.slot else none
  | none => none

/-- **a well-formed container option list**: every item is a known option (of this reader) with a
    well-formed value; no once-only slot is addressed twice (`default`, `map`/`and_then` together,
    `allow_unknown_fields`, `from_word`, `from_none`); and — the one clause here that *does* depend
    on order — no `default` comes after a `from_ident`. -/
structure ContWellFormed (dl : Dialect) (o : Oracle) (ms : List Meta) : Prop where
  readable : ∀ m ∈ ms, (contRead dl o m).isSome = true
  once : (ms.filterMap (onceSlotOf dl)).Nodup
  defaultFirst : ms.Pairwise (fun a b => ¬ (contKw dl a = some .fromIdent ∧ contKw dl b = some .default))

theorem contVerdict_nil_iff (dl : Dialect) (o : Oracle) (pre : List Meta) (mi : Meta) :
    contVerdict dl o pre mi = [] ↔
      ∃ k v, contKw dl mi = some k ∧ contRead dl o mi = some v ∧ contRepeat dl o pre k mi = none := by
  unfold contVerdict contPush
  cases hk : contKw dl mi with
  | none => simp
  | some k =>
      cases hrep : contRepeat dl o pre k mi with
      | some e => simp [hrep]
      | none =>
          cases hr : contRead dl o mi with
          | some v => simp [hrep]
          | none =>
              simp only [hrep]
              cases hR : contReadR o k mi with
              | ok v => simp [contRead, hk, hR] at hr
              | err e => simp [contReadErr, hk, hR]
              | panic p => exact absurd hR (contReadR_returns o _ mi p)

theorem contWrites_eq_slot (dl : Dialect) (o : Oracle) (m : Meta) (h : (contRead dl o m).isSome = true) :
    contWrites dl o m = (contKw dl m).map ContKw.slot := by
  unfold contWrites
  cases hk : contKw dl m with
  | none => rfl
  | some k => simp [h]

theorem firstEff_eq_none_iff (dl : Dialect) (o : Oracle) (pre : List Meta) (sl : ContKw) :
    firstEff dl o pre sl = none ↔ ∀ m ∈ pre, contWrites dl o m ≠ some sl := by
  simp [firstEff, List.find?_eq_none]

theorem lastEff_eq_none_iff (dl : Dialect) (o : Oracle) (pre : List Meta) (sl : ContKw) :
    lastEff dl o pre sl = none ↔ ∀ m ∈ pre, contWrites dl o m ≠ some sl := by
  simp [lastEff, List.find?_eq_none]

theorem ContKw.once_slot (k : ContKw) : k.slot.once = k.once := by
  cases k <;> rfl

theorem onceSlotOf_eq (dl : Dialect) (m : Meta) (k : ContKw) (hk : k.once = true) :
    onceSlotOf dl m = some k.slot ↔ (contKw dl m).map ContKw.slot = some k.slot := by
  unfold onceSlotOf
  cases contKw dl m with
  | none => simp
  | some k' =>
      cases h : k'.once with
      | true => simp [h]
      | false =>
          have hne : k'.slot ≠ k.slot := fun e => by
            rw [← ContKw.once_slot, e, ContKw.once_slot, hk] at h
            cases h
          simp [hne]

theorem onceSlotOf_some (dl : Dialect) (m : Meta) (k : ContKw) (sl : ContKw) (hk : contKw dl m = some k)
    (h : onceSlotOf dl m = some sl) : k.once = true ∧ sl = k.slot := by
  unfold onceSlotOf at h
  rw [hk] at h
  simp only [] at h
  split at h
  · cases h; exact ⟨by assumption, rfl⟩
  · cases h


theorem ContWellFormed.nil (dl : Dialect) (o : Oracle) : ContWellFormed dl o [] :=
  ⟨(by intro m hm; cases hm), (by simp), (by simp)⟩

theorem ContWellFormed.prefix (dl : Dialect) (o : Oracle) (a b : List Meta) (wf : ContWellFormed dl o (a ++ b)) :
    ContWellFormed dl o a := by
  refine ⟨fun m hm => wf.readable m (List.mem_append_left _ hm), ?_, ?_⟩
  · have := wf.once
    rw [List.filterMap_append, List.nodup_append] at this
    exact this.1
  · have := wf.defaultFirst
    rw [List.pairwise_append] at this
    exact this.1

theorem contRepeat_none_iff_eff (dl : Dialect) (o : Oracle) (pre : List Meta) (k : ContKw) (mi : Meta) :
    contRepeat dl o pre k mi = none ↔
      (k.once = true → firstEff dl o pre k.slot = none) ∧ (k = .default → lastEff dl o pre .fromIdent = none) := by
  -- option by option: the once-only ones test `firstEff` of their slot, `default` also `lastEff .fromIdent`,
  -- the repeatable ones nothing
  cases k <;> simp [contRepeat, dfltHeld, ContKw.once, ContKw.slot]

/-- what "not a repeat" says in a list whose items are all readable -/
theorem contRepeat_none_iff (dl : Dialect) (o : Oracle) (pre : List Meta)
    (hread : ∀ m ∈ pre, (contRead dl o m).isSome = true) (k : ContKw) (mi : Meta) :
    contRepeat dl o pre k mi = none ↔
      (k.once = true → ∀ m ∈ pre, onceSlotOf dl m ≠ some k.slot) ∧
      (k = .default → ∀ m ∈ pre, contKw dl m ≠ some .fromIdent) := by
  have hw : ∀ sl, (∀ m ∈ pre, contWrites dl o m ≠ some sl) ↔ ∀ m ∈ pre, (contKw dl m).map ContKw.slot ≠ some sl := by
    intro sl
    constructor
    · intro h m hm
      rw [← contWrites_eq_slot dl o m (hread m hm)]
      exact h m hm
    · intro h m hm
      rw [contWrites_eq_slot dl o m (hread m hm)]
      exact h m hm
  have hfi : (∀ m ∈ pre, (contKw dl m).map ContKw.slot ≠ some .fromIdent) ↔ ∀ m ∈ pre, contKw dl m ≠ some .fromIdent := by
    constructor
    · intro h m hm e
      have := h m hm
      rw [e] at this
      exact this rfl
    · intro h m hm
      have := h m hm
      cases hk : contKw dl m with
      | none => simp
      | some k' =>
          rw [hk] at this
          cases k' <;> simp [ContKw.slot] at this ⊢
  have hfirst : k.once = true → (firstEff dl o pre k.slot = none ↔ ∀ m ∈ pre, onceSlotOf dl m ≠ some k.slot) := by
    intro hk
    rw [firstEff_eq_none_iff, hw]
    constructor
    · exact fun h m hm e => h m hm ((onceSlotOf_eq dl m k hk).mp e)
    · exact fun h m hm e => h m hm ((onceSlotOf_eq dl m k hk).mpr e)
  rw [contRepeat_none_iff_eff, ← hfi, ← hw, ← lastEff_eq_none_iff]
  exact and_congr (imp_congr_right hfirst) Iff.rfl


theorem contRead_kw (dl : Dialect) (o : Oracle) (m : Meta) (v : ContVal) (h : contRead dl o m = some v) :
    ∃ k, contKw dl m = some k := by
  unfold contRead at h
  cases hk : contKw dl m with
  | none => rw [hk] at h; cases h
  | some k => exact ⟨k, rfl⟩

/-- **one more container item keeps the list well-formed exactly when its verdict is empty** -/
theorem cwf_snoc (dl : Dialect) (o : Oracle) (pre : List Meta) (x : Meta) (wf : ContWellFormed dl o pre) :
    contVerdict dl o pre x = [] ↔ ContWellFormed dl o (pre ++ [x]) := by
  rw [contVerdict_nil_iff]
  constructor
  · rintro ⟨k, v, hk, hr, hrep⟩
    obtain ⟨h1, h2⟩ := (contRepeat_none_iff dl o pre wf.readable k x).mp hrep
    refine ⟨?_, ?_, ?_⟩
    · intro m hm
      rcases List.mem_append.mp hm with hm | hm
      · exact wf.readable m hm
      · simp only [List.mem_singleton] at hm
        subst hm
        simp [hr]
    · rw [List.filterMap_append, List.nodup_append]
      refine ⟨wf.once, ?_, ?_⟩
      · cases hx : onceSlotOf dl x <;> simp [hx]
      · intro a ha b hb
        simp only [List.filterMap_cons, List.filterMap_nil] at hb
        cases hx : onceSlotOf dl x with
        | none => rw [hx] at hb; cases hb
        | some sl =>
            rw [hx] at hb
            simp only [List.mem_singleton] at hb
            subst hb
            obtain ⟨hon, rfl⟩ := onceSlotOf_some dl x k _ hk hx
            obtain ⟨m, hm, hma⟩ := List.mem_filterMap.mp ha
            intro e
            subst e
            exact h1 hon m hm hma
    · rw [List.pairwise_append]
      refine ⟨wf.defaultFirst, by simp, ?_⟩
      intro a ha b hb
      simp only [List.mem_singleton] at hb
      subst hb
      rintro ⟨hfa, hdb⟩
      rw [hk] at hdb
      cases hdb
      exact h2 rfl a ha hfa
  · intro wf'
    have hx : x ∈ pre ++ [x] := by simp
    obtain ⟨v, hr⟩ := Option.isSome_iff_exists.mp (wf'.readable x hx)
    obtain ⟨k, hk⟩ := contRead_kw dl o x v hr
    refine ⟨k, v, hk, hr, (contRepeat_none_iff dl o pre wf.readable k x).mpr ⟨?_, ?_⟩⟩
    · intro hon m hm hms
      have := wf'.once
      rw [List.filterMap_append, List.nodup_append] at this
      have hxs : onceSlotOf dl x = some k.slot := by simp [onceSlotOf, hk, hon]
      exact this.2.2 k.slot (List.mem_filterMap.mpr ⟨m, hm, hms⟩) k.slot
        (by simp [hxs]) rfl
    · rintro rfl m hm hfi
      have := wf'.defaultFirst
      rw [List.pairwise_append] at this
      exact this.2.2 m hm x (by simp) ⟨hfi, hk⟩

/-- **every verdict is empty ⟺ the container option list is well-formed** -/
theorem cont_verdicts_nil_iff_wf (dl : Dialect) (o : Oracle) (ms : List Meta) :
    (∀ a m b, ms = a ++ m :: b → contVerdict dl o a m = []) ↔ ContWellFormed dl o ms := by
  simpa only [List.nil_append] using wf_iff_of_snoc (ContWellFormed.prefix dl o) (fun pre wf x => cwf_snoc dl o pre x wf) ms []
    (ContWellFormed.nil dl o)

/-- the container attributes of a declaration are in order: every `#[darling ..]` attribute is a
    list that parses, none holds a bare literal, all their items together are well-formed -/
def ContainerOk (dl : Dialect) (o : Oracle) (attrs : List Attr) : Prop :=
  (∀ a ∈ attrs, AttrListOk a) ∧ AllItems (attrsItems attrs) ∧ ContWellFormed dl o (attrsMetas attrs)

/-- one attribute's list -/
theorem cont_accepts_iff_wf_items (dl : Dialect) (o : Oracle) (items : List NestedMeta) :
    contVerdicts dl o [] items = [] ↔ AllItems items ∧ ContWellFormed dl o (metasOf items) := by
  unfold contVerdicts
  rw [verdicts_nil_iff_items, ← cont_verdicts_nil_iff_wf]
  simp only [contVerdict, List.nil_append, Option.toList_eq_nil_iff]

theorem verdicts_nil_iff_ContainerOk (dl : Dialect) (o : Oracle) (attrs : List Attr) :
    ((∀ a ∈ attrs, AttrListOk a) ∧ verdicts (contPush dl o) [] (attrsItems attrs) = []) ↔ ContainerOk dl o attrs := by
  unfold ContainerOk
  rw [attrsMetas_eq]
  exact and_congr_right fun _ => cont_accepts_iff_wf_items dl o (attrsItems attrs)

/-- **the container options of a `FromMeta` declaration** (started from rename rule `r0`) -/
theorem fromMeta_decl_accepts_iff_wf (o : Oracle) (r0 : RenameRule) (attrs : List Attr) :
    ((∃ s, finishWith (parseAttributes (fromMetaStep o) { core := { renameRule := r0 } } [] attrs) = .ok s) ↔
      ContainerOk .fromMeta o attrs) ∧
    (∀ s, finishWith (parseAttributes (fromMetaStep o) { core := { renameRule := r0 } } [] attrs) = .ok s →
      s = fromMetaStateP o r0 (attrsMetas attrs)) := by
  have h := decl_accepts_iff (fromMetaStep o) (fromMetaStateP o r0) (contPush .fromMeta o) (fromMetaStep_spec o r0) attrs
  rw [fromMetaStateP_nil] at h
  exact ⟨h.1.trans (verdicts_nil_iff_ContainerOk .fromMeta o attrs), h.2⟩

/-- **the container options of an element-level declaration** -/
theorem outer_decl_accepts_iff_wf (t : Trait) (o : Oracle) (attrs : List Attr) :
    ((∃ s, finishWith (parseAttributes (outerTraitStep t o) {} [] attrs) = .ok s) ↔ ContainerOk (.outer t) o attrs) ∧
    (∀ s, finishWith (parseAttributes (outerTraitStep t o) {} [] attrs) = .ok s → s = outerStateP t o (attrsMetas attrs)) := by
  have h := decl_accepts_iff (outerTraitStep t o) (outerStateP t o) (contPush (.outer t) o) (outerTraitStep_spec t o) attrs
  rw [outerStateP_nil] at h
  exact ⟨h.1.trans (verdicts_nil_iff_ContainerOk (.outer t) o attrs), h.2⟩

/-- **`Core` read on its own** -/
theorem core_decl_accepts_iff_wf (o : Oracle) (r0 : RenameRule) (attrs : List Attr) :
    ((∃ s, finishWith (parseAttributes (coreStep o) { renameRule := r0 } [] attrs) = .ok s) ↔ ContainerOk .core o attrs) ∧
    (∀ s, finishWith (parseAttributes (coreStep o) { renameRule := r0 } [] attrs) = .ok s →
      s = coreStateP .core o r0 (attrsMetas attrs)) := by
  have h := decl_accepts_iff (coreStep o) (coreStateP .core o r0) (contPush .core o) (coreStep_spec o r0) attrs
  rw [coreStateP_nil] at h
  exact ⟨h.1.trans (verdicts_nil_iff_ContainerOk .core o attrs), h.2⟩


/-! ## the whole declaration -/

/-! ### one field, one variant -/

/-- the options of a field declaration are in order -/
def FieldDeclOk (o : Oracle) (f : FieldD) : Prop :=
  (∀ a ∈ f.attrs, AttrListOk a) ∧ AllItems (attrsItems f.attrs) ∧ FieldWellFormed o (attrsMetas f.attrs)

/-- the field says `flatten` -/
def declaresFlatten (f : FieldD) : Bool := (attrsMetas f.attrs).any (fun m => fieldKw m == some .flatten)

theorem lowerFirst_ne_err (cs : List Char) (e : Err) : RenameRule.lowerFirst cs ≠ .err e := by
  unfold RenameRule.lowerFirst
  split
  · nofun
  · split <;> nofun

theorem applyToField_ok (r : RenameRule) (id : String) (h : (r.applyToField id).Returns) : ∃ n, r.applyToField id = .ok n := by
  cases hr : r.applyToField id with
  | ok n => exact ⟨n, rfl⟩
  | panic m => exact absurd hr (h m)
  | err e =>
      exfalso
      cases r <;> simp [RenameRule.applyToField] at hr
      exact lowerFirst_ne_err _ e (map_eq_err hr)

theorem applyToVariant_ok (r : RenameRule) (id : String) (h : (r.applyToVariant id).Returns) : ∃ n, r.applyToVariant id = .ok n := by
  cases hr : r.applyToVariant id with
  | ok n => exact ⟨n, rfl⟩
  | panic m => exact absurd hr (h m)
  | err e =>
      exfalso
      cases r <;> simp [RenameRule.applyToVariant] at hr
      exact lowerFirst_ne_err _ e (map_eq_err hr)

theorem resolveField_ok (core : CoreOpts) (ident : String) (ty : Ty) (s : FieldOpts) (h : C06.RenameOk core.renameRule ident) :
    ∃ rf, resolveField core ident ty s = .ok rf ∧ rf.flatten = s.flatten.isSome := by
  unfold resolveField
  cases hn : s.attrName with
  | some n => exact ⟨_, rfl, rfl⟩
  | none =>
      obtain ⟨n, hn'⟩ := applyToField_ok _ _ h.1
      simp only [hn', Outcome.bind]
      exact ⟨_, rfl, rfl⟩

/-- **a field declaration is read successfully exactly when its options are in order**; the field
    is then a `flatten` field iff it says so -/
theorem fieldFromDecl_ok_iff (o : Oracle) (core : CoreOpts) (f : FieldD) (hs : C06.FieldSafe f) :
    ((∃ rf, fieldFromDecl o core f = .ok rf) ↔ FieldDeclOk o f) ∧
    (∀ rf, fieldFromDecl o core f = .ok rf → rf.flatten = declaresFlatten f) := by
  have hacc := field_decl_accepts_iff_wf o f.attrs
  have hst := (field_decl_accepts_iff o f.attrs).2
  unfold fieldFromDecl
  cases hf : finishWith (parseAttributes (fieldStep o) {} [] f.attrs) with
  | ok s =>
      obtain ⟨rf, hrf, hfl⟩ := resolveField_ok core (f.ident.getD "__unnamed") f.ty s (hs core.renameRule)
      have hok : FieldDeclOk o f := hacc.mp ⟨s, hf⟩
      refine ⟨⟨fun _ => hok, fun _ => ⟨rf, hrf⟩⟩, ?_⟩
      intro rf' hrf'
      simp only [] at hrf'
      rw [hrf] at hrf'; cases hrf'
      rw [hfl, hst s hf, state_flatten_isSome]
      have := wf_flatten_present o _ hok.2.2
      unfold declaresFlatten
      rw [Bool.eq_iff_iff, this]
      simp
  | err e =>
      refine ⟨⟨fun ⟨rf, h⟩ => (by cases h), fun hok => ?_⟩, fun rf h => (by cases h)⟩
      obtain ⟨s, hs'⟩ := hacc.mpr hok
      rw [hf] at hs'; cases hs'
  | panic m => exact absurd hf (C06.field_options_return o f.attrs m)


/-- the options of a variant declaration and of all its fields are in order -/
def VariantDeclOk (o : Oracle) (v : VariantD) : Prop :=
  ((∀ a ∈ v.attrs, AttrListOk a) ∧ AllItems (attrsItems v.attrs)
    ∧ VariantWellFormed (v.style == .unit) (attrsMetas v.attrs)) ∧
  ∀ f ∈ v.fields, FieldDeclOk o f

/-- the variant says `word` (with whatever value) -/
def declaresWord (v : VariantD) : Bool := (attrsMetas v.attrs).any (fun m => variantKw m == some .word)

theorem variantFields_ok_iff (o : Oracle) (core : CoreOpts) :
    ∀ (fs : List FieldD), (∀ f ∈ fs, C06.FieldSafe f) →
      ((∃ rfs, variantFields o core fs = .ok rfs) ↔ ∀ f ∈ fs, FieldDeclOk o f) ∧
      (∀ rfs, variantFields o core fs = .ok rfs → rfs.map (·.flatten) = fs.map declaresFlatten)
  | [], _ => by
      refine ⟨⟨fun _ f hf => (by cases hf), fun _ => ⟨[], rfl⟩⟩, fun rfs h => ?_⟩
      simp only [variantFields] at h
      cases h
      rfl
  | f :: rest, hs => by
      have ih := variantFields_ok_iff o core rest (fun g hg => hs g (List.mem_cons_of_mem _ hg))
      have hf := fieldFromDecl_ok_iff o core f (hs f (List.mem_cons_self ..))
      simp only [variantFields]
      cases hr : fieldFromDecl o core f with
      | ok rf =>
          have hfok : FieldDeclOk o f := hf.1.mp ⟨rf, hr⟩
          simp only []
          cases hrest : variantFields o core rest with
          | ok rfs =>
              have hrok := ih.1.mp ⟨rfs, hrest⟩
              refine ⟨⟨fun _ g hg => ?_, fun _ => ⟨_, rfl⟩⟩, ?_⟩
              · rcases List.mem_cons.mp hg with rfl | hg
                · exact hfok
                · exact hrok g hg
              · intro rfs' h
                simp only [Outcome.map] at h; cases h
                simp [hf.2 rf hr, ih.2 rfs hrest]
          | err e =>
              refine ⟨⟨fun ⟨_, h⟩ => (by cases h), fun h => ?_⟩, fun _ h => (by cases h)⟩
              obtain ⟨rfs, hrfs⟩ := ih.1.mpr (fun g hg => h g (List.mem_cons_of_mem _ hg))
              rw [hrest] at hrfs; cases hrfs
          | panic m =>
              refine ⟨⟨fun ⟨_, h⟩ => (by cases h), fun h => ?_⟩, fun _ h => (by cases h)⟩
              obtain ⟨rfs, hrfs⟩ := ih.1.mpr (fun g hg => h g (List.mem_cons_of_mem _ hg))
              rw [hrest] at hrfs; cases hrfs
      | err e =>
          refine ⟨⟨fun ⟨_, h⟩ => (by cases h), fun h => ?_⟩, fun _ h => (by cases h)⟩
          obtain ⟨rf, hrf⟩ := hf.1.mpr (h f (List.mem_cons_self ..))
          rw [hr] at hrf; cases hrf
      | panic m =>
          refine ⟨⟨fun ⟨_, h⟩ => (by cases h), fun h => ?_⟩, fun _ h => (by cases h)⟩
          obtain ⟨rf, hrf⟩ := hf.1.mpr (h f (List.mem_cons_self ..))
          rw [hr] at hrf; cases hrf

/-- what body validation looks at in a variant -/
structure VariantSummary where
  style : Style
  arity : Nat
  word : Bool
  flattens : List Bool

def RVariant.summary (rv : RVariant) : VariantSummary :=
  ⟨rv.style, rv.fields.length, rv.word.isSome, rv.fields.map (·.flatten)⟩
def VariantD.summary (v : VariantD) : VariantSummary :=
  ⟨v.style, v.fields.length, declaresWord v, v.fields.map declaresFlatten⟩

theorem vwf_word_present (isUnit : Bool) (ms : List Meta) (wf : VariantWellFormed isUnit ms) :
    (vEffective isUnit ms .word).isSome = true ↔ ∃ m ∈ ms, variantKw m = some .word := by
  simp only [vEffective, List.find?_isSome, beq_iff_eq]
  constructor
  · rintro ⟨m, hm, h⟩; exact ⟨m, hm, by rw [← vwf_writes isUnit ms wf m hm]; exact h⟩
  · rintro ⟨m, hm, h⟩; exact ⟨m, hm, by rw [vwf_writes isUnit ms wf m hm]; exact h⟩

/-- **a variant declaration is read successfully exactly when its options and those of its fields
    are in order**; what validation later looks at is what the declaration says -/
theorem variantFromDecl_ok_iff (o : Oracle) (core : CoreOpts) (v : VariantD) (hs : C06.VariantSafe v) :
    ((∃ rv, variantFromDecl o core v = .ok rv) ↔ VariantDeclOk o v) ∧
    (∀ rv, variantFromDecl o core v = .ok rv → RVariant.summary rv = VariantD.summary v) := by
  have hacc := variant_decl_accepts_iff_wf (v.style == .unit) v.attrs
  have hst := (variant_decl_accepts_iff (v.style == .unit) v.attrs).2
  have hfs := variantFields_ok_iff o core v.fields hs.2
  unfold variantFromDecl VariantDeclOk
  cases hf : finishWith (parseAttributes (variantStep (v.style == .unit)) {} [] v.attrs) with
  | ok s =>
      have hok := hacc.mp ⟨s, hf⟩
      simp only []
      cases hfields : variantFields o core v.fields with
      | ok rfs =>
          have hfok := hfs.1.mp ⟨rfs, hfields⟩
          have hfl := hfs.2 rfs hfields
          have hlen : rfs.length = v.fields.length := by simpa using congrArg List.length hfl
          have hw : s.word.isSome = declaresWord v := by
            rw [hst s hf, vstate_word_isSome]
            have := vwf_word_present _ _ hok.2.2
            unfold declaresWord
            rw [Bool.eq_iff_iff, this]
            simp
          cases hname : s.attrName with
          | some n =>
              simp only [Outcome.bind]
              refine ⟨⟨fun _ => ⟨hok, hfok⟩, fun _ => ⟨_, rfl⟩⟩, ?_⟩
              intro rv hrv
              cases hrv
              simp only [RVariant.summary, VariantD.summary, hlen, hw, hfl]
          | none =>
              obtain ⟨n, hn⟩ := applyToVariant_ok _ _ (hs.1 core.renameRule).2
              simp only [hn, Outcome.bind]
              refine ⟨⟨fun _ => ⟨hok, hfok⟩, fun _ => ⟨_, rfl⟩⟩, ?_⟩
              intro rv hrv
              cases hrv
              simp only [RVariant.summary, VariantD.summary, hlen, hw, hfl]
      | err e =>
          refine ⟨⟨fun ⟨_, h⟩ => (by cases h), fun h => ?_⟩, fun _ h => (by cases h)⟩
          obtain ⟨rfs, hrfs⟩ := hfs.1.mpr h.2
          rw [hfields] at hrfs; cases hrfs
      | panic m =>
          refine ⟨⟨fun ⟨_, h⟩ => (by cases h), fun h => ?_⟩, fun _ h => (by cases h)⟩
          obtain ⟨rfs, hrfs⟩ := hfs.1.mpr h.2
          rw [hfields] at hrfs; cases hrfs
  | err e =>
      refine ⟨⟨fun ⟨_, h⟩ => (by cases h), fun h => ?_⟩, fun _ h => (by cases h)⟩
      obtain ⟨s, hs'⟩ := hacc.mpr h.1
      rw [hf] at hs'; cases hs'
  | panic m => exact absurd hf (C06.variant_options_return _ v.attrs m)


/-! ### the magic fields `attrs` / `data`: `#[darling(with = …)]` only -/

def fwdReads (o : Oracle) (mi : Meta) : Bool :=
  mi.path'.isIdent "with" && (match readOptPath o mi with | .ok _ => true | _ => false)

def fwdEffective (o : Oracle) (pre : List Meta) : Option Meta := pre.find? (fwdReads o)

/-- `Error::unknown_field_with_alts(path, &["with"])` -/
def fwdUnknownErr (sim : String → Option (Nat × String)) (mi : Meta) : Err :=
  (Err.new (.unknownField mi.path'.toStr (sim mi.path'.toStr))).withSpan mi.span

def fwdPush (o : Oracle) (sim : String → Option (Nat × String)) (pre : List Meta) (mi : Meta) : Option Err :=
  if mi.path'.isIdent "with" then
    if (fwdEffective o pre).isSome then some (dupErr mi)
    else match readOptPath o mi with
      | .err e => some e
      | _ => none
  else some (fwdUnknownErr sim mi)

def fwdVerdict (o : Oracle) (sim : String → Option (Nat × String)) (pre : List Meta) (mi : Meta) : List Err :=
  (fwdPush o sim pre mi).toList

def fwdState (o : Oracle) (pre : List Meta) : Option String :=
  match fwdEffective o pre with
  | some m => (match readOptPath o m with | .ok v => v | _ => none)
  | none => none

theorem fwdEffective_snoc (o : Oracle) (pre : List Meta) (mi : Meta) :
    fwdEffective o (pre ++ [mi]) = (fwdEffective o pre).or (if fwdReads o mi then some mi else none) := by
  simp only [fwdEffective, List.find?_append, List.find?_cons, List.find?_nil]
  congr 1
  cases fwdReads o mi <;> simp

theorem fwdState_isSome (o : Oracle) (pre : List Meta) : (fwdState o pre).isSome = (fwdEffective o pre).isSome := by
  unfold fwdState
  cases he : fwdEffective o pre with
  | none => rfl
  | some m =>
      have := List.find?_some he
      simp only [fwdReads, Bool.and_eq_true] at this
      cases hr : readOptPath o m with
      | ok v => obtain ⟨x, rfl⟩ := optionOf_ok_some _ m v hr; simp [hr]
      | err e => rw [hr] at this; simp at this
      | panic p => rw [hr] at this; simp at this

/-- **one step of `ForwardedField::parse_nested` is the positional verdict** -/
theorem forwardedStep_spec (o : Oracle) (sim : String → Option (Nat × String)) (pre : List Meta) (mi : Meta) :
    forwardedStep o sim (fwdState o pre) mi = stepOf (fwdState o (pre ++ [mi])) (fwdPush o sim pre mi) := by
  unfold forwardedStep fwdPush
  by_cases hw : mi.path'.isIdent "with" = true
  · simp only [hw, if_true, fwdState_isSome]
    cases he : fwdEffective o pre with
    | some m =>
        have hst : fwdState o (pre ++ [mi]) = fwdState o pre := by simp [fwdState, fwdEffective_snoc, he]
        rw [hst]; simp [stepOf]
    | none =>
        cases hr : readOptPath o mi with
        | ok v =>
            have hrd : fwdReads o mi = true := by simp [fwdReads, hw, hr]
            have hst : fwdState o (pre ++ [mi]) = v := by simp [fwdState, fwdEffective_snoc, he, hrd, hr]
            rw [hst]; simp [withRead, stepOf]
        | err e =>
            have hrd : fwdReads o mi = false := by simp [fwdReads, hr]
            have hst : fwdState o (pre ++ [mi]) = fwdState o pre := by simp [fwdState, fwdEffective_snoc, he, hrd]
            rw [hst]; simp [withRead, stepOf]
        | panic p => exact absurd hr (C06.readOptPath_returns o mi p)
  · have hrd : fwdReads o mi = false := by simp [fwdReads, hw]
    have hst : fwdState o (pre ++ [mi]) = fwdState o pre := by simp [fwdState, fwdEffective_snoc, hrd]
    rw [hst]
    simp [hw, stepOf, fwdUnknownErr]

/-- **a well-formed option list of a forwarded field**: nothing, or one readable `with = <path>` -/
structure FwdWellFormed (o : Oracle) (ms : List Meta) : Prop where
  readable : ∀ m ∈ ms, fwdReads o m = true
  once : ms.length ≤ 1

theorem fwd_snoc (o : Oracle) (sim : String → Option (Nat × String)) (pre : List Meta) (x : Meta)
    (wf : FwdWellFormed o pre) : fwdVerdict o sim pre x = [] ↔ FwdWellFormed o (pre ++ [x]) := by
  unfold fwdVerdict fwdPush
  by_cases hw : x.path'.isIdent "with" = true
  · simp only [hw, if_true]
    cases pre with
    | nil =>
        have he : fwdEffective o [] = none := rfl
        simp only [he, Option.isSome_none, Bool.false_eq_true, if_false]
        cases hr : readOptPath o x with
        | ok v =>
            simp only [Option.toList_none, true_iff]
            exact ⟨by intro m hm; simp at hm; subst hm; simp [fwdReads, hw, hr], by simp⟩
        | err e =>
            simp only [Option.toList_some, reduceCtorEq, false_iff]
            intro h
            have := h.readable x (by simp)
            simp [fwdReads, hr] at this
        | panic p => exact absurd hr (C06.readOptPath_returns o x p)
    | cons y r =>
        have hy : fwdReads o y = true := wf.readable y (by simp)
        have he : (fwdEffective o (y :: r)).isSome = true := by simp [fwdEffective, hy]
        simp only [he, if_true, Option.toList_some, reduceCtorEq, false_iff]
        intro h
        have := h.once
        simp at this
  · simp only [hw, Bool.false_eq_true, if_false, Option.toList_some, reduceCtorEq, false_iff]
    intro h
    have := h.readable x (by simp)
    simp [fwdReads, hw] at this

theorem FwdWellFormed.prefix (o : Oracle) (a b : List Meta) (wf : FwdWellFormed o (a ++ b)) : FwdWellFormed o a :=
  ⟨fun m hm => wf.readable m (List.mem_append_left _ hm), by have := wf.once; simp at this; omega⟩

theorem fwd_verdicts_nil_iff_wf (o : Oracle) (sim : String → Option (Nat × String)) (ms : List Meta) :
    (∀ a m b, ms = a ++ m :: b → fwdVerdict o sim a m = []) ↔ FwdWellFormed o ms := by
  simpa only [List.nil_append] using wf_iff_of_snoc (FwdWellFormed.prefix o) (fun pre wf x => fwd_snoc o sim pre x wf) ms []
    ⟨(by intro m hm; cases hm), (by simp)⟩

/-- **a forwarded field is read successfully exactly when** it is named and its options are in order -/
theorem forwardedFromField_ok_iff (o : Oracle) (sim : String → Option (Nat × String)) (f : FieldD) :
    (∃ fw, forwardedFromField o sim f = .ok fw) ↔
      f.ident.isSome = true ∧ (∀ a ∈ f.attrs, AttrListOk a) ∧ AllItems (attrsItems f.attrs)
        ∧ FwdWellFormed o (attrsMetas f.attrs) := by
  have h := (decl_accepts_iff (forwardedStep o sim) (fwdState o) (fwdPush o sim) (forwardedStep_spec o sim) f.attrs).1
  have hnil : fwdState o [] = none := rfl
  rw [hnil, verdicts_nil_iff_items] at h
  have h' : (∃ s, finishWith (parseAttributes (forwardedStep o sim) none [] f.attrs) = .ok s) ↔
      (∀ a ∈ f.attrs, AttrListOk a) ∧ AllItems (attrsItems f.attrs) ∧ FwdWellFormed o (attrsMetas f.attrs) := by
    rw [h, attrsMetas_eq, ← fwd_verdicts_nil_iff_wf o sim]
    simp only [fwdVerdict, List.nil_append, Option.toList_eq_nil_iff]
  unfold forwardedFromField
  cases hid : f.ident with
  | none => simp
  | some id =>
      simp only [Option.isSome_some, true_and]
      rw [← h']
      cases hf : finishWith (parseAttributes (forwardedStep o sim) none [] f.attrs) with
      | ok w => simp
      | err e => simp
      | panic p => simp


/-! ### the body loops -/

/-- a field the derive reads itself (`ident`, `attrs`, `vis`, … — by trait) rather than as an option target -/
def isMagic (t : Trait) (f : FieldD) : Bool :=
  match f.ident with
  | some id => (magicNames t).contains id
  | none => false

/-- the magic fields `attrs` / `data`, which take a `#[darling(with = …)]` of their own -/
def isForwarded (t : Trait) (f : FieldD) : Bool :=
  isMagic t f && (f.ident.getD "" == "attrs" || f.ident.getD "" == "data")

def isAttrsField (t : Trait) (f : FieldD) : Bool := isMagic t f && f.ident.getD "" == "attrs"

/-- what the body loop asks of one field.  For a forwarded field this is the success of the model's
    `forwardedFromField`; `forwardedFromField_ok_iff` says what that amounts to. -/
def BodyFieldOk (t : Trait) (o : Oracle) (sim : String → Option (Nat × String)) (f : FieldD) : Prop :=
  if isForwarded t f then ∃ fw, forwardedFromField o sim f = .ok fw
  else if isMagic t f then True
  else FieldDeclOk o f

theorem parseFieldStep_eq (t : Trait) (o : Oracle) (sim : String → Option (Nat × String)) (core : CoreOpts)
    (st : BodySt) (f : FieldD) :
    parseFieldStep t o sim core st f =
      if isMagic t f then
        if f.ident.getD "" == "attrs" || f.ident.getD "" == "data" then
          match forwardedFromField o sim f with
          | .ok fw => .ok (if f.ident.getD "" == "attrs"
                then { st with attrsField := some fw, magic := st.magic ++ [f.ident.getD ""] }
                else { st with dataField := some fw, magic := st.magic ++ [f.ident.getD ""] })
          | .err e => .ok { st with errs := st.errs ++ [e] }
          | .panic m => .error m
        else .ok { st with magic := st.magic ++ [f.ident.getD ""] }
      else
        match fieldFromDecl o core f with
        | .ok rf => .ok { st with fields := st.fields ++ [rf] }
        | .err e => .ok { st with errs := st.errs ++ [e] }
        | .panic m => .error m := rfl

theorem bodyFieldOk_forwarded (t : Trait) (o : Oracle) (sim : String → Option (Nat × String)) (f : FieldD)
    (h : isForwarded t f = true) : BodyFieldOk t o sim f ↔ ∃ fw, forwardedFromField o sim f = .ok fw := by
  simp [BodyFieldOk, h]

theorem bodyFieldOk_magic (t : Trait) (o : Oracle) (sim : String → Option (Nat × String)) (f : FieldD)
    (hm : isMagic t f = true) (h : isForwarded t f = false) : BodyFieldOk t o sim f := by
  simp [BodyFieldOk, h, hm]

theorem bodyFieldOk_plain (t : Trait) (o : Oracle) (sim : String → Option (Nat × String)) (f : FieldD)
    (hm : isMagic t f = false) : BodyFieldOk t o sim f ↔ FieldDeclOk o f := by
  simp [BodyFieldOk, isForwarded, hm]

/-- one field of the body loop, by cases: the forwarded field `attrs` / `data` that reads, a forwarded
    field that does not, another magic field, an ordinary field that reads, one that does not; in each the
    new state is explicit and the four claims are read off it. -/
theorem parseFieldStep_spec (t : Trait) (o : Oracle) (sim : String → Option (Nat × String)) (core : CoreOpts)
    (st : BodySt) (f : FieldD) (hs : C06.FieldSafe f) :
    ∃ st', parseFieldStep t o sim core st f = .ok st' ∧ st'.variants = st.variants ∧
      (st'.errs = [] ↔ st.errs = [] ∧ BodyFieldOk t o sim f) ∧
      (st'.errs = [] → st'.fields.map (·.flatten)
          = st.fields.map (·.flatten) ++ (if isMagic t f then [] else [declaresFlatten f])) ∧
      (st'.errs = [] → st'.attrsField.isSome = (st.attrsField.isSome || isAttrsField t f)) := by
  rw [parseFieldStep_eq]
  by_cases hm : isMagic t f = true
  · rw [if_pos hm]
    by_cases hfw : (f.ident.getD "" == "attrs" || f.ident.getD "" == "data") = true
    · rw [if_pos hfw]
      have hF : isForwarded t f = true := by
        rw [isForwarded, hm, hfw]
        rfl
      cases hr : forwardedFromField o sim f with
      | ok fw =>
          have hok : BodyFieldOk t o sim f := (bodyFieldOk_forwarded t o sim f hF).mpr ⟨fw, hr⟩
          simp only []
          by_cases ha : (f.ident.getD "" == "attrs") = true
          · have hA : isAttrsField t f = true := by
              rw [isAttrsField, hm, ha]
              rfl
            rw [if_pos ha]
            refine ⟨_, rfl, rfl, ⟨fun h => ⟨h, hok⟩, fun h => h.1⟩, fun _ => ?_, fun _ => ?_⟩
            · rw [if_pos hm, List.append_nil]
            · rw [hA, Bool.or_true]
              rfl
          · have hA : isAttrsField t f = false := by
              rw [isAttrsField, Bool.eq_false_iff.mpr ha, Bool.and_false]
            rw [if_neg ha]
            refine ⟨_, rfl, rfl, ⟨fun h => ⟨h, hok⟩, fun h => h.1⟩, fun _ => ?_, fun _ => ?_⟩
            · rw [if_pos hm, List.append_nil]
            · rw [hA, Bool.or_false]
      | err e =>
          have hnok : ¬ BodyFieldOk t o sim f := fun h => by
            obtain ⟨fw, hfw'⟩ := (bodyFieldOk_forwarded t o sim f hF).mp h
            rw [hr] at hfw'
            cases hfw'
          have hne : st.errs ++ [e] ≠ [] := by simp
          exact ⟨_, rfl, rfl, ⟨fun h => absurd h hne, fun h => absurd h.2 hnok⟩, fun h => absurd h hne, fun h => absurd h hne⟩
      | panic m => exact absurd hr (C06.forwardedFromField_returns o sim f m)
    · rw [if_neg hfw]
      have hfw' : (f.ident.getD "" == "attrs" || f.ident.getD "" == "data") = false := Bool.eq_false_iff.mpr hfw
      have hF : isForwarded t f = false := by
        rw [isForwarded, hfw', Bool.and_false]
      have hA : isAttrsField t f = false := by
        rw [isAttrsField, (Bool.or_eq_false_iff.mp hfw').1, Bool.and_false]
      refine ⟨_, rfl, rfl, ⟨fun h => ⟨h, bodyFieldOk_magic t o sim f hm hF⟩, fun h => h.1⟩, fun _ => ?_, fun _ => ?_⟩
      · rw [if_pos hm, List.append_nil]
      · rw [hA, Bool.or_false]
  · rw [if_neg hm]
    have hm' : isMagic t f = false := Bool.eq_false_iff.mpr hm
    have hA : isAttrsField t f = false := by
      rw [isAttrsField, hm', Bool.false_and]
    have hf := fieldFromDecl_ok_iff o core f hs
    cases hr : fieldFromDecl o core f with
    | ok rf =>
        have hok : BodyFieldOk t o sim f := (bodyFieldOk_plain t o sim f hm').mpr (hf.1.mp ⟨rf, hr⟩)
        refine ⟨_, rfl, rfl, ⟨fun h => ⟨h, hok⟩, fun h => h.1⟩, fun _ => ?_, fun _ => ?_⟩
        · rw [if_neg hm, List.map_append, List.map_cons, List.map_nil, hf.2 rf hr]
        · rw [hA, Bool.or_false]
    | err e =>
        have hnok : ¬ BodyFieldOk t o sim f := fun h => by
          obtain ⟨rf, hrf⟩ := hf.1.mpr ((bodyFieldOk_plain t o sim f hm').mp h)
          rw [hr] at hrf
          cases hrf
        have hne : st.errs ++ [e] ≠ [] := by simp
        exact ⟨_, rfl, rfl, ⟨fun h => absurd h hne, fun h => absurd h.2 hnok⟩, fun h => absurd h hne, fun h => absurd h hne⟩
    | panic m => exact absurd hr (C06.fieldFromDecl_returns o core f (hs core.renameRule) m)


/-- the loop over the fields of a struct body: it never stops early; it ends without an error
    exactly when every field is in order; the fields it keeps are the non-magic ones, in order -/
theorem parseFields_spec (t : Trait) (o : Oracle) (sim : String → Option (Nat × String)) (core : CoreOpts) :
    ∀ (fs : List FieldD) (st : BodySt), (∀ f ∈ fs, C06.FieldSafe f) →
    ∃ st', parseFields t o sim core st fs = .ok st' ∧ st'.variants = st.variants ∧
      (st'.errs = [] ↔ st.errs = [] ∧ ∀ f ∈ fs, BodyFieldOk t o sim f) ∧
      (st'.errs = [] → st'.fields.map (·.flatten)
          = st.fields.map (·.flatten) ++ (fs.filter (fun f => !isMagic t f)).map declaresFlatten) ∧
      (st'.errs = [] → st'.attrsField.isSome = (st.attrsField.isSome || fs.any (isAttrsField t)))
  | [], st, _ => ⟨st, rfl, rfl, by simp, by simp, by simp⟩
  | f :: rest, st, hs => by
      obtain ⟨st1, h1, hv1, he1, hf1, ha1⟩ := parseFieldStep_spec t o sim core st f (hs f (List.mem_cons_self ..))
      obtain ⟨st2, h2, hv2, he2, hf2, ha2⟩ :=
        parseFields_spec t o sim core rest st1 (fun g hg => hs g (List.mem_cons_of_mem _ hg))
      refine ⟨st2, by simp only [parseFields, h1]; exact h2, by rw [hv2, hv1], ?_, ?_, ?_⟩
      · rw [he2, he1]
        simp only [List.mem_cons, forall_eq_or_imp]
        constructor
        · rintro ⟨⟨a, b⟩, c⟩; exact ⟨a, b, c⟩
        · rintro ⟨a, b, c⟩; exact ⟨⟨a, b⟩, c⟩
      · intro h
        have h1e : st1.errs = [] := (he2.mp h).1
        rw [hf2 h, hf1 h1e]
        by_cases hm : isMagic t f = true <;> simp [hm]
      · intro h
        have h1e : st1.errs = [] := (he2.mp h).1
        rw [ha2 h, ha1 h1e]
        simp [Bool.or_assoc]

/-- the loop over the variants of an enum body, for `FromMeta` -/
theorem parseVariants_fromMeta_spec (o : Oracle) (core : CoreOpts) :
    ∀ (vs : List VariantD) (st : BodySt), (∀ v ∈ vs, C06.VariantSafe v) →
    ∃ st', parseVariants .fromMeta o core st vs = .ok st' ∧ st'.fields = st.fields ∧
      (st'.errs = [] ↔ st.errs = [] ∧ ∀ v ∈ vs, VariantDeclOk o v) ∧
      (st'.errs = [] → st'.variants.map RVariant.summary = st.variants.map RVariant.summary ++ vs.map VariantD.summary)
  | [], st, _ => ⟨st, rfl, rfl, by simp, by simp⟩
  | v :: rest, st, hs => by
      have hv := variantFromDecl_ok_iff o core v (hs v (List.mem_cons_self ..))
      have hret := C06.variantFromDecl_returns o core v (hs v (List.mem_cons_self ..))
      have hrest : ∀ w ∈ rest, C06.VariantSafe w := fun w hw => hs w (List.mem_cons_of_mem _ hw)
      simp only [parseVariants, beq_self_eq_true, if_true]
      cases hr : variantFromDecl o core v with
      | ok rv =>
          have hok : VariantDeclOk o v := hv.1.mp ⟨rv, hr⟩
          obtain ⟨st2, h2, hf2, he2, hs2⟩ := parseVariants_fromMeta_spec o core rest { st with variants := st.variants ++ [rv] } hrest
          refine ⟨st2, h2, hf2, ?_, ?_⟩
          · rw [he2]; simp [hok]
          · intro h
            rw [hs2 h]
            simp [hv.2 rv hr]
      | err e =>
          have hnok : ¬ VariantDeclOk o v := fun h => by
            obtain ⟨rv, hrv⟩ := hv.1.mpr h
            rw [hr] at hrv; cases hrv
          obtain ⟨st2, h2, hf2, he2, hs2⟩ := parseVariants_fromMeta_spec o core rest { st with errs := st.errs ++ [e] } hrest
          refine ⟨st2, h2, hf2, ?_, ?_⟩
          · rw [he2]; simp [hnok]
          · intro h
            rw [he2] at h
            simp at h
      | panic m => exact absurd hr (hret m)

/-- … and for every other derive: each variant is refused -/
theorem parseVariants_outer_errs (t : Trait) (ht : t ≠ .fromMeta) (o : Oracle) (core : CoreOpts) :
    ∀ (vs : List VariantD) (st : BodySt), ∃ st', parseVariants t o core st vs = .ok st' ∧
      (st'.errs = [] ↔ st.errs = [] ∧ vs = [])
  | [], st => ⟨st, rfl, by simp⟩
  | v :: rest, st => by
      have hb : (t == Trait.fromMeta) = false := by cases t <;> first | exact absurd rfl ht | rfl
      simp only [parseVariants, hb]
      obtain ⟨st2, h2, he2⟩ := parseVariants_outer_errs t ht o core rest
        { st with errs := st.errs ++ [(Err.unsupportedFormat "enum variant").withSpan v.span] }
      exact ⟨st2, h2, by rw [he2]; simp⟩


/-! ### body validation -/

theorem len_filter_comp {α β : Type} (f : α → β) (p : β → Bool) (l : List α) :
    (l.filter (fun x => p (f x))).length = ((l.map f).filter p).length := by
  induction l with
  | nil => rfl
  | cons x r ih => by_cases h : p (f x) = true <;> simp [h, ih]

theorem len_filter_map {α : Type} (f : α → Bool) (l : List α) : (l.filter f).length = ((l.map f).filter id).length :=
  len_filter_comp f id l

theorem flattenErrs_nil_of_flags {α : Type} (fields : List RField) (l : List α) (g : α → Bool)
    (h : fields.map (·.flatten) = l.map g) : flattenErrs fields = [] ↔ (l.filter g).length ≤ 1 := by
  rw [flattenErrs_nil_iff, len_filter_map, h, ← len_filter_map]

/-- the container says `from_word` -/
def declaresFromWord (attrs : List Attr) : Bool :=
  (attrsMetas attrs).any (fun m => contKw .fromMeta m == some .fromWord)

theorem eff_isSome_eq_any (dl : Dialect) (o : Oracle) (ms : List Meta) (hr : ∀ m ∈ ms, (contRead dl o m).isSome = true)
    (k : ContKw) (hk : ∀ k', k'.slot = k ↔ k' = k) :
    (firstEff dl o ms k).isSome = ms.any (fun m => contKw dl m == some k) ∧
    (lastEff dl o ms k).isSome = ms.any (fun m => contKw dl m == some k) := by
  have hm : ∀ m ∈ ms, (contWrites dl o m = some k ↔ contKw dl m = some k) := by
    intro m hm
    rw [contWrites_eq_slot dl o m (hr m hm)]
    cases contKw dl m with
    | none => simp
    | some k' => simp [hk k']
  constructor <;> rw [Bool.eq_iff_iff] <;>
    simp only [firstEff, lastEff, List.find?_isSome, List.mem_reverse, List.any_eq_true, beq_iff_eq]
  · exact exists_congr fun m => and_congr_right (hm m)
  · exact exists_congr fun m => and_congr_right (hm m)

theorem cwf_fromWord_present (o : Oracle) (attrs : List Attr) (r0 : RenameRule)
    (wf : ContWellFormed .fromMeta o (attrsMetas attrs)) :
    (fromMetaStateP o r0 (attrsMetas attrs)).fromWord.isSome = declaresFromWord attrs := by
  rw [fmstate_fromWord_isSome]
  exact (eff_isSome_eq_any .fromMeta o _ wf.readable .fromWord (fun k' => by cases k' <;> simp [ContKw.slot])).1

/-- `FromMetaOptions::validate_body` on a struct -/
theorem fromMetaValidate_struct_nil_iff (sp : Span) (style : Style) (n : Nat) (fm : FromMetaOpts) (st : BodySt)
    (vsp : List (String × Span)) :
    fromMetaValidate sp (some style) n fm st vsp = [] ↔
      flattenErrs st.fields = [] ∧ (style = .tuple → n = 1) ∧
      (fm.fromWord.isSome = true → style ≠ .unit ∧ ¬ (style = .tuple ∧ n = 1)) := by
  unfold fromMetaValidate
  simp only [List.append_eq_nil_iff]
  cases hfw : fm.fromWord with
  | none => cases style <;> simp
  | some w =>
      obtain ⟨c, s⟩ := w
      by_cases hn : n = 1
      · cases style <;> simp [hn]
      · cases style <;> simp [hn]

theorem isMagic_fromMeta (f : FieldD) : isMagic .fromMeta f = false := by
  unfold isMagic
  cases f.ident <;> simp [magicNames]

theorem bodyFieldOk_fromMeta (o : Oracle) (sim : String → Option (Nat × String)) (f : FieldD) :
    BodyFieldOk .fromMeta o sim f ↔ FieldDeclOk o f :=
  bodyFieldOk_plain .fromMeta o sim f (isMagic_fromMeta f)

/-- the last stage of a derive: the continuation runs exactly when nothing was recorded -/
theorem match_errs_ok_iff {α : Type} (E : List Err) (k : Outcome α) :
    (∃ r, (match E with
        | [] => k
        | errs => Err.bundleErr errs : Outcome α) = .ok r) ↔ E = [] ∧ ∃ r, k = .ok r := by
  cases E with
  | nil => exact (and_iff_right rfl).symm
  | cons x l => exact ⟨fun ⟨r, h⟩ => absurd h (Err.bundleErr_ne_ok _ r), fun h => nomatch h.1⟩

/-- the last step of `deriveFromMeta`: an impl exactly when nothing was recorded -/
theorem final_match_ok_iff {α : Type} (E : List Err) (a : α) :
    (∃ r, (match E with
        | [] => Outcome.ok a
        | errs => Err.bundleErr errs : Outcome α) = .ok r) ↔ E = [] :=
  (match_errs_ok_iff E (.ok a)).trans (and_iff_left ⟨a, rfl⟩)

/-- the first stage of `deriveFromMeta`, the container options: the rest runs, from the positional state,
    exactly when they are in order -/
theorem fromMeta_stage {α : Type} (o : Oracle) (r0 : RenameRule) (attrs : List Attr) (k : FromMetaOpts → Outcome α) :
    (∃ x, (match finishWith (parseAttributes (fromMetaStep o) { core := { renameRule := r0 } } [] attrs) with
        | .err e => .err e
        | .panic m => .panic m
        | .ok fm => k fm : Outcome α) = .ok x) ↔
      ContainerOk .fromMeta o attrs ∧ ∃ x, k (fromMetaStateP o r0 (attrsMetas attrs)) = .ok x := by
  have hc := fromMeta_decl_accepts_iff_wf o r0 attrs
  cases hfin : finishWith (parseAttributes (fromMetaStep o) { core := { renameRule := r0 } } [] attrs) with
  | ok fm =>
      obtain rfl := hc.2 fm hfin
      exact (and_iff_right (hc.1.mp ⟨_, hfin⟩)).symm
  | err e =>
      refine ⟨nofun, fun h => ?_⟩
      obtain ⟨s, hs'⟩ := hc.1.mpr h.1
      cases hfin.symm.trans hs'
  | panic m => exact absurd hfin (C06.fromMeta_options_return o _ attrs m)

theorem filter_not_magic_fromMeta (fs : List FieldD) : fs.filter (fun f => !isMagic .fromMeta f) = fs :=
  List.filter_eq_self.mpr fun f _ => by rw [isMagic_fromMeta]; rfl

/-- **`derive(FromMeta)` on a struct** -/
theorem deriveFromMeta_struct_ok_iff (o : Oracle) (sp : DeclSpans) (d : DeclD) (style : Style) (fs : List FieldD)
    (hb : d.body = .struct style fs) (hs : ∀ f ∈ fs, C06.FieldSafe f) :
    (∃ r, deriveFromMeta o sp d = .ok r) ↔
      ContainerOk .fromMeta o d.attrs ∧ (∀ f ∈ fs, FieldDeclOk o f) ∧
      (fs.filter declaresFlatten).length ≤ 1 ∧
      (style = .tuple → fs.length = 1) ∧
      (declaresFromWord d.attrs = true → style ≠ .unit ∧ ¬ (style = .tuple ∧ fs.length = 1)) := by
  unfold deriveFromMeta
  rw [hb]
  simp only []
  refine (fromMeta_stage o .none d.attrs _).trans (and_congr_right fun hcont => ?_)
  obtain ⟨st, hst, _, he, hfl, _⟩ :=
    parseFields_spec .fromMeta o (fun _ => none) (fromMetaStateP o .none (attrsMetas d.attrs)).core fs {} hs
  simp only [hst]
  refine (final_match_ok_iff _ _).trans ?_
  simp only [List.append_eq_nil_iff, Option.isSome_some, if_true]
  refine (and_congr_right fun herr => ?_).trans
    (and_congr_left' (he.trans ((and_iff_right rfl).trans (forall₂_congr fun f _ => bodyFieldOk_fromMeta o _ f))))
  have hflags : st.fields.map (·.flatten) = fs.map declaresFlatten :=
    (hfl herr).trans (congrArg (List.map declaresFlatten) (filter_not_magic_fromMeta fs))
  have hlen : st.fields.length = fs.length := by simpa using congrArg List.length hflags
  rw [fromMetaValidate_struct_nil_iff, flattenErrs_nil_of_flags st.fields fs declaresFlatten hflags, hlen,
    cwf_fromWord_present o d.attrs .none hcont.2.2]


theorem forall_of_map_eq {α β γ : Type} (f : α → γ) (g : β → γ) {l₁ : List α} {l₂ : List β} (h : l₁.map f = l₂.map g)
    (P : γ → Prop) : (∀ x ∈ l₁, P (f x)) ↔ ∀ y ∈ l₂, P (g y) := by
  rw [← List.forall_mem_map, h, List.forall_mem_map]

theorem filterMap_word_length (vs : List RVariant) :
    (vs.filterMap (·.word)).length = (vs.filter (fun v => v.word.isSome)).length := by
  induction vs with
  | nil => rfl
  | cons v r ih => cases hw : v.word <;> simp [hw, ih]

/-- `FromMetaOptions::validate_body` on an enum -/
theorem fromMetaValidate_enum_nil_iff (sp : Span) (n : Nat) (fm : FromMetaOpts) (st : BodySt) (vsp : List (String × Span)) :
    fromMetaValidate sp none n fm st vsp = [] ↔
      (∀ v ∈ st.variants, (v.fields.filter (·.flatten)).length ≤ 1) ∧
      (∀ v ∈ st.variants, v.style = .tuple → v.fields.length = 1) ∧
      (fm.fromWord.isSome = true → (st.variants.filter (fun v => v.word.isSome)).length = 0) ∧
      (st.variants.filter (fun v => v.word.isSome)).length ≤ 1 := by
  unfold fromMetaValidate
  simp only [List.append_eq_nil_iff]
  have hlen := filterMap_word_length st.variants
  generalize st.variants.filterMap (·.word) = words at hlen ⊢
  rw [and_assoc, and_assoc]
  refine and_congr ?_ (and_congr ?_ (and_congr ?_ ?_))
  · simp only [List.flatMap_eq_nil_iff, flattenErrs_nil_iff]
  · simp only [List.filterMap_eq_nil_iff]
    constructor
    · intro h v hv ht
      have := h v hv
      by_cases hl : v.fields.length = 1
      · exact hl
      · simp [ht, hl] at this
    · intro h v hv
      by_cases ht : v.style = .tuple
      · simp [ht, h v hv ht]
      · simp [ht]
  · cases words with
    | nil =>
        simp at hlen
        simp [← hlen]
    | cons w r =>
        have : (st.variants.filter (fun v => v.word.isSome)).length ≠ 0 := by
          simp at hlen
          omega
        cases hfw : fm.fromWord with
        | none => simp
        | some x =>
            obtain ⟨c, s⟩ := x
            simp [this]
  · by_cases h : words.length > 1
    · simp only [h, if_true]
      constructor
      · intro hn
        have hw0 : words = [] := by simpa using hn
        simp [hw0] at h
      · intro hle
        exfalso
        omega
    · simp only [h]
      simp
      omega


/-- **`derive(FromMeta)` on an enum** -/
theorem deriveFromMeta_enum_ok_iff (o : Oracle) (sp : DeclSpans) (d : DeclD) (vs : List VariantD)
    (hb : d.body = .enum vs) (hs : ∀ v ∈ vs, C06.VariantSafe v) :
    (∃ r, deriveFromMeta o sp d = .ok r) ↔
      ContainerOk .fromMeta o d.attrs ∧ (∀ v ∈ vs, VariantDeclOk o v) ∧
      (∀ v ∈ vs, (v.fields.filter declaresFlatten).length ≤ 1) ∧
      (∀ v ∈ vs, v.style = .tuple → v.fields.length = 1) ∧
      (declaresFromWord d.attrs = true → (vs.filter declaresWord).length = 0) ∧
      (vs.filter declaresWord).length ≤ 1 := by
  unfold deriveFromMeta
  rw [hb]
  simp only []
  refine (fromMeta_stage o .snake d.attrs _).trans (and_congr_right fun hcont => ?_)
  obtain ⟨st, hst, _, he, hsum⟩ :=
    parseVariants_fromMeta_spec o (fromMetaStateP o .snake (attrsMetas d.attrs)).core vs {} hs
  simp only [hst]
  refine (final_match_ok_iff _ _).trans ?_
  rw [List.append_eq_nil_iff]
  refine (and_congr_right fun herr => ?_).trans (and_congr_left' (he.trans (and_iff_right rfl)))
  have hS : st.variants.map RVariant.summary = vs.map VariantD.summary := hsum herr
  have h1 : (∀ v ∈ st.variants, v.style = .tuple → v.fields.length = 1) ↔
      (∀ v ∈ vs, v.style = .tuple → v.fields.length = 1) :=
    forall_of_map_eq RVariant.summary VariantD.summary hS (fun s => s.style = .tuple → s.arity = 1)
  have h2 : (st.variants.filter (fun v => v.word.isSome)).length = (vs.filter declaresWord).length := by
    have a := len_filter_comp RVariant.summary (fun s => s.word) st.variants
    have b := len_filter_comp VariantD.summary (fun s => s.word) vs
    simp only [RVariant.summary, VariantD.summary] at a b
    rw [a, b, hS]
  have h0 : (∀ v ∈ st.variants, (v.fields.filter (·.flatten)).length ≤ 1) ↔
      (∀ v ∈ vs, (v.fields.filter declaresFlatten).length ≤ 1) := by
    have a := forall_of_map_eq RVariant.summary VariantD.summary hS (fun s => (s.flattens.filter id).length ≤ 1)
    simp only [RVariant.summary, VariantD.summary, ← len_filter_map] at a
    exact a
  rw [fromMetaValidate_enum_nil_iff, h0, h1, h2, cwf_fromWord_present o d.attrs .snake hcont.2.2]


/-- the declaration's options of `FromMeta`, its body and the body rules are in order -/
def FromMetaDeclOk (o : Oracle) (d : DeclD) : Prop :=
  match d.body with
  | .union => False
  | .struct style fs =>
      ContainerOk .fromMeta o d.attrs ∧ (∀ f ∈ fs, FieldDeclOk o f) ∧
      (fs.filter declaresFlatten).length ≤ 1 ∧
      (style = .tuple → fs.length = 1) ∧
      (declaresFromWord d.attrs = true → style ≠ .unit ∧ ¬ (style = .tuple ∧ fs.length = 1))
  | .enum vs =>
      ContainerOk .fromMeta o d.attrs ∧ (∀ v ∈ vs, VariantDeclOk o v) ∧
      (∀ v ∈ vs, (v.fields.filter declaresFlatten).length ≤ 1) ∧
      (∀ v ∈ vs, v.style = .tuple → v.fields.length = 1) ∧
      (declaresFromWord d.attrs = true → (vs.filter declaresWord).length = 0) ∧
      (vs.filter declaresWord).length ≤ 1

/-- **`derive(FromMeta)` emits an impl exactly for the well-formed declarations** -/
theorem deriveFromMeta_ok_iff (o : Oracle) (sp : DeclSpans) (d : DeclD) (hs : C06.DeclSafe d) :
    (∃ r, deriveFromMeta o sp d = .ok r) ↔ FromMetaDeclOk o d := by
  unfold C06.DeclSafe at hs
  unfold FromMetaDeclOk
  cases hb : d.body with
  | union =>
      simp only [iff_false, not_exists]
      intro r h
      simp [deriveFromMeta, hb] at h
  | struct style fs => rw [hb] at hs; exact deriveFromMeta_struct_ok_iff o sp d style fs hb hs
  | enum vs => rw [hb] at hs; exact deriveFromMeta_enum_ok_iff o sp d vs hb hs

/-! ### the element-level derives -/

/-- the container says `forward_attrs` -/
def declaresForwardAttrs (t : Trait) (attrs : List Attr) : Bool :=
  (attrsMetas attrs).any (fun m => contKw (.outer t) m == some .forwardAttrs)

theorem readOptFwd_some (m : Meta) (v : Option FwdFilter) (h : readOptFwd m = .ok v) : ∃ x, v = some x :=
  optionOf_ok_some _ m v h

theorem ostate_forward_isSome (t : Trait) (o : Oracle) (pre : List Meta) :
    (outerStateP t o pre).forward.isSome = (lastEff (.outer t) o pre .forwardAttrs).isSome := by
  cases he : lastEff (.outer t) o pre .forwardAttrs with
  | none => simp only [outerStateP, he, Option.bind_none, Option.isSome_none]
  | some m =>
      obtain ⟨k, v, hk, hsl, hrd, hR⟩ := contWrites_eq_some _ o m _ (lastEff_writes _ o _ _ m he)
      cases k <;> simp only [ContKw.slot, reduceCtorEq] at hsl
      obtain ⟨a, ha, rfl⟩ := map_eq_ok hR
      obtain ⟨x, rfl⟩ := readOptFwd_some m a ha
      simp only [outerStateP, he, hrd, Option.bind_some, Option.isSome_some]

theorem cwf_forward_present (t : Trait) (o : Oracle) (attrs : List Attr)
    (wf : ContWellFormed (.outer t) o (attrsMetas attrs)) :
    (outerStateP t o (attrsMetas attrs)).forward.isSome = declaresForwardAttrs t attrs := by
  rw [ostate_forward_isSome]
  exact (eff_isSome_eq_any (.outer t) o _ wf.readable .forwardAttrs (fun k' => by cases k' <;> simp [ContKw.slot])).2

/-- the last test of `deriveOuter`: `FromAttributes` needs `attributes(..)` unless the struct is a newtype -/
theorem fromAttributes_test (t : Trait) (style : Style) (n : Nat) (names : List String) :
    (t == Trait.fromAttributes && !(style == Style.tuple && n == 1) && names.isEmpty) = false ↔
      (t = .fromAttributes → (style = .tuple ∧ n = 1) ∨ names ≠ []) := by
  by_cases ht : t = .fromAttributes
  · by_cases hs : style = .tuple ∧ n = 1
    · simp [ht, hs]
    · cases names <;> simp [ht, hs]
  · simp [ht]

theorem ite_err_ok_iff {α : Type} (c : Bool) (e : Err) (a : α) :
    (∃ r, (if c = true then Outcome.err e else .ok a) = .ok r) ↔ c = false := by
  cases c <;> simp

/-- what `deriveOuter` records after the walk: the walk's errors, the `flatten` rule, and an `attrs` field
    that nothing forwards to -/
theorem outerErrs_nil_iff {γ : Type} (A B : List Err) (af : Option Forwarded) (fw : Option γ) (e : Err) :
    A ++ (B ++ match af with
      | some _ => if fw.isNone = true then [e] else []
      | none => []) = [] ↔ A = [] ∧ B = [] ∧ (af.isSome = true → fw.isSome = true) := by
  cases af <;> cases fw <;> simp

/-- **an element-level derive on a struct** -/
theorem deriveOuter_struct_ok_iff (t : Trait) (o : Oracle) (sim : String → Option (Nat × String)) (sp : DeclSpans)
    (d : DeclD) (style : Style) (fs : List FieldD) (hb : d.body = .struct style fs) (hs : ∀ f ∈ fs, C06.FieldSafe f) :
    (∃ r, deriveOuter t o sim sp d = .ok r) ↔
      ContainerOk (.outer t) o d.attrs ∧ (∀ f ∈ fs, BodyFieldOk t o sim f) ∧
      ((fs.filter (fun f => !isMagic t f)).filter declaresFlatten).length ≤ 1 ∧
      (fs.any (isAttrsField t) = true → declaresForwardAttrs t d.attrs = true) ∧
      (t = .fromAttributes → (style = .tuple ∧ fs.length = 1) ∨
        (outerStateP t o (attrsMetas d.attrs)).attrNames ≠ []) := by
  have hc := outer_decl_accepts_iff_wf t o d.attrs
  unfold deriveOuter
  rw [hb]
  simp only []
  cases hfin : finishWith (parseAttributes (outerTraitStep t o) {} [] d.attrs) with
  | err e =>
      simp only [reduceCtorEq, exists_false, false_iff]
      rintro ⟨hcont, _⟩
      obtain ⟨s, hs'⟩ := hc.1.mpr hcont
      cases hfin.symm.trans hs'
  | panic m => exact absurd hfin (C06.outer_options_return t o {} d.attrs m)
  | ok oo =>
      have hcont : ContainerOk (.outer t) o d.attrs := hc.1.mp ⟨oo, hfin⟩
      obtain rfl := hc.2 oo hfin
      refine Iff.trans ?_ (and_iff_right hcont).symm
      obtain ⟨st, hst, _, he, hfl, hat⟩ := parseFields_spec t o sim (outerStateP t o (attrsMetas d.attrs)).core fs {} hs
      simp only [hst]
      refine (match_errs_ok_iff _ _).trans ?_
      refine (and_congr (outerErrs_nil_iff _ _ _ _ _) ((ite_err_ok_iff _ _ _).trans (fromAttributes_test _ _ _ _))).trans ?_
      rw [and_assoc, and_assoc]
      refine (and_congr_right fun herr => ?_).trans (and_congr_left' (he.trans (and_iff_right rfl)))
      rw [flattenErrs_nil_of_flags st.fields _ declaresFlatten (hfl herr), hat herr, cwf_forward_present t o d.attrs hcont.2.2]
      exact Iff.rfl


theorem deriveOuter_enum_not_ok (t : Trait) (ht : t ≠ .fromMeta) (o : Oracle) (sim : String → Option (Nat × String))
    (sp : DeclSpans) (d : DeclD) (vs : List VariantD) (hb : d.body = .enum vs) :
    ¬ ∃ r, deriveOuter t o sim sp d = .ok r := by
  rintro ⟨r, h⟩
  obtain ⟨oo, st, _, hwalk, herrs, _⟩ := C06.deriveOuter_ok t o sim sp d r h
  rcases hwalk with ⟨fs, hb', _⟩ | ⟨vs', hb', hne, _, hst⟩
  · cases hb.symm.trans hb'
  · cases hb.symm.trans hb'
    -- the walk records one refusal per variant
    obtain ⟨st', hst', he⟩ := parseVariants_outer_errs t ht o oo.core vs {}
    cases hst.symm.trans hst'
    exact hne (he.mp herrs).2

/-- the declaration's options of an element-level derive, its body and the body rules are in order.
    The last clause reads the positional state: `attrNames` is what the *last* `attributes(..)` item
    read holds, so `attributes(my), attributes()` fails it and `attributes(), attributes(my)` meets it. -/
def OuterDeclOk (t : Trait) (o : Oracle) (sim : String → Option (Nat × String)) (d : DeclD) : Prop :=
  match d.body with
  | .struct style fs =>
      ContainerOk (.outer t) o d.attrs ∧ (∀ f ∈ fs, BodyFieldOk t o sim f) ∧
      ((fs.filter (fun f => !isMagic t f)).filter declaresFlatten).length ≤ 1 ∧
      (fs.any (isAttrsField t) = true → declaresForwardAttrs t d.attrs = true) ∧
      (t = .fromAttributes → (style = .tuple ∧ fs.length = 1) ∨
        (outerStateP t o (attrsMetas d.attrs)).attrNames ≠ [])
  | _ => False

/-- **an element-level derive emits an impl exactly for the well-formed struct declarations** -/
theorem deriveOuter_ok_iff (t : Trait) (ht : t ≠ .fromMeta) (o : Oracle) (sim : String → Option (Nat × String))
    (sp : DeclSpans) (d : DeclD) (hs : C06.DeclSafe d) :
    (∃ r, deriveOuter t o sim sp d = .ok r) ↔ OuterDeclOk t o sim d := by
  unfold C06.DeclSafe at hs
  unfold OuterDeclOk
  cases hb : d.body with
  | union =>
      simp only [iff_false, not_exists]
      intro r h
      simp [deriveOuter, hb] at h
  | struct style fs => rw [hb] at hs; exact deriveOuter_struct_ok_iff t o sim sp d style fs hb hs
  | enum vs =>
      simp only [iff_false]
      exact deriveOuter_enum_not_ok t ht o sim sp d vs hb

theorem derive_fromMeta (o : Oracle) (sim : String → Option (Nat × String)) (sp : DeclSpans) (d : DeclD) :
    Options.derive .fromMeta o sim sp d = deriveFromMeta o sp d := rfl

/-- **C10: the derive emits an impl exactly for the well-formed declarations** (identifiers safe
    for the rename rules, see `C06.DeclSafe`) -/
theorem derive_ok_iff (t : Trait) (o : Oracle) (sim : String → Option (Nat × String)) (sp : DeclSpans) (d : DeclD)
    (hs : C06.DeclSafe d) :
    (∃ r, Options.derive t o sim sp d = .ok r) ↔
      if t = .fromMeta then FromMetaDeclOk o d else OuterDeclOk t o sim d := by
  by_cases ht : t = .fromMeta
  · subst ht
    rw [derive_fromMeta, if_pos rfl]
    exact deriveFromMeta_ok_iff o sp d hs
  · have hb : (t == Trait.fromMeta) = false := by cases t <;> first | exact absurd rfl ht | rfl
    rw [if_neg ht, Options.derive, hb]
    exact deriveOuter_ok_iff t ht o sim sp d hs

/-- … and otherwise it reports: a rejected declaration gets diagnostics, never a panic, never silence -/
theorem derive_rejects_iff (t : Trait) (o : Oracle) (sim : String → Option (Nat × String)) (sp : DeclSpans) (d : DeclD)
    (hs : C06.DeclSafe d) :
    (∃ e, Options.derive t o sim sp d = .err e) ↔
      ¬ (if t = .fromMeta then FromMetaDeclOk o d else OuterDeclOk t o sim d) := by
  rw [← derive_ok_iff t o sim sp d hs]
  have hret := C06.derive_returns t o sim sp d hs
  cases h : Options.derive t o sim sp d with
  | ok r => simp
  | err e => simp
  | panic m => exact absurd h (hret m)


/-! ## examples: concrete declarations -/
namespace Ex2
open Ex

def fld (id : String) (items : List NestedMeta) : FieldD :=
  { ident := some id, ty := .bool, tyToks := "bool", vis := "", attrs := if items.isEmpty then [] else [attrOf items] }
def tfld (items : List NestedMeta) : FieldD :=
  { ident := none, ty := .bool, tyToks := "bool", vis := "", attrs := if items.isEmpty then [] else [attrOf items] }
def vnt (id : String) (style : Style) (fields : List FieldD) (items : List NestedMeta) : VariantD :=
  { ident := id, style := style, fields := fields, attrs := if items.isEmpty then [] else [attrOf items],
    discriminant := none }
def decl (cont : List NestedMeta) (body : BodyD) : DeclD :=
  { ident := "S", attrs := if cont.isEmpty then [] else [attrOf cont], body := body }

def renameAllSnake : Meta := nv "rename_all" "snake_case" 0 26
def renameAllKebab : Meta := nv "rename_all" "kebab-case" 28 54
def fromWordF : Meta := nvp "from_word" "f" 0 13
def fromWordG : Meta := nvp "from_word" "g" 15 28
def defaultW : Meta := word "default" 0 7
def fromIdentW : Meta := word "from_ident" 9 19
def forwardAttrsW : Meta := word "forward_attrs" 0 13
def attributesL : Meta :=
  .list { global := false, segs := ["attributes"], plain := true, toks := "attributes", span := ⟨0, 10⟩ }
    [.item (word "my" 11 13)] none (some ⟨11, 13⟩) "attributes(my)" ⟨0, 14⟩

/-- `#[darling(rename_all = "snake_case")] struct S { #[darling(rename = "x")] a: bool, b: bool }` -/
def good : DeclD := decl [.item renameAllSnake] (.struct .named [fld "a" [.item renameX], fld "b" []])

theorem good_safe : C06.DeclSafe good := by
  intro f hf
  simp only [List.mem_cons, List.not_mem_nil, or_false] at hf
  rcases hf with rfl | rfl
  · exact C06.ident_a_safe
  · exact C06.ident_b_safe

theorem good_derives : ∃ r, deriveFromMeta {} {} good = .ok r := ⟨_, rfl⟩

/-- `default, from_ident` is accepted (and `from_ident` silently replaces the default); `from_ident,
    default` is a "duplicate" -/
theorem default_fromIdent_verdicts : contVerdict (.outer .fromDeriveInput) {} [defaultW] fromIdentW = []
    ∧ contVerdict (.outer .fromDeriveInput) {} [fromIdentW] defaultW = [dupErr defaultW]
    ∧ (outerStateP .fromDeriveInput {} [defaultW, fromIdentW]).core.dflt = some (.trait_ ⟨9, 19⟩) :=
  ⟨by rfl, by rfl, by rfl⟩

theorem ident_A_safe : C06.IdentSafe "A" :=
  C06.identSafe_of_camel ⟨C06.returns_of_eq_ok rfl, C06.returns_of_eq_ok rfl⟩
theorem ident_B_safe : C06.IdentSafe "B" :=
  C06.identSafe_of_camel ⟨C06.returns_of_eq_ok rfl, C06.returns_of_eq_ok rfl⟩
end Ex2
open Ex Ex2

/-! container options, item by item -/
example : contVerdict (.outer .fromDeriveInput) {} [defaultW] fromIdentW = []
    ∧ contVerdict (.outer .fromDeriveInput) {} [fromIdentW] defaultW = [dupErr defaultW] :=
  ⟨default_fromIdent_verdicts.1, default_fromIdent_verdicts.2.1⟩
example : (outerStateP .fromDeriveInput {} [defaultW, fromIdentW]).core.dflt = some (.trait_ ⟨9, 19⟩) :=
  default_fromIdent_verdicts.2.2
/-- `rename_all` may be repeated: the last one wins, nothing is reported -/
example : contVerdict .fromMeta {} [renameAllSnake] renameAllKebab = []
    ∧ (fromMetaStateP {} .none [renameAllSnake, renameAllKebab]).core.renameRule = .kebab := ⟨rfl, rfl⟩
/-- a second `from_word` is a duplicate spanned at its *path* (`15..24`), not at the item (`15..28`) -/
example : contVerdict .fromMeta {} [fromWordF] fromWordG = [dupErrAtPath fromWordG]
    ∧ (dupErrAtPath fromWordG).span = some ⟨15, 24⟩ ∧ (dupErr fromWordG).span = some ⟨15, 28⟩ := ⟨rfl, rfl, rfl⟩
/-- `from_word` is not an option of the element-level derives, `from_ident` not one of `FromMeta` -/
example : contVerdict (.outer .fromField) {} [] fromWordF = [unknownErr fromWordF]
    ∧ contVerdict .fromMeta {} [] fromIdentW = [unknownErr fromIdentW] := ⟨rfl, rfl⟩
example : ContWellFormed (.outer .fromDeriveInput) {} [defaultW, fromIdentW] :=
  (cwf_snoc _ {} [defaultW] fromIdentW ((cwf_snoc _ {} [] defaultW (ContWellFormed.nil _ _)).mp rfl)).mp
    default_fromIdent_verdicts.1
example : ¬ ContWellFormed (.outer .fromDeriveInput) {} [fromIdentW, defaultW] := fun wf =>
  nomatch default_fromIdent_verdicts.2.1.symm.trans
    ((cwf_snoc _ {} [fromIdentW] defaultW (ContWellFormed.prefix _ _ [fromIdentW] [defaultW] wf)).mpr wf)

/-! an accepted declaration … -/
example : ∃ r, Options.derive .fromMeta {} (fun _ => none) {} good = .ok r := by
  rw [derive_fromMeta]
  exact good_derives
example : FromMetaDeclOk {} good := (deriveFromMeta_ok_iff {} {} good good_safe).mp good_derives

/-! … and one rejected for each body rule -/
/-- two `flatten` fields -/
example : ∃ e, deriveFromMeta {} {} (decl [] (.struct .named [fld "a" [.item flatten1], fld "b" [.item flatten1]])) = .err e :=
  ⟨_, rfl⟩
/-- a tuple struct with two fields -/
example : deriveFromMeta {} {} (decl [] (.struct .tuple [tfld [], tfld []]))
    = .err ((Err.custom "FromMeta can only be derived for tuple structs with exactly one field").withSpan default) := rfl
/-- `from_word` on a unit struct, on a newtype struct -/
theorem fromWord_struct_rejected :
    (∃ e, deriveFromMeta {} {} (decl [.item fromWordF] (.struct .unit [])) = .err e) ∧
    ∃ e, deriveFromMeta {} {} (decl [.item fromWordF] (.struct .tuple [tfld []])) = .err e :=
  ⟨⟨_, by rfl⟩, ⟨_, by rfl⟩⟩
example : ∃ e, deriveFromMeta {} {} (decl [.item fromWordF] (.struct .unit [])) = .err e := fromWord_struct_rejected.1
example : ∃ e, deriveFromMeta {} {} (decl [.item fromWordF] (.struct .tuple [tfld []])) = .err e := fromWord_struct_rejected.2
/-- a tuple variant with two fields -/
example : ∃ e, deriveFromMeta {} {} (decl [] (.enum [vnt "A" .tuple [tfld [], tfld []] []])) = .err e := ⟨_, rfl⟩
/-- two `word` variants; `word` together with `from_word` -/
theorem word_enum_rejected :
    (∃ e, deriveFromMeta {} {} (decl [] (.enum [vnt "A" .unit [] [.item word1], vnt "B" .unit [] [.item word1]])) = .err e) ∧
    ∃ e, deriveFromMeta {} {} (decl [.item fromWordF] (.enum [vnt "A" .unit [] [.item word1]])) = .err e :=
  ⟨⟨_, by rfl⟩, ⟨_, by rfl⟩⟩
example : ∃ e, deriveFromMeta {} {} (decl [] (.enum [vnt "A" .unit [] [.item word1], vnt "B" .unit [] [.item word1]])) = .err e :=
  word_enum_rejected.1
example : ∃ e, deriveFromMeta {} {} (decl [.item fromWordF] (.enum [vnt "A" .unit [] [.item word1]])) = .err e :=
  word_enum_rejected.2
/-- a union -/
example : deriveFromMeta {} {} (decl [] .union) = .err (Err.custom "Unions are not supported") := rfl
/-- two `flatten` fields *inside a variant*: one diagnostic per offender, as for a struct body -/
example : deriveFromMeta {} {} (decl [] (.enum [vnt "B" .named [fld "x" [.item flatten1], fld "y" [.item flatten1]] []]))
    = .err (.multi
        [(Err.custom "`#[darling(flatten)]` can only be applied to one field").withSpan ⟨0, 7⟩,
         (Err.custom "`#[darling(flatten)]` can only be applied to one field").withSpan ⟨0, 7⟩] [] none) := rfl
/-- … while one `flatten` field in each of two variants is fine -/
def twoVariants : DeclD :=
  decl [] (.enum [vnt "A" .named [fld "a" [.item flatten1], fld "b" []] [], vnt "B" .named [fld "b" [.item flatten1]] []])
namespace Ex2
theorem twoVariants_derives : ∃ r, deriveFromMeta {} {} twoVariants = .ok r := ⟨_, rfl⟩
end Ex2
example : ∃ r, deriveFromMeta {} {} twoVariants = .ok r := twoVariants_derives
theorem twoVariants_safe : C06.DeclSafe twoVariants := by
  intro v hv
  simp only [List.mem_cons, List.not_mem_nil, or_false] at hv
  rcases hv with rfl | rfl
  · refine ⟨ident_A_safe, ?_⟩
    intro f hf
    simp only [vnt, List.mem_cons, List.not_mem_nil, or_false] at hf
    rcases hf with rfl | rfl
    · exact C06.ident_a_safe
    · exact C06.ident_b_safe
  · refine ⟨ident_B_safe, ?_⟩
    intro f hf
    simp only [vnt, List.mem_cons, List.not_mem_nil, or_false] at hf
    subst hf
    exact C06.ident_b_safe
example : FromMetaDeclOk {} twoVariants := (deriveFromMeta_ok_iff {} {} twoVariants twoVariants_safe).mp twoVariants_derives
example : ¬ FromMetaDeclOk {}
    (decl [] (.enum [vnt "B" .named [fld "x" [.item flatten1], fld "y" [.item flatten1]] []])) := by
  intro h
  have := h.2.2.1 _ (List.mem_cons_self ..)
  exact absurd this (by decide)

/-! element-level derives: an enum; an `attrs` field without `forward_attrs` (and with it);
`FromAttributes` without `attributes(..)` (and with it) -/
example : ∃ e, deriveOuter .fromField {} (fun _ => none) {} (decl [] (.enum [vnt "A" .unit [] []])) = .err e := ⟨_, rfl⟩
example : ∃ e, deriveOuter .fromDeriveInput {} (fun _ => none) {} (decl [] (.struct .named [fld "attrs" []])) = .err e :=
  ⟨_, rfl⟩
example : ∃ r, deriveOuter .fromDeriveInput {} (fun _ => none) {} (decl [.item forwardAttrsW] (.struct .named [fld "attrs" []]))
    = .ok r := ⟨_, rfl⟩
example : deriveOuter .fromAttributes {} (fun _ => none) {} (decl [] (.struct .named [fld "a" []]))
    = .err (Err.custom "FromAttributes without attributes collects nothing") := rfl
example : ∃ r, deriveOuter .fromAttributes {} (fun _ => none) {} (decl [.item attributesL] (.struct .named [fld "a" []]))
    = .ok r := ⟨_, rfl⟩
/-- the order-dependent rule, end to end -/
example : (∃ r, deriveOuter .fromDeriveInput {} (fun _ => none) {} (decl [.item defaultW, .item fromIdentW] (.struct .named [fld "a" []])) = .ok r)
    ∧ deriveOuter .fromDeriveInput {} (fun _ => none) {} (decl [.item fromIdentW, .item defaultW] (.struct .named [fld "a" []]))
        = .err (dupErr defaultW) := ⟨⟨_, rfl⟩, rfl⟩

example : ¬ FromMetaDeclOk {} (decl [] (.struct .tuple [tfld [], tfld []])) := by
  intro h
  have h' : (∀ f ∈ [tfld [], tfld []], FieldDeclOk {} f) → ([tfld [], tfld []].filter declaresFlatten).length ≤ 1 →
      (Style.tuple = Style.tuple → [tfld [], tfld []].length = 1) → False := fun _ _ h3 => by
    have := h3 rfl
    simp at this
  exact h' h.2.1 h.2.2.1 h.2.2.2.1

end C10
