import Darling.Props.C02
import Darling.Options
import Darling.Derive.Env
/-
  C01 — Derived struct receivers compute exactly the declared field mapping.
  The main theorem is `C02.fromList_value` (proved with the loop invariant of C02): a
  mistake-free input parses to `Spec.C01.expected`.  This file adds the readings the statement
  spells out, and what `C01Corpus` and `C01Spec` both need of the receiver `Env.semStruct` assembles
  from a declaration.
-/
open Derive Spec.C02 Spec.C01

namespace C01
variable {ν : Type}

theorem value (r : SStruct ν) (hwf : C02.WF r) (hd : C02.Distinct r) (items : List NestedMeta)
    (h : mistakes r items = []) : fromList r items = expected r items :=
  C02.fromList_value r hwf hd items h

theorem multiple_holds_every_occurrence (r : SStruct ν) (items : List NestedMeta) (f : SField ν)
    (hm : f.multiple = true) (hd : f.dflt = none) :
    fieldValue r items f = .ok (r.mkList (successes r f items)) := by
  simp [fieldValue, hm, hd]

theorem successes_append (r : SStruct ν) (f : SField ν) (xs ys : List NestedMeta) :
    successes r f (xs ++ ys) = successes r f xs ++ successes r f ys := by
  unfold successes
  exact List.filterMap_append

/-- nothing but the items addressed to a field influences it: only the sub-list of items that
    select `f` matters -/
theorem only_own_items_matter_multiple (r : SStruct ν) (f : SField ν) (items : List NestedMeta) :
    successes r f items = successes r f (items.filter (selects r f)) := by
  unfold successes
  rw [List.filterMap_filter]
  congr 1
  funext it
  cases it with
  | lit l => rfl
  | item m => cases selects r f (.item m) <;> rfl

theorem only_own_items_matter_single (r : SStruct ν) (f : SField ν) (items : List NestedMeta) :
    firstValue r f items = firstValue r f (items.filter (selects r f)) := by
  unfold firstValue
  rw [List.find?_filter]
  simp only [and_self, Bool.decide_eq_true]

/-- a field that is not supplied holds its own default, else the container default's field, else
    the type's value-for-absent -/
theorem absent_field_default_chain (r : SStruct ν) (items : List NestedMeta) (f : SField ν)
    (hm : f.multiple = false) (hff : isFirstFlatten r f = false) (habs : items.any (selects r f) = false) :
    fieldValue r items f =
      match f.dflt with
      | some d => defaultOf r f d
      | none => (match f.fromNone with
          | some v => .ok v
          | none => .panic "Uninitialized fields without defaults were already checked") := by
  unfold fieldValue
  rw [hm, hff, C02.firstValue_unselected r f items habs]
  rfl

theorem skipped_field_is_absent (r : SStruct ν) (hwf : C02.WF r) (items : List NestedMeta) (f : SField ν)
    (hf : f ∈ r.fields) (hs : f.skip = true) : items.any (selects r f) = false := by
  rw [List.any_eq_false]
  intro it _
  simp [C02.not_selected_of_no_arm r hwf f hf (Or.inl hs) it]

theorem semStruct_fields (env : Env.T) (rh : String → Hooks Val) (core : Options.RCore)
    (fields : List Options.RField) (build : List (String × Val) → Val) :
    (Env.semStruct env rh core fields build).fields = fields.map (Env.semField env rh) := rfl

theorem mem_semStruct_fields {env : Env.T} {rh : String → Hooks Val} {core : Options.RCore}
    {fields : List Options.RField} {build : List (String × Val) → Val} {f : SField Val} :
    f ∈ (Env.semStruct env rh core fields build).fields ↔ ∃ f0 ∈ fields, Env.semField env rh f0 = f := by
  rw [semStruct_fields]
  exact List.mem_map

theorem semStruct_identsDistinct (env : Env.T) (rh : String → Hooks Val) (core : Options.RCore)
    (fields : List Options.RField) (build : List (String × Val) → Val)
    (hd : fields.Pairwise (fun f g => f.ident ≠ g.ident)) :
    (Env.semStruct env rh core fields build).fields.Pairwise (fun f g => f.ident ≠ g.ident) :=
  List.Pairwise.map _ (fun _ _ h => h) hd

theorem resolveField_ok (core : Options.CoreOpts) (ident : String) (ty : Ty) (s : Options.FieldOpts)
    (rf : Options.RField) (h : Options.resolveField core ident ty s = .ok rf) :
    rf = { ident, name := rf.name, ty, with_ := s.with_, post := s.post,
           dflt := Options.fieldDefault s.dflt core.dflt s.skip, skip := Options.skipTrue s,
           multiple := s.multiple.getD false, flatten := s.flatten.isSome, flattenSpan := s.flatten } := by
  obtain ⟨name, _, hrf⟩ := Outcome.bind_eq_ok h
  cases hrf
  rfl

/-- explicit rename, else the container's case rule applied to the Rust name -/
theorem effective_name (core : Options.CoreOpts) (ident : String) (ty : Ty) (s : Options.FieldOpts)
    (rf : Options.RField) (h : Options.resolveField core ident ty s = .ok rf) :
    (match s.attrName with
     | some n => rf.name = n
     | none => core.renameRule.applyToField ident = .ok rf.name) := by
  obtain ⟨name, hname, hrf⟩ := Outcome.bind_eq_ok h
  cases hrf
  cases hn : s.attrName with
  | some n => rw [hn] at hname; exact (Outcome.ok.inj hname).symm
  | none => rw [hn] at hname; exact hname

/-- default chain as resolved at derive time: own > container (inherit) > `Default` for skipped -/
theorem resolved_default (core : Options.CoreOpts) (ident : String) (ty : Ty) (s : Options.FieldOpts)
    (rf : Options.RField) (h : Options.resolveField core ident ty s = .ok rf) :
    rf.dflt = Options.fieldDefault s.dflt core.dflt s.skip := by
  rw [resolveField_ok core ident ty s rf h]

end C01
