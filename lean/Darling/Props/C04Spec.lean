import Darling.Error
import Darling.Spec.C04
import Darling.Lemmas.Error
import Darling.Props.C04
/-
  C04 — an independent, positional specification of error trees, written from the property text.

  The property speaks about *leaf errors*, their *left-to-right order*, and the *ancestors* of a
  leaf.  Here these notions are defined by position, not by the recursion of `into_vec`:

    * an address is the list of child indices walked from the root (`sub`);
    * the ancestors of the node at address `a` are the nodes at the prefixes of `a`, shortest
      (outermost) first (`prefixes`, `nodesAlong`);
    * the full path of that node is the concatenation of the locations of these nodes
      (`pathAt`), its effective span the innermost span among them (`spanAt`);
    * the leaves of a tree are the addresses at which a leaf sits, in lexicographic order —
      `leafAddrs` enumerates them and `leafAddrs_canonical` shows that membership and order
      determine that list uniquely, so the enumeration's own recursion carries no meaning.

  The end-to-end theorems then say: `len` is the number of leaf addresses, `flatten` returns the
  leaves at these addresses in this order with these paths, Display and the conversion to
  compiler diagnostics render them as the text prescribes.
-/
open Err

namespace C04

abbrev Addr := List Nat

/-- the subtree at an address (child indices from the root) -/
def sub : Err → Addr → Option Err
  | e, [] => some e
  | .leaf _ _ _, _ :: _ => none
  | .multi cs _ _, i :: a =>
      match cs[i]? with
      | some c => sub c a
      | none => none

/-- all prefixes of a list, shortest first -/
def prefixes {α : Type} : List α → List (List α)
  | [] => [[]]
  | x :: xs => [] :: (prefixes xs).map (x :: ·)

/-- the nodes met on the way from the root to address `a`, root first, the node at `a` last -/
def nodesAlong (e : Err) (a : Addr) : List Err := (prefixes a).filterMap (sub e)

/-- full outer-to-inner location path of the node at `a`: the locations of all its ancestors,
    outermost first, followed by its own -/
def pathAt (e : Err) (a : Addr) : List String := (nodesAlong e a).flatMap Err.locs

/-- the span that applies to the node at `a`: its own if it has one, else that of the nearest
    ancestor that has one -/
def spanAt (e : Err) (a : Addr) : Option Span := (nodesAlong e a).reverse.findSome? Err.span

/-- `a` is the position of a leaf error -/
def IsLeafAddr (e : Err) (a : Addr) : Prop := ∃ k ls s, sub e a = some (.leaf k ls s)

/-- kind of the leaf at `a` (arbitrary when `a` is not a leaf address) -/
def kindAt (e : Err) (a : Addr) : Kind :=
  match sub e a with
  | some (.leaf k _ _) => k
  | _ => .custom ""

/-- at a leaf position `kindAt` is the kind of the leaf that sits there (no default involved) -/
theorem kindAt_spec {e : Err} {a : Addr} (h : IsLeafAddr e a) :
    ∃ ls s, sub e a = some (.leaf (kindAt e a) ls s) := by
  obtain ⟨k, ls, s, hs⟩ := h
  exact ⟨ls, s, by simp only [kindAt, hs]⟩

/-- what flattening must deliver for the leaf at `a` -/
def leafAt (e : Err) (a : Addr) : Err := .leaf (kindAt e a) (pathAt e a) (spanAt e a)

mutual
/-- enumeration of the leaf addresses, left to right -/
def leafAddrs : Err → List Addr
  | .leaf _ _ _ => [[]]
  | .multi cs _ _ => leafAddrsFrom 0 cs
def leafAddrsFrom (i : Nat) : List Err → List Addr
  | [] => []
  | c :: cs => (leafAddrs c).map (i :: ·) ++ leafAddrsFrom (i + 1) cs
end

theorem mem_prefixes {α : Type} (p a : List α) : p ∈ prefixes a ↔ p <+: a := by
  induction a generalizing p with
  | nil => rw [prefixes, List.mem_singleton, List.prefix_nil]
  | cons x xs ih =>
      simp only [prefixes, List.mem_cons, List.mem_map, List.prefix_cons_iff]
      constructor
      · rintro (h | ⟨t, ht, rfl⟩)
        · exact Or.inl h
        · exact Or.inr ⟨t, rfl, (ih t).1 ht⟩
      · rintro (h | ⟨t, rfl, ht⟩)
        · exact Or.inl h
        · exact Or.inr ⟨t, (ih t).2 ht, rfl⟩

theorem prefixes_lengths {α : Type} (a : List α) :
    (prefixes a).map List.length = List.range (a.length + 1) := by
  induction a with
  | nil => rfl
  | cons x xs ih =>
      simp only [prefixes, List.map_cons, List.map_map, List.length_nil, List.length_cons]
      rw [List.range_succ_eq_map, ← ih, List.map_map]
      rfl

theorem sub_nil (e : Err) : sub e [] = some e := by cases e <;> rfl

theorem sub_leaf_cons (k ls s i) (a : Addr) : sub (.leaf k ls s) (i :: a) = none := rfl

theorem sub_multi_cons {cs : List Err} {c : Err} {i : Nat} (ls s) (a : Addr) (h : cs[i]? = some c) :
    sub (.multi cs ls s) (i :: a) = sub c a := by
  simp only [sub, h]

theorem sub_multi_cons_none {cs : List Err} {i : Nat} (ls s) (a : Addr) (h : cs[i]? = none) :
    sub (.multi cs ls s) (i :: a) = none := by
  simp only [sub, h]

theorem nodesAlong_nil (e : Err) : nodesAlong e [] = [e] := by
  simp only [nodesAlong, prefixes, List.filterMap_cons, sub_nil, List.filterMap_nil]

theorem nodesAlong_cons (e : Err) (i : Nat) (a : Addr) :
    nodesAlong e (i :: a) = e :: (prefixes a).filterMap (fun p => sub e (i :: p)) := by
  simp only [nodesAlong, prefixes, List.filterMap_cons, sub_nil, List.filterMap_map]
  rfl

theorem nodesAlong_multi_cons {cs : List Err} {c : Err} {i : Nat} (ls s) (a : Addr)
    (h : cs[i]? = some c) :
    nodesAlong (.multi cs ls s) (i :: a) = .multi cs ls s :: nodesAlong c a := by
  rw [nodesAlong_cons, funext (fun p => sub_multi_cons ls s p h)]
  rfl

theorem pathAt_nil (e : Err) : pathAt e [] = e.locs := by
  simp only [pathAt, nodesAlong_nil, List.flatMap_cons, List.flatMap_nil, List.append_nil]

theorem pathAt_multi_cons {cs : List Err} {c : Err} {i : Nat} (ls s) (a : Addr)
    (h : cs[i]? = some c) :
    pathAt (.multi cs ls s) (i :: a) = ls ++ pathAt c a := by
  simp only [pathAt, nodesAlong_multi_cons ls s a h, List.flatMap_cons, Err.locs]

theorem spanAt_nil (e : Err) : spanAt e [] = e.span := by
  simp only [spanAt, nodesAlong_nil, List.reverse_cons, List.reverse_nil, List.nil_append,
    List.findSome?_cons, List.findSome?_nil]
  cases e.span <;> rfl

theorem spanAt_multi_cons {cs : List Err} {c : Err} {i : Nat} (ls s) (a : Addr)
    (h : cs[i]? = some c) :
    spanAt (.multi cs ls s) (i :: a) = (spanAt c a).or s := by
  simp only [spanAt, nodesAlong_multi_cons ls s a h, List.reverse_cons, List.findSome?_append,
    List.findSome?_cons, List.findSome?_nil, Err.span]
  cases s <;> rfl

theorem kindAt_multi_cons {cs : List Err} {c : Err} {i : Nat} (ls s) (a : Addr)
    (h : cs[i]? = some c) :
    kindAt (.multi cs ls s) (i :: a) = kindAt c a := by
  simp only [kindAt, sub_multi_cons ls s a h]

theorem kindAt_leaf_nil (k ls s) : kindAt (.leaf k ls s) [] = k := rfl

theorem drop_eq_cons {α : Type} {l : List α} {i : Nat} {c : α} {cs : List α} (h : l.drop i = c :: cs) :
    l[i]? = some c ∧ l.drop (i + 1) = cs := by
  constructor
  · rw [← List.head?_drop, h]; rfl
  · rw [← List.tail_drop, h]; rfl

theorem not_isLeafAddr_multi_nil (cs ls s) : ¬ IsLeafAddr (.multi cs ls s) [] := by
  rintro ⟨k, l, sp, h⟩
  rw [sub_nil] at h
  cases h

theorem mem_leafAddrsFrom {all : List Err} (ls : List String) (s : Option Span) {cs : List Err}
    (ih : ∀ c ∈ cs, ∀ b, b ∈ leafAddrs c ↔ IsLeafAddr c b) (i : Nat) (h : all.drop i = cs) (a : Addr) :
    a ∈ leafAddrsFrom i cs ↔ (IsLeafAddr (.multi all ls s) a ∧ ∃ j b, a = j :: b ∧ i ≤ j) := by
  induction cs generalizing i with
  | nil =>
      simp only [leafAddrsFrom, List.not_mem_nil, false_iff]
      rintro ⟨⟨k, l, sp, hs⟩, j, b, rfl, hij⟩
      have hlen : all.length ≤ j := Nat.le_trans (List.drop_eq_nil_iff.mp h) hij
      rw [sub_multi_cons_none ls s b (List.getElem?_eq_none hlen)] at hs
      cases hs
  | cons c cs' ihl =>
      obtain ⟨hc, hrest⟩ := drop_eq_cons h
      obtain ⟨ihc, ihcs⟩ := List.forall_mem_cons.1 ih
      simp only [leafAddrsFrom, List.mem_append, List.mem_map]
      rw [ihl ihcs (i + 1) hrest]
      constructor
      · rintro (⟨b, hb, rfl⟩ | ⟨hl, j, b, rfl, hij⟩)
        · obtain ⟨k, l, sp, hs⟩ := (ihc b).1 hb
          exact ⟨⟨k, l, sp, by rw [sub_multi_cons ls s b hc]; exact hs⟩, i, b, rfl, Nat.le_refl i⟩
        · exact ⟨hl, j, b, rfl, Nat.le_of_succ_le hij⟩
      · rintro ⟨hl, j, b, rfl, hij⟩
        by_cases hji : j = i
        · subst hji
          left
          obtain ⟨k, l, sp, hs⟩ := hl
          rw [sub_multi_cons ls s b hc] at hs
          exact ⟨b, (ihc b).2 ⟨k, l, sp, hs⟩, rfl⟩
        · right
          exact ⟨hl, j, b, rfl, Nat.lt_of_le_of_ne hij (Ne.symm hji)⟩

theorem mem_leafAddrs (e : Err) (a : Addr) : a ∈ leafAddrs e ↔ IsLeafAddr e a := by
  induction e using Err.induct generalizing a with
  | leaf k ls s =>
      simp only [leafAddrs, List.mem_singleton]
      constructor
      · rintro rfl; exact ⟨k, ls, s, rfl⟩
      · rintro ⟨k', ls', s', h⟩
        cases a with
        | nil => rfl
        | cons i b => rw [sub_leaf_cons] at h; cases h
  | multi cs ls s ih =>
      simp only [leafAddrs]
      rw [mem_leafAddrsFrom ls s ih 0 rfl a]
      constructor
      · exact fun h => h.1
      · intro h
        refine ⟨h, ?_⟩
        cases a with
        | nil => exact absurd h (not_isLeafAddr_multi_nil cs ls s)
        | cons j b => exact ⟨j, b, rfl, Nat.zero_le j⟩

mutual
theorem leafAddrs_sorted (e : Err) : (leafAddrs e).Pairwise (· < ·) := by
  cases e with
  | leaf k ls s => exact List.pairwise_singleton _ _
  | multi cs ls s => exact (leafAddrsFrom_sorted 0 cs).1
theorem leafAddrsFrom_sorted (i : Nat) (cs : List Err) :
    (leafAddrsFrom i cs).Pairwise (· < ·)
      ∧ ∀ a ∈ leafAddrsFrom i cs, ∃ j b, a = j :: b ∧ i ≤ j := by
  cases cs with
  | nil => simp only [leafAddrsFrom, List.Pairwise.nil, List.not_mem_nil, false_imp_iff,
      implies_true, and_self]
  | cons c cs' =>
      obtain ⟨hs, hhead⟩ := leafAddrsFrom_sorted (i + 1) cs'
      have hc := leafAddrs_sorted c
      simp only [leafAddrsFrom]
      refine ⟨List.pairwise_append.2 ⟨?_, hs, ?_⟩, ?_⟩
      · rw [List.pairwise_map]
        exact hc.imp (fun {x y} hxy => List.cons_lt_cons_iff.2 (Or.inr ⟨rfl, hxy⟩))
      · intro x hx y hy
        obtain ⟨b, _, rfl⟩ := List.mem_map.1 hx
        obtain ⟨j, b', rfl, hij⟩ := hhead y hy
        exact List.cons_lt_cons_iff.2 (Or.inl hij)
      · intro a ha
        rcases List.mem_append.1 ha with h | h
        · obtain ⟨b, _, rfl⟩ := List.mem_map.1 h
          exact ⟨i, b, rfl, Nat.le_refl i⟩
        · obtain ⟨j, b, rfl, hij⟩ := hhead a h
          exact ⟨j, b, rfl, Nat.le_of_succ_le hij⟩
end

/-- a strictly increasing list is determined by its members: it has no duplicates, so the two
    lists are permutations of each other, and sorted permutations are equal -/
theorem sorted_ext {l₁ l₂ : List Addr} (h₁ : l₁.Pairwise (· < ·)) (h₂ : l₂.Pairwise (· < ·))
    (h : ∀ a, a ∈ l₁ ↔ a ∈ l₂) : l₁ = l₂ := by
  have ne : ∀ {a b : Addr}, a < b → a ≠ b := fun hab e => List.lt_irrefl _ (e ▸ hab)
  exact List.Perm.eq_of_pairwise (fun a b _ _ hab hba => absurd hba (List.lt_asymm hab)) h₁ h₂
    ((List.perm_ext_iff_of_nodup (h₁.imp ne) (h₂.imp ne)).2 h)

/-- **"Those leaves in left-to-right order" is a well-defined list**: any list that contains
    exactly the leaf positions of `e` and is increasing in the lexicographic order of positions
    is `leafAddrs e`. -/
theorem leafAddrs_canonical (e : Err) (l : List Addr) (hs : l.Pairwise (· < ·))
    (hm : ∀ a, a ∈ l ↔ IsLeafAddr e a) : l = leafAddrs e :=
  sorted_ext hs (leafAddrs_sorted e) (fun a => (hm a).trans (mem_leafAddrs e a).symm)

mutual
/-- **Count.**  For every error tree the reported count is the number of leaf positions … -/
theorem count_spec (e : Err) : e.len = (leafAddrs e).length := by
  cases e with
  | leaf k ls s => rfl
  | multi cs ls s => exact lenList_pos_spec 0 cs
theorem lenList_pos_spec (i : Nat) (cs : List Err) : lenList cs = (leafAddrsFrom i cs).length := by
  cases cs with
  | nil => rfl
  | cons c cs' =>
      simp only [lenList_cons, leafAddrsFrom, List.length_append, List.length_map]
      rw [count_spec c, lenList_pos_spec (i + 1) cs']
end

/-- … which is at least 1 for every value the public API can produce … -/
theorem count_pos {e : Err} (h : Reachable e) : 1 ≤ (leafAddrs e).length := by
  rw [← count_spec]; exact len_pos h

/-- … and a bundle of one is that one. -/
theorem bundle_of_one (e : Err) : Err.multiple [e] = .ok e := Err.multiple_singleton e

/-- the flattened item for the leaf at `a` when the tree sits under locations `pre` and span `sp` -/
def itemP (pre : List String) (sp : Option Span) (e : Err) (a : Addr) : Err :=
  .leaf (kindAt e a) (pre ++ pathAt e a) ((spanAt e a).or sp)

theorem itemP_nil_none (e : Err) (a : Addr) : itemP [] none e a = leafAt e a := by
  simp only [itemP, leafAt, List.nil_append, Option.or_none]

theorem itemP_multi_cons {cs : List Err} {c : Err} {i : Nat} (pre sp ls s) (b : Addr)
    (h : cs[i]? = some c) :
    itemP pre sp (.multi cs ls s) (i :: b) = itemP (pre ++ ls) (s.or sp) c b := by
  simp only [itemP, kindAt_multi_cons ls s b h, pathAt_multi_cons ls s b h,
    spanAt_multi_cons ls s b h, List.append_assoc, Option.or_assoc]

mutual
theorem intoVecP_pos (pre : List String) (sp : Option Span) (e : Err) :
    intoVecP pre sp e = (leafAddrs e).map (itemP pre sp e) := by
  cases e with
  | leaf k ls s =>
      simp only [intoVecP_leaf, leafAddrs, List.map_cons, List.map_nil, itemP, kindAt_leaf_nil,
        pathAt_nil, spanAt_nil, Err.locs, Err.span, inheritSpan_leaf_eq]
  | multi cs ls s =>
      simp only [intoVecP_multi, leafAddrs]
      exact intoVecListP_pos pre sp cs ls s 0 cs rfl
theorem intoVecListP_pos (pre : List String) (sp : Option Span) (all : List Err) (ls : List String)
    (s : Option Span) (i : Nat) (cs : List Err) (h : all.drop i = cs) :
    intoVecListP (pre ++ ls) (s.or sp) cs
      = (leafAddrsFrom i cs).map (itemP pre sp (.multi all ls s)) := by
  cases cs with
  | nil => rfl
  | cons c cs' =>
      obtain ⟨hc, hrest⟩ := drop_eq_cons h
      simp only [intoVecListP_cons, leafAddrsFrom, List.map_append, List.map_map]
      rw [intoVecP_pos (pre ++ ls) (s.or sp) c, intoVecListP_pos pre sp all ls s (i + 1) cs' hrest]
      congr 1
      apply List.map_congr_left
      intro b _
      exact (itemP_multi_cons pre sp ls s b hc).symm
end

/-- **Flatten, the list.**  `into_vec` of any tree is: for each leaf position, in left-to-right
    order, the leaf's kind with the full outer-to-inner path of all its ancestors followed by its
    own (and the innermost span that applies to it). -/
theorem intoVec_spec (e : Err) : intoVec e = (leafAddrs e).map (leafAt e) := by
  have hf : itemP [] none e = leafAt e := funext (itemP_nil_none e)
  rw [intoVec, intoVecP_pos, hf]

/-- `flatten` of any tree bundles exactly that list -/
theorem flatten_eq (e : Err) : e.flatten = Err.multiple ((leafAddrs e).map (leafAt e)) := by
  rw [Err.flatten, intoVec_spec]

/-- **Flatten, end to end** (side condition: the tree has at least one leaf — the text's
    "always at least 1"; see `flatten_positional` for the discharge on every reachable value and
    `empty_bundle_flatten_panics` for what happens without it).
    The value returned by `flatten` has no location and no span of its own, and iterating it
    yields, for each leaf position in left-to-right order, that leaf with its full path. -/
theorem flatten_positional_partial {e : Err} (h : 1 ≤ e.len) :
    ∃ f, e.flatten = .ok f
      ∧ f.intoIter = (leafAddrs e).map (leafAt e)
      ∧ ((∃ a, leafAddrs e = [a] ∧ f = leafAt e a)
          ∨ (2 ≤ e.len ∧ f = .multi ((leafAddrs e).map (leafAt e)) [] none)) := by
  rw [flatten_eq]
  rw [count_spec] at h ⊢
  generalize leafAddrs e = l at h
  cases l with
  | nil => exact absurd h (Nat.not_succ_le_zero 0)
  | cons a r =>
      cases r with
      | nil => exact ⟨leafAt e a, rfl, rfl, Or.inl ⟨a, rfl, rfl⟩⟩
      | cons b r => exact ⟨_, rfl, rfl, Or.inr ⟨Nat.le_add_left 2 r.length, rfl⟩⟩

theorem flatten_positional {e : Err} (h : Reachable e) :
    ∃ f, e.flatten = .ok f
      ∧ f.intoIter = (leafAddrs e).map (leafAt e)
      ∧ ((∃ a, leafAddrs e = [a] ∧ f = leafAt e a)
          ∨ (2 ≤ e.len ∧ f = .multi ((leafAddrs e).map (leafAt e)) [] none)) :=
  flatten_positional_partial (len_pos h)

/-- the count is unchanged by flattening -/
theorem flatten_count {e f : Err} (hf : e.flatten = .ok f) : f.len = (leafAddrs e).length := by
  rw [flatten_len hf, count_spec]

/-- **Flattening twice equals flattening once**, for every tree (also when the first flatten
    panics: then so does the composition). -/
theorem flatten_twice (e : Err) : (e.flatten).bind Err.flatten = e.flatten := by
  cases hf : e.flatten with
  | ok f => exact flatten_idem hf
  | err x => rfl
  | panic m => rfl

/-- ` at a/b/c` when a path exists, nothing otherwise -/
def atSuffix : List String → String
  | [] => ""
  | path => " at " ++ "/".intercalate path

/-- the kind-specific message of a node: the leaf kind's message, or for a bundle the
    parenthesised list of what its children show -/
def kindMessage : Err → String
  | .leaf k _ _ => k.msg
  | .multi cs _ _ => "Multiple errors: (" ++ ", ".intercalate (cs.map Err.display) ++ ")"

/-- not a bundle of exactly one child (no public operation builds such a value) -/
def NotBundleOfOne : Err → Prop
  | .leaf _ _ _ => True
  | .multi cs _ _ => cs.length ≠ 1

theorem locSuffix_eq (ls : List String) : locSuffix ls = atSuffix ls := by
  cases ls <;> rfl

theorem displayList_eq_map (cs : List Err) : displayList cs = cs.map Err.display := by
  induction cs with
  | nil => simp only [displayList, List.map_nil]
  | cons c cs ih => simp only [displayList, List.map_cons, ih]

theorem kindMulti_eq {ss : List String} (h : ss.length ≠ 1) :
    kindMulti ss = "Multiple errors: (" ++ ", ".intercalate ss ++ ")" := by
  cases ss with
  | nil => rfl
  | cons a r =>
      cases r with
      | nil => exact absurd rfl h
      | cons b r => rfl

theorem display_leaf_eq (k ls s) : (Err.leaf k ls s).display = k.msg ++ locSuffix ls := by
  rw [Err.display]

theorem display_multi_eq (cs ls s) :
    (Err.multi cs ls s).display = kindMulti (displayList cs) ++ locSuffix ls := by
  rw [Err.display]

/-- **Display** (side condition: not a bundle of one). -/
theorem display_spec_partial {e : Err} (h : NotBundleOfOne e) :
    e.display = kindMessage e ++ atSuffix e.locs := by
  cases e with
  | leaf k ls s => rw [display_leaf_eq, locSuffix_eq]; rfl
  | multi cs ls s =>
      have hcs : (cs.map Err.display).length ≠ 1 := by rw [List.length_map]; exact h
      rw [display_multi_eq, locSuffix_eq, displayList_eq_map, kindMulti_eq hcs]
      rfl

theorem WF_notBundleOfOne {e : Err} (h : Spec.C04.WF e) : NotBundleOfOne e := by
  cases h with
  | leaf k ls s => trivial
  | multi cs ls s h2 _ => simp only [NotBundleOfOne]; omega

/-- **Display, every reachable value**: the kind-specific message, then ` at a/b/c` when a path
    exists. -/
theorem display_spec {e : Err} (h : Reachable e) : e.display = kindMessage e ++ atSuffix e.locs :=
  display_spec_partial (WF_notBundleOfOne (reachable_WF h))

/-- what each item of a flattened error shows: the leaf's message and its full path -/
theorem display_leafAt (e : Err) (a : Addr) :
    (leafAt e a).display = (kindAt e a).msg ++ atSuffix (pathAt e a) := by
  rw [leafAt, display_leaf_eq, locSuffix_eq]

/-- the diagnostic the leaf at `a` must produce: placed at the span that applies to the leaf with
    the leaf's bare message, or, when no span applies, unplaced with the message and full path -/
def diagAt (e : Err) (a : Addr) : Option Span × String :=
  match spanAt e a with
  | some sp => (some sp, (kindAt e a).msg)
  | none => (none, (kindAt e a).msg ++ atSuffix (pathAt e a))

theorem synRow_leafAt (e : Err) (a : Addr) : synRow (leafAt e a) = diagAt e a := by
  rw [diagAt, ← locSuffix_eq]
  rfl

/-- **Diagnostics** (side condition: a value that counts one error is a leaf). -/
theorem toSyn_spec_partial {e : Err} (h : e.len = 1 → e.isLeaf = true) :
    e.toSyn = (leafAddrs e).map (diagAt e) := by
  rw [toSyn_eq_map h, intoVec_spec, List.map_map]
  exact List.map_congr_left (fun a _ => synRow_leafAt e a)

/-- **Diagnostics, every reachable value**: exactly one diagnostic per leaf position, in
    left-to-right order. -/
theorem toSyn_spec {e : Err} (h : Reachable e) : e.toSyn = (leafAddrs e).map (diagAt e) :=
  toSyn_spec_partial (WF_len_one_isLeaf (reachable_WF h))

theorem toSyn_count {e : Err} (h : Reachable e) : e.toSyn.length = (leafAddrs e).length := by
  rw [toSyn_spec h, List.length_map]

/-- reading 1 of "with the leaf's message": the bare kind-specific message.  Holds when every
    leaf to which no span applies has an empty full path. -/
theorem toSyn_bare_messages_partial {e : Err} (h : Reachable e)
    (hs : ∀ a ∈ leafAddrs e, spanAt e a = none → pathAt e a = []) :
    e.toSyn.map (·.2) = (leafAddrs e).map (fun a => (kindAt e a).msg) := by
  rw [toSyn_spec h, List.map_map]
  apply List.map_congr_left
  intro a ha
  simp only [Function.comp, diagAt]
  cases hsp : spanAt e a with
  | some sp => rfl
  | none => simp only [hs a ha hsp, atSuffix, String.append_empty]

/-- reading 2 of "with the leaf's message": what the flattened leaf displays (message and full
    path).  Holds when every leaf to which a span applies has an empty full path. -/
theorem toSyn_display_messages_partial {e : Err} (h : Reachable e)
    (hs : ∀ a ∈ leafAddrs e, spanAt e a ≠ none → pathAt e a = []) :
    e.toSyn.map (·.2) = (leafAddrs e).map (fun a => (leafAt e a).display) := by
  rw [toSyn_spec h, List.map_map]
  apply List.map_congr_left
  intro a ha
  simp only [Function.comp, diagAt, display_leafAt]
  cases hsp : spanAt e a with
  | none => rfl
  | some sp =>
      have := hs a ha (by rw [hsp]; exact Option.some_ne_none sp)
      simp only [this, atSuffix, String.append_empty]

theorem leafAddrs_at (e : Err) (l : String) : leafAddrs (e.at l) = leafAddrs e := by
  cases e <;> rfl

theorem sub_at_cons (e : Err) (l : String) (i : Nat) (p : Addr) :
    sub (e.at l) (i :: p) = sub e (i :: p) := by
  cases e <;> rfl

theorem kindAt_at (e : Err) (l : String) (a : Addr) : kindAt (e.at l) a = kindAt e a := by
  cases a with
  | nil => cases e <;> rfl
  | cons i p => simp only [kindAt, sub_at_cons]

/-- **`at` locates**: the new segment goes in front of the full path of every node -/
theorem pathAt_at (e : Err) (l : String) (a : Addr) : pathAt (e.at l) a = l :: pathAt e a := by
  have hlocs : (e.at l).locs = l :: e.locs := by cases e <;> rfl
  cases a with
  | nil => rw [pathAt_nil, pathAt_nil, hlocs]
  | cons i b =>
      simp only [pathAt, nodesAlong_cons, sub_at_cons, List.flatMap_cons, hlocs, List.cons_append]

/-- **`multiple` bundles**: of two or more errors it makes a node without location or span whose
    `i`-th child is the `i`-th error, so every leaf keeps its kind, path and span and the leaves
    of the bundle are those of the first error, then those of the second, … -/
theorem multiple_positional {es : List Err} (h : 2 ≤ es.length) :
    ∃ f, Err.multiple es = .ok f
      ∧ leafAddrs f = leafAddrsFrom 0 es
      ∧ ∀ i c, es[i]? = some c → ∀ a, sub f (i :: a) = sub c a ∧ kindAt f (i :: a) = kindAt c a
          ∧ pathAt f (i :: a) = pathAt c a ∧ spanAt f (i :: a) = spanAt c a := by
  refine ⟨.multi es [] none, multiple_many es h, rfl, ?_⟩
  intro i c hc a
  refine ⟨sub_multi_cons _ _ a hc, kindAt_multi_cons _ _ a hc, ?_, ?_⟩
  · rw [pathAt_multi_cons _ _ a hc, List.nil_append]
  · rw [spanAt_multi_cons _ _ a hc, Option.or_none]

/-- `with_span` moves no leaf and changes no kind or path -/
theorem withSpan_positional (e : Err) (sp : Span) :
    leafAddrs (e.withSpan sp) = leafAddrs e
      ∧ (e.withSpan sp).locs = e.locs
      ∧ (e.withSpan sp).span = e.span.or (some sp)
      ∧ ∀ i p, sub (e.withSpan sp) (i :: p) = sub e (i :: p) := by
  cases e with
  | leaf k ls s => cases s <;> exact ⟨rfl, rfl, rfl, fun _ _ => rfl⟩
  | multi cs ls s => cases s <;> exact ⟨rfl, rfl, rfl, fun _ _ => rfl⟩

/-- depth 3, three kinds, locations on three levels, spans on a leaf and on an inner bundle -/
def t : Err :=
  .multi [ .leaf (.custom "a") ["x"] none,
           .multi [ .leaf (.missingField "f") [] (some ⟨1, 6⟩),
                    .leaf (.tooFewItems 1) ["q"] none ] ["m"] (some ⟨8, 12⟩) ] ["top"] none

theorem t_reachable : Reachable t :=
  .at "top" (.pair (.at "x" (.new _))
    (.withSpan ⟨8, 12⟩ (.at "m" (.pair (.withSpan ⟨1, 6⟩ (.new _)) (.at "q" (.new _))))))

-- the positional reading of `t`
example : leafAddrs t = [[0], [1, 0], [1, 1]] := by rfl
example : (leafAddrs t).map (pathAt t) = [["top", "x"], ["top", "m"], ["top", "m", "q"]] := by rfl
example : (leafAddrs t).map (spanAt t) = [none, some ⟨1, 6⟩, some ⟨8, 12⟩] := by rfl
example : (leafAddrs t).map (kindAt t) = [.custom "a", .missingField "f", .tooFewItems 1] := by rfl
example : nodesAlong t [1, 1] =
    [t, .multi [.leaf (.missingField "f") [] (some ⟨1, 6⟩), .leaf (.tooFewItems 1) ["q"] none]
          ["m"] (some ⟨8, 12⟩), .leaf (.tooFewItems 1) ["q"] none] := by rfl
-- what the theorems then give on `t`
example : t.len = 3 := by rfl
example : t.toSyn = [(none, "a at top/x"), (some ⟨1, 6⟩, "Missing field `f`"),
    (some ⟨8, 12⟩, "Too few items: Expected at least 1")] := by rfl
example : t.display = "Multiple errors: (a at x, Multiple errors: (Missing field `f`, " ++
    "Too few items: Expected at least 1 at q) at m) at top" := by rfl

-- hypotheses of `flatten_positional`, `display_spec`, `toSyn_spec`, `count_pos`: `Reachable e`
example : ∃ e, Reachable e ∧ 2 ≤ e.len := ⟨t, t_reachable, by decide⟩
example : ∃ e, Reachable e ∧ e.len = 1 := ⟨Err.new (.custom "a"), Reachable.new _, rfl⟩
-- hypothesis of `flatten_positional_partial`
example : 1 ≤ t.len := by decide
-- hypothesis of `flatten_count`, and the premise used inside `flatten_twice`
example : ∃ f, t.flatten = .ok f := ⟨_, rfl⟩
-- hypothesis of `display_spec_partial`
example : NotBundleOfOne t := by simp only [NotBundleOfOne, t]; decide
example : NotBundleOfOne (.multi [] [] none) := by simp only [NotBundleOfOne]; decide
-- hypothesis of `toSyn_spec_partial`, both ways of meeting it
example : t.len = 1 → t.isLeaf = true := by decide
example : (Err.leaf (.custom "a") [] none).len = 1 → (Err.leaf (.custom "a") [] none).isLeaf = true := by decide
-- hypotheses of `leafAddrs_canonical`
example : ∃ l : List Addr, l.Pairwise (· < ·) ∧ ∀ a, a ∈ l ↔ IsLeafAddr t a :=
  ⟨leafAddrs t, leafAddrs_sorted t, mem_leafAddrs t⟩
-- hypothesis of `multiple_positional`
example : 2 ≤ [Err.new (.custom "a"), Err.new (.custom "b")].length := by decide
-- hypothesis of `kindAt_spec`
example : IsLeafAddr t [1, 1] := ⟨_, _, _, rfl⟩

/-- a reachable tree on which the side condition of `toSyn_bare_messages_partial` holds with both
    of its cases exercised: a located leaf under a span, an unlocated leaf under none -/
def tBare : Err :=
  .multi [.leaf (.custom "a") ["x"] (some ⟨1, 6⟩), .leaf (.custom "b") [] none] [] none

theorem tBare_reachable : Reachable tBare :=
  .pair (.at "x" (.withSpan ⟨1, 6⟩ (.new _))) (.new _)

example : ∀ a ∈ leafAddrs tBare, spanAt tBare a = none → pathAt tBare a = [] := by decide
example : tBare.toSyn.map (·.2) = ["a", "b"] := by rfl

/-- … and one for `toSyn_display_messages_partial`: a located leaf under no span, an unlocated
    leaf under a span -/
def tDisp : Err :=
  .multi [.leaf (.custom "a") ["x"] none, .leaf (.custom "b") [] (some ⟨1, 6⟩)] [] none

theorem tDisp_reachable : Reachable tDisp :=
  .pair (.at "x" (.new _)) (.withSpan ⟨1, 6⟩ (.new _))

example : ∀ a ∈ leafAddrs tDisp, spanAt tDisp a ≠ none → pathAt tDisp a = [] := by decide
example : tDisp.toSyn.map (·.2) = ["a at x", "b"] := by rfl

/-! ### discrepancy D1 (reproduces on the library): "with the leaf's message" has no uniform reading

The text of a diagnostic is the leaf's bare message when a span applies to the leaf and the
message *with the full path* when none does.  Neither "the kind-specific message" nor "what the
leaf displays" holds for all trees; `toSyn_spec` is the exact statement. -/

/-- reading 1 fails: no span, a path -/
def d1a : Err := .leaf (.custom "a") ["x"] none
example : Reachable d1a := Reachable.at "x" (Reachable.new _)
example : d1a.toSyn.map (·.2) = ["a at x"] := by rfl
example : (leafAddrs d1a).map (fun a => (kindAt d1a a).msg) = ["a"] := by rfl
example : ¬ (∀ a ∈ leafAddrs d1a, spanAt d1a a = none → pathAt d1a a = []) := by decide

/-- reading 2 fails: a span, a path -/
def d1b : Err := .leaf (.custom "a") ["x"] (some ⟨1, 6⟩)
example : Reachable d1b := Reachable.at "x" (Reachable.withSpan ⟨1, 6⟩ (Reachable.new _))
example : d1b.toSyn.map (·.2) = ["a"] := by rfl
example : (leafAddrs d1b).map (fun a => (leafAt d1b a).display) = ["a at x"] := by rfl
example : ¬ (∀ a ∈ leafAddrs d1b, spanAt d1b a ≠ none → pathAt d1b a = []) := by decide

/-- the span may be an ancestor's: a span on a bundle silences the paths of all its unspanned
    leaves, also through an unspanned inner bundle -/
def d1c : Err :=
  .multi [ .multi [.leaf (.custom "a") ["x"] none, .leaf (.custom "b") ["y"] none] ["in"] none,
           .leaf (.custom "c") ["z"] none ] [] (some ⟨8, 12⟩)
example : d1c.toSyn = [(some ⟨8, 12⟩, "a"), (some ⟨8, 12⟩, "b"), (some ⟨8, 12⟩, "c")] := by rfl
example : (leafAddrs d1c).map (pathAt d1c) = [["in", "x"], ["in", "y"], ["z"]] := by rfl

/-! ### model-only cases excluded by the side conditions (no public operation builds them) -/

/-- a bundle of one shows its child, not `Multiple errors: (…)` (`display_spec_partial`) -/
def bundleOfOne : Err := .multi [.leaf (.custom "a") ["x"] none] ["y"] none
example : ¬ NotBundleOfOne bundleOfOne := fun h => h rfl
example : bundleOfOne.display = "a at x at y" := by rfl
example : kindMessage bundleOfOne ++ atSuffix bundleOfOne.locs = "Multiple errors: (a at x) at y" := by rfl
/-- … and converts to one diagnostic whose text is not that of its leaf (`toSyn_spec_partial`) -/
example : bundleOfOne.toSyn = [(none, "a at x at y")] := by rfl
example : (leafAddrs bundleOfOne).map (diagAt bundleOfOne) = [(none, "a at y/x")] := by rfl
example : ¬ (bundleOfOne.len = 1 → bundleOfOne.isLeaf = true) := by decide

/-- an empty bundle counts 0 and cannot be flattened (`flatten_positional_partial`) -/
theorem empty_bundle_flatten_panics :
    (Err.multi [] [] none).len = 0 ∧ (Err.multi [] [] none).flatten.isPanic = true := ⟨rfl, rfl⟩

end C04
