import Darling.Props.C01
import Darling.Props.C08
import Darling.Derive.Env
import Darling.Lemmas.NoPanic
/-
  C01 — an independent, declarative reading of the property text, and the proof that the model of
  the generated parser computes exactly it.

  The definitions of section 1 are written from the sentence of the property, clause by clause.
  They mention only: the fields of the receiver (effective name, converter, default source,
  value-for-absent, the options skip / multiple / flatten), the names of the items, and sub-lists
  of the input selected *by name*.  They do not mention the parser state, the match arm chosen by
  the generated `match`, "the first flatten field", or any step function of the model.
-/
open Derive

namespace C01
variable {ν : Type}

/-! ## 1. What the text says -/

/-- the name an item is written under -/
def nameOf (m : Meta) : String := m.path'.toStr

/-- a field that can be addressed by name: neither skipped nor the flatten field -/
def addressable (f : SField ν) : Bool := !f.skip && !f.flatten

/-- the receiver *knows* a name when it is the effective name of one of its addressable fields -/
def knows (r : SStruct ν) (n : String) : Bool := r.fields.any (fun f => addressable f && f.name == n)

/-- the items supplied under the effective name of `f`, in source order -/
def occurrences (f : SField ν) (items : List NestedMeta) : List Meta :=
  items.filterMap (fun it => match it with
    | .item m => if nameOf m = f.name then some m else none
    | .lit _ => none)

/-- the items whose names the receiver does not know, in source order -/
def strangers (r : SStruct ν) (items : List NestedMeta) : List NestedMeta :=
  items.filter (fun it => match it with
    | .item m => !knows r (nameOf m)
    | .lit _ => false)

def okVal : Outcome ν → Option ν
  | .ok v => some v
  | _ => none

/-- all of them, if all were accepted -/
def allOk : List (Outcome ν) → Option (List ν)
  | [] => some []
  | o :: os => match okVal o, allOk os with
      | some v, some vs => some (v :: vs)
      | _, _ => none

/-- "holds its own declared default, else the same-named field of the container-level default,
    else its type's value-for-absent" (a `multiple` field that is absent holds no occurrence) -/
def fallback (r : SStruct ν) (f : SField ν) : Option ν :=
  match f.dflt with
  | some (.value v) => some v
  | some .inherit => r.containerDefault.map (fun d => d f.ident)
  | none => if f.multiple then some (r.mkList []) else f.fromNone

/-- the values supplied under the effective name of `f`, each "converted by the field's type or
    custom converter and then by its map / and_then function" (`SField.conv` is that composition) -/
def supplied (f : SField ν) (items : List NestedMeta) : List (Outcome ν) :=
  (occurrences f items).map f.conv

/-- **what field `f` holds** after the input `items` -/
def holds (r : SStruct ν) (items : List NestedMeta) (f : SField ν) : Option ν :=
  if f.flatten then
    -- "names the receiver does not know are handed, in order, to its flatten field";
    -- with nothing to hand over the field "is not supplied" and "holds its own declared default"
    if (strangers r items).isEmpty && f.dflt.isSome then fallback r f
    else okVal (f.fromList (strangers r items))
  else if f.skip then fallback r f                       -- "or is skipped"
  else match supplied f items with
    | [] => fallback r f                                 -- "a field that is not supplied"
    | o :: os =>
        if f.multiple then (allOk (o :: os)).map r.mkList  -- "every occurrence in source order"
        else if os.isEmpty then okVal o                  -- "the value supplied under its effective name"
        else none

def allSome : List (String × Option ν) → Option (List (String × ν))
  | [] => some []
  | (k, o) :: rest => match o, allSome rest with
      | some v, some kvs => some ((k, v) :: kvs)
      | _, _ => none

/-- the whole receiver, field by field, in declaration order -/
def record (r : SStruct ν) (items : List NestedMeta) : Option (List (String × ν)) :=
  allSome (r.fields.map (fun f => (f.ident, holds r items f)))

/-- the flatten field may stay without input: nothing to hand over and a default declared -/
def flattenIdle (r : SStruct ν) (items : List NestedMeta) (f : SField ν) : Prop :=
  strangers r items = [] ∧ f.dflt.isSome = true

/-- **mistake-free** (the kinds of mistake are those of C02: bare literal, unknown name, repeated
    name, value the target rejects, required item absent) -/
structure MistakeFree (r : SStruct ν) (items : List NestedMeta) : Prop where
  noLiteral : ∀ it ∈ items, ∃ m, it = .item m
  noUnknown : strangers r items = [] ∨ (∃ f ∈ r.fields, f.flatten = true) ∨ r.allowUnknown = true
  noRepeat : ∀ f ∈ r.fields, addressable f = true → f.multiple = false → (occurrences f items).length ≤ 1
  accepted : ∀ f ∈ r.fields, addressable f = true → ∀ m ∈ occurrences f items, ∃ v, f.conv m = .ok v
  flattenAccepted : ∀ f ∈ r.fields, f.flatten = true →
    flattenIdle r items f ∨ ∃ v, f.fromList (strangers r items) = .ok v
  noneAbsent : ∀ f ∈ r.fields, f.flatten = false → f.multiple = false → f.dflt = none → f.fromNone = none →
    addressable f = true ∧ occurrences f items ≠ []

/-! ### what is assumed of the receiver -/

/-- what the derive macro guarantees of every receiver it emits code for (Rust: distinct field
    identifiers; `options/core.rs`: at most one `flatten` field; `input_field.rs`: `flatten`
    excludes `multiple`, a field inherits only from a declared container default) -/
structure Declared (r : SStruct ν) : Prop where
  identsDistinct : r.fields.Pairwise (fun f g => f.ident ≠ g.ident)
  oneFlatten : ∀ f ∈ r.fields, ∀ g ∈ r.fields, f.flatten = true → g.flatten = true → f = g
  flattenSingle : ∀ f ∈ r.fields, f.flatten = true → f.multiple = false
  inheritDeclared : ∀ f ∈ r.fields, f.dflt = some .inherit → r.containerDefault.isSome = true

/-- the external functions (converters of the field types, user functions) return -/
structure Returns (r : SStruct ν) : Prop where
  conv : ∀ f ∈ r.fields, ∀ m msg, f.conv m ≠ .panic msg
  list : ∀ f ∈ r.fields, ∀ items msg, f.fromList items ≠ .panic msg

/-! ### the two side conditions that exclude the discrepancies found (section 6) -/

/-- D1: no two addressable fields have the same effective name -/
def NamesDistinct (r : SStruct ν) : Prop :=
  ∀ f ∈ r.fields, ∀ g ∈ r.fields, addressable f = true → addressable g = true → f.name = g.name → f = g

/-- D2: a default declared for the flatten field is what its type makes of no items at all -/
def FlattenDefaultAgrees (r : SStruct ν) : Prop :=
  ∀ f ∈ r.fields, f.flatten = true → f.dflt.isSome = true → ∃ v, f.fromList [] = .ok v ∧ fallback r f = some v

/-- D2 does not arise when the flatten field has no default -/
theorem flattenDefaultAgrees_of_no_default (r : SStruct ν)
    (h : ∀ f ∈ r.fields, f.flatten = true → f.dflt = none) : FlattenDefaultAgrees r := by
  intro f hf hfl hds
  rw [h f hf hfl] at hds
  cases hds

/-! ## 2. The model's selection by match arm is selection by name -/
open Spec.C02 Spec.C01

theorem addressable_iff (f : SField ν) : addressable f = true ↔ f.skip = false ∧ f.flatten = false := by
  simp only [addressable, Bool.and_eq_true, Bool.not_eq_true']

theorem not_addressable_iff (f : SField ν) : addressable f = false ↔ f.skip = true ∨ f.flatten = true := by
  unfold addressable
  cases f.skip <;> cases f.flatten <;> decide

theorem Declared.identInj {r : SStruct ν} (hd : Declared r) :
    ∀ f ∈ r.fields, ∀ g ∈ r.fields, f.ident = g.ident → f = g :=
  List.pairwise_inj SField.ident hd.identsDistinct

theorem Declared.wf {r : SStruct ν} (hd : Declared r) (hr : Returns r) : C02.WF r :=
  ⟨hd.identInj, hr.conv, hr.list⟩

theorem namesDistinct_of_pairwise (r : SStruct ν)
    (h : (r.fields.filter addressable).Pairwise (fun f g => f.name ≠ g.name)) : NamesDistinct r :=
  fun f hf g hg haf hag hname =>
    List.pairwise_inj SField.name h f (List.mem_filter.mpr ⟨hf, haf⟩) g (List.mem_filter.mpr ⟨hg, hag⟩) hname

theorem arm_isSome (r : SStruct ν) (n : String) : (r.arm n).isSome = knows r n := by
  unfold SStruct.arm knows
  induction r.fields with
  | nil => rfl
  | cons x xs ih =>
      simp only [List.find?_cons, List.any_cons, addressable]
      cases h : (!x.skip && !x.flatten && x.name == n)
      · simp only [Bool.false_or]; exact ih
      · rfl

theorem arm_eq_none_iff (r : SStruct ν) (n : String) : r.arm n = none ↔ knows r n = false := by
  rw [← arm_isSome]
  cases r.arm n <;> simp only [Option.isSome_none, Option.isSome_some, reduceCtorEq]

-- through `beq_iff_eq`: the instance `beq_self_eq_true` asks for is slow to find for `String`
theorem name_beq_self (s : String) : (s == s) = true := beq_iff_eq.mpr rfl

theorem arm_of_addressable (r : SStruct ν) (hn : NamesDistinct r) (f : SField ν) (hf : f ∈ r.fields)
    (ha : addressable f = true) : r.arm f.name = some f := by
  have hk : knows r f.name = true :=
    List.any_eq_true.mpr ⟨f, hf, by rw [ha, name_beq_self]; rfl⟩
  rw [← arm_isSome] at hk
  obtain ⟨g, harm⟩ := Option.isSome_iff_exists.mp hk
  obtain ⟨hg, hs, hfl, hname⟩ := SStruct.arm_some harm
  rw [harm, hn g hg f hf ((addressable_iff g).mpr ⟨hs, hfl⟩) ha hname]

/-- for a field of the receiver, "the item selects the field's match arm" is "the item is written
    under the field's effective name, and the field is addressable" -/
theorem selects_item (r : SStruct ν) (hd : Declared r) (hr : Returns r) (hn : NamesDistinct r)
    (f : SField ν) (hf : f ∈ r.fields) (m : Meta) :
    selects r f (.item m) = (addressable f && (nameOf m == f.name)) := by
  cases ha : addressable f with
  | false => exact C02.not_selected_of_no_arm r (hd.wf hr) f hf ((not_addressable_iff f).mp ha) (.item m)
  | true =>
      rw [Bool.true_and]
      cases hnm : (nameOf m == f.name) with
      | true =>
          have harm : r.arm (nameOf m) = some f := by
            rw [eq_of_beq hnm]; exact arm_of_addressable r hn f hf ha
          exact C02.selects_of_arm r m f harm
      | false =>
          cases harm : r.arm m.path'.toStr with
          | none => exact C02.selects_none r m f harm
          | some g =>
              -- another field's arm: were it `f`, the item would carry the name of `f`
              refine C02.selects_other r (hd.wf hr) m g f harm hf fun hfg => ?_
              rw [nameOf, ← (SStruct.arm_some harm).2.2.2, hfg, name_beq_self] at hnm
              cases hnm

/-! ### the positional quantities of `Spec.C02`, by name -/

theorem mem_occurrences (f : SField ν) (items : List NestedMeta) (m : Meta) :
    m ∈ occurrences f items ↔ NestedMeta.item m ∈ items ∧ nameOf m = f.name := by
  unfold occurrences
  rw [List.mem_filterMap]
  constructor
  · rintro ⟨it, hit, h⟩
    cases it with
    | lit l => cases h
    | item m' =>
        dsimp only at h
        by_cases hn : nameOf m' = f.name
        · rw [if_pos hn] at h; cases h; exact ⟨hit, hn⟩
        · rw [if_neg hn] at h; cases h
  · rintro ⟨hit, hn⟩
    exact ⟨.item m, hit, if_pos hn⟩

theorem occurrences_append (f : SField ν) (xs ys : List NestedMeta) :
    occurrences f (xs ++ ys) = occurrences f xs ++ occurrences f ys :=
  List.filterMap_append

theorem occurrences_cons_item (f : SField ν) (m : Meta) (xs : List NestedMeta) :
    occurrences f (.item m :: xs) = (if nameOf m = f.name then [m] else []) ++ occurrences f xs := by
  unfold occurrences
  rw [List.filterMap_cons]
  by_cases h : nameOf m = f.name
  · simp only [if_pos h]; rfl
  · simp only [if_neg h]; rfl

theorem occurrences_cons_lit (f : SField ν) (l : Lit) (xs : List NestedMeta) :
    occurrences f (.lit l :: xs) = occurrences f xs :=
  rfl

section byName
variable (r : SStruct ν) (f : SField ν)
variable (hsel : ∀ m, selects r f (.item m) = (nameOf m == f.name))
include hsel

theorem filter_selects_by_name (items : List NestedMeta) :
    items.filter (selects r f) = (occurrences f items).map .item := by
  induction items with
  | nil => rfl
  | cons it rest ih =>
      cases it with
      | lit l => rw [occurrences_cons_lit, ← ih]; rfl
      | item m =>
          rw [occurrences_cons_item, List.map_append, ← ih, List.filter_cons, hsel m]
          by_cases hn : nameOf m = f.name
          · rw [if_pos hn, if_pos (beq_iff_eq.mpr hn)]; rfl
          · rw [if_neg hn, if_neg (fun h => hn (eq_of_beq h))]; rfl

theorem successes_by_name (items : List NestedMeta) :
    successes r f items = (occurrences f items).filterMap (fun m => okVal (f.conv m)) := by
  unfold successes occurrences
  rw [List.filterMap_filterMap]
  congr 1
  funext it
  cases it with
  | lit l => rfl
  | item m =>
      simp only [hsel m, beq_iff_eq]
      by_cases hn : nameOf m = f.name
      · rw [if_pos hn, if_pos hn, Option.bind_some]; cases f.conv m <;> rfl
      · rw [if_neg hn, if_neg hn]; rfl

theorem any_selects_by_name (items : List NestedMeta) :
    items.any (selects r f) = false ↔ occurrences f items = [] := by
  rw [List.any_eq_false, ← List.filter_eq_nil_iff, filter_selects_by_name r f hsel, List.map_eq_nil_iff]

theorem firstValue_by_name (items : List NestedMeta) :
    firstValue r f items = (match occurrences f items with
      | [] => none
      | m :: _ => okVal (f.conv m)) := by
  unfold firstValue
  rw [← List.head?_filter, filter_selects_by_name r f hsel]
  cases occurrences f items with
  | nil => rfl
  | cons m ms => cases hc : f.conv m <;> simp only [List.map_cons, List.head?_cons, hc, okVal]

end byName

theorem hasFlatten_iff (r : SStruct ν) : r.hasFlatten = true ↔ ∃ f ∈ r.fields, f.flatten = true :=
  List.any_eq_true

theorem unclaimed_item (r : SStruct ν) (m : Meta) : unclaimed r (.item m) = !knows r (nameOf m) := by
  simp only [unclaimed, nameOf, ← arm_isSome]
  cases r.arm m.path'.toStr <;> rfl

/-- what the flatten field is handed is the list of strangers -/
theorem buffered_eq_strangers (r : SStruct ν) (h : r.hasFlatten = true) (items : List NestedMeta) :
    buffered r items = strangers r items := by
  simp only [buffered, h, if_true, strangers]
  congr 1
  funext it
  cases it with
  | lit l => rfl
  | item m => exact unclaimed_item r m

theorem mem_strangers (r : SStruct ν) (items : List NestedMeta) (m : Meta) :
    NestedMeta.item m ∈ strangers r items ↔ NestedMeta.item m ∈ items ∧ knows r (nameOf m) = false := by
  simp only [strangers, List.mem_filter, Bool.not_eq_true']

theorem find_flatten (r : SStruct ν) (hd : Declared r) (f : SField ν) (hf : f ∈ r.fields) (hfl : f.flatten = true) :
    r.fields.find? (·.flatten) = some f := by
  cases h : r.fields.find? (·.flatten) with
  | none => exact absurd hfl (List.find?_eq_none.mp h f hf)
  | some g => rw [hd.oneFlatten g (List.mem_of_find?_eq_some h) f hf (List.find?_some h) hfl]

theorem isFirstFlatten_eq (r : SStruct ν) (hd : Declared r) (f : SField ν) (hf : f ∈ r.fields) :
    isFirstFlatten r f = f.flatten := by
  unfold isFirstFlatten
  cases h : r.fields.find? (·.flatten) with
  | none => exact (Bool.eq_false_iff.mpr (List.find?_eq_none.mp h f hf)).symm
  | some g =>
      have hg := List.mem_of_find?_eq_some h
      have hgf : g.flatten = true := List.find?_some h
      show (g.ident == f.ident) = f.flatten
      cases hb : (g.ident == f.ident) with
      | true => rw [← hd.identInj g hg f hf (eq_of_beq hb), hgf]
      | false =>
          cases hfl : f.flatten with
          | false => rfl
          | true => rw [hd.oneFlatten g hg f hf hgf hfl, name_beq_self] at hb; cases hb

theorem flattenResult_ok_iff (r : SStruct ν) (h : r.hasFlatten = true) (ff : SField ν) (items : List NestedMeta)
    (v : ν) : flattenResult r ff items = .ok v ↔ ff.fromList (strangers r items) = .ok v := by
  rw [← buffered_eq_strangers r h]
  unfold flattenResult
  split
  · rfl
  · cases ff.fromList (buffered r items) <;> simp [Outcome.mapErr]

theorem loopMistakes_nil_iff (r : SStruct ν) (e items : List NestedMeta) :
    loopMistakes r e items = [] ↔
      ∀ pre it post, items = pre ++ it :: post → itemMistakes r (e ++ pre) it = [] := by
  constructor
  · rintro h pre it post rfl
    rw [C02.loopMistakes_append, loopMistakes, List.append_eq_nil_iff, List.append_eq_nil_iff] at h
    exact h.2.1
  · intro h
    induction items generalizing e with
    | nil => rfl
    | cons x xs ih =>
        rw [loopMistakes, List.append_eq_nil_iff]
        refine ⟨by simpa using h [] x xs rfl, ih _ fun pre it post hs => ?_⟩
        have := h (x :: pre) it post (by rw [hs]; rfl)
        rwa [List.append_assoc]

theorem itemMistakes_unknown (r : SStruct ν) (pre : List NestedMeta) (m : Meta) (harm : r.arm (nameOf m) = none) :
    itemMistakes r pre (.item m) = [] ↔ (r.hasFlatten || r.allowUnknown) = true := by
  simp only [itemMistakes, show r.arm m.path'.toStr = none from harm]
  cases (r.hasFlatten || r.allowUnknown) <;> simp

theorem itemMistakes_known (r : SStruct ν) (hr : Returns r) (pre : List NestedMeta) (m : Meta) (f : SField ν)
    (harm : r.arm (nameOf m) = some f) :
    itemMistakes r pre (.item m) = [] ↔
      (∃ v, f.conv m = .ok v) ∧ (f.multiple = false → pre.any (selects r f) = false) := by
  simp only [itemMistakes, show r.arm m.path'.toStr = some f from harm]
  cases hc : f.conv m with
  | panic p => exact absurd hc (hr.conv f (SStruct.arm_some harm).1 m p)
  | ok v => cases f.multiple <;> cases pre.any (selects r f) <;> simp
  | err e => cases f.multiple <;> cases pre.any (selects r f) <;> simp

/-- if every occurrence of a name is preceded by no occurrence of it, there is at most one -/
theorem occurrences_le_one (f : SField ν) (items : List NestedMeta)
    (h : ∀ pre m post, items = pre ++ .item m :: post → nameOf m = f.name → occurrences f pre = []) :
    (occurrences f items).length ≤ 1 := by
  induction items with
  | nil => exact Nat.zero_le 1
  | cons x xs ih =>
      have hxs : ∀ pre m post, xs = pre ++ .item m :: post → nameOf m = f.name → occurrences f pre = [] := by
        intro pre m post hs hn
        have := h (x :: pre) m post (by rw [hs]; rfl) hn
        rw [← List.singleton_append, occurrences_append, List.append_eq_nil_iff] at this
        exact this.2
      cases x with
      | lit l => exact ih hxs
      | item m0 =>
          rw [occurrences_cons_item]
          by_cases hn0 : nameOf m0 = f.name
          · -- a later occurrence would be preceded by `m0`
            have hnil : occurrences f xs = [] := by
              apply List.eq_nil_iff_forall_not_mem.mpr
              intro m1 hm1
              obtain ⟨hin, hn1⟩ := (mem_occurrences f xs m1).mp hm1
              obtain ⟨pre, post, hs⟩ := List.append_of_mem hin
              have := h (.item m0 :: pre) m1 post (by rw [hs]; rfl) hn1
              rw [occurrences_cons_item, if_pos hn0] at this
              cases this
            rw [hnil, if_pos hn0]
            exact Nat.le_refl 1
          · rw [if_neg hn0]
            exact ih hxs

theorem flatten_nil_iff (r : SStruct ν) (hd : Declared r) (hr : Returns r) (items : List NestedMeta) :
    flattenMistakes r items = [] ↔
      ∀ f ∈ r.fields, f.flatten = true → ∃ v, f.fromList (strangers r items) = .ok v := by
  unfold flattenMistakes
  cases hff : r.fields.find? (·.flatten) with
  | none =>
      simp only [true_iff]
      intro f hf hfl
      exact absurd hfl (List.find?_eq_none.mp hff f hf)
  | some ff =>
      have hffm := List.mem_of_find?_eq_some hff
      have hffl : ff.flatten = true := List.find?_some hff
      have hhas : r.hasFlatten = true := (hasFlatten_iff r).mpr ⟨ff, hffm, hffl⟩
      simp only
      constructor
      · intro h f hf hfl
        have : f = ff := hd.oneFlatten f hf ff hffm hfl hffl
        subst this
        have hnp : (flattenResult r f items).Returns := by
          unfold flattenResult
          split
          · exact hr.list f hf _
          · exact Outcome.Returns.mapErr (hr.list f hf _) _
        cases hres : flattenResult r f items with
        | ok v => exact ⟨v, (flattenResult_ok_iff r hhas f items v).mp hres⟩
        | err e => rw [hres] at h; cases h
        | panic p => exact absurd hres (hnp p)
      · intro h
        obtain ⟨v, hv⟩ := h ff hffm hffl
        rw [(flattenResult_ok_iff r hhas ff items v).mpr hv]

section main
variable (r : SStruct ν) (hd : Declared r) (hr : Returns r) (hn : NamesDistinct r)
include hd hr hn

theorem selects_addr (f : SField ν) (hf : f ∈ r.fields) (ha : addressable f = true) (m : Meta) :
    selects r f (.item m) = (nameOf m == f.name) := by
  rw [selects_item r hd hr hn f hf m, ha, Bool.true_and]

omit hn in
theorem selects_nonaddr (f : SField ν) (hf : f ∈ r.fields) (ha : addressable f = false) (it : NestedMeta) :
    selects r f it = false :=
  C02.not_selected_of_no_arm r (hd.wf hr) f hf ((not_addressable_iff f).mp ha) it

omit hn in
theorem any_selects_nonaddr (f : SField ν) (hf : f ∈ r.fields) (ha : addressable f = false)
    (items : List NestedMeta) : items.any (selects r f) = false :=
  List.any_eq_false.mpr fun it _ => Bool.eq_false_iff.mp (selects_nonaddr r hd hr f hf ha it)

/-- the item-level mistakes (`Spec.C02.loopMistakes`) are absent exactly when: no bare literal, no
    unknown name (unless forwarded or ignored), no repeated name, no rejected value -/
theorem loop_nil_iff (items : List NestedMeta) :
    loopMistakes r [] items = [] ↔
      (∀ it ∈ items, ∃ m, it = .item m) ∧
      (strangers r items = [] ∨ (∃ f ∈ r.fields, f.flatten = true) ∨ r.allowUnknown = true) ∧
      (∀ f ∈ r.fields, addressable f = true → f.multiple = false → (occurrences f items).length ≤ 1) ∧
      (∀ f ∈ r.fields, addressable f = true → ∀ m ∈ occurrences f items, ∃ v, f.conv m = .ok v) := by
  rw [loopMistakes_nil_iff]
  simp only [List.nil_append]
  constructor
  · intro H
    refine ⟨?_, ?_, ?_, ?_⟩
    · intro it hit
      obtain ⟨pre, post, hs⟩ := List.append_of_mem hit
      have := H pre it post hs
      cases it with
      | item m => exact ⟨m, rfl⟩
      | lit l => cases this
    · cases hst : strangers r items with
      | nil => exact Or.inl rfl
      | cons s rest =>
          right
          have hs : s ∈ strangers r items := by rw [hst]; exact List.mem_cons_self
          cases s with
          | lit l => exact absurd (List.mem_filter.mp hs).2 Bool.false_ne_true
          | item m =>
              obtain ⟨hin, hk⟩ := (mem_strangers r items m).mp hs
              obtain ⟨pre, post, hsp⟩ := List.append_of_mem hin
              have := (itemMistakes_unknown r pre m ((arm_eq_none_iff r (nameOf m)).mpr hk)).mp (H pre _ post hsp)
              rw [Bool.or_eq_true] at this
              exact this.imp (hasFlatten_iff r).mp id
    · intro f hf ha hm
      apply occurrences_le_one
      intro pre m post hs hname
      have := (itemMistakes_known r hr pre m f (hname ▸ arm_of_addressable r hn f hf ha)).mp (H pre _ post hs)
      exact (any_selects_by_name r f (selects_addr r hd hr hn f hf ha) pre).mp (this.2 hm)
    · intro f hf ha m hm
      obtain ⟨hin, hname⟩ := (mem_occurrences f items m).mp hm
      obtain ⟨pre, post, hs⟩ := List.append_of_mem hin
      exact ((itemMistakes_known r hr pre m f (hname ▸ arm_of_addressable r hn f hf ha)).mp (H pre _ post hs)).1
  · rintro ⟨h1, h2, h3, h4⟩ pre it post hs
    have hit : it ∈ items := by rw [hs]; exact List.mem_append_right pre List.mem_cons_self
    obtain ⟨m, rfl⟩ := h1 it hit
    cases harm : r.arm (nameOf m) with
    | some f =>
        obtain ⟨hf, hsk, hfl, hname⟩ := SStruct.arm_some harm
        have ha : addressable f = true := (addressable_iff f).mpr ⟨hsk, hfl⟩
        refine (itemMistakes_known r hr pre m f harm).mpr
          ⟨h4 f hf ha m ((mem_occurrences f items m).mpr ⟨hit, hname.symm⟩), fun hmul => ?_⟩
        -- `m` is one occurrence of the at most one, so none is in `pre`
        have hlen := h3 f hf ha hmul
        rw [hs, occurrences_append, occurrences_cons_item, if_pos hname.symm, List.length_append,
          List.length_append, List.length_singleton] at hlen
        exact (any_selects_by_name r f (selects_addr r hd hr hn f hf ha) pre).mpr
          (List.length_eq_zero_iff.mp (by omega))
    | none =>
        have hstr : NestedMeta.item m ∈ strangers r items :=
          (mem_strangers r items m).mpr ⟨hit, (arm_eq_none_iff r (nameOf m)).mp harm⟩
        apply (itemMistakes_unknown r pre m harm).mpr
        rcases h2 with h | h | h
        · rw [h] at hstr; cases hstr
        · rw [(hasFlatten_iff r).mpr h]; rfl
        · rw [h, Bool.or_true]

theorem missing_nil_iff (items : List NestedMeta) :
    missing r items = [] ↔
      ∀ f ∈ r.fields, f.flatten = false → f.multiple = false → f.dflt = none → f.fromNone = none →
        addressable f = true ∧ occurrences f items ≠ [] := by
  unfold missing
  rw [List.filterMap_eq_nil_iff]
  constructor
  · intro h f hf hfl hm hdf hfn
    have := h f hf
    rw [isFirstFlatten_eq r hd f hf, hfl, hm, hdf, hfn] at this
    cases ha : addressable f with
    | false =>
        rw [any_selects_nonaddr r hd hr f hf ha items] at this
        cases this
    | true =>
        refine ⟨rfl, fun hnil => ?_⟩
        rw [(any_selects_by_name r f (selects_addr r hd hr hn f hf ha) items).mpr hnil] at this
        cases this
  · intro h f hf
    rw [isFirstFlatten_eq r hd f hf]
    -- the conjuncts in the order the model tests them; the last case is the hypothesis
    cases hm : f.multiple with
    | true => rfl
    | false =>
      cases hdf : f.dflt with
      | some d => rfl
      | none =>
        cases hany : items.any (selects r f) with
        | true => rfl
        | false =>
          cases hfl : f.flatten with
          | true => rfl
          | false =>
            cases hfn : f.fromNone with
            | some v => rfl
            | none =>
                obtain ⟨ha, hocc⟩ := h f hf hfl hm hdf hfn
                exact absurd ((any_selects_by_name r f (selects_addr r hd hr hn f hf ha) items).mp hany) hocc

end main

/-! ## 3. `MistakeFree` is "no mistake in the sense of C02" -/

theorem mistakeFree_iff (r : SStruct ν) (hd : Declared r) (hr : Returns r) (hn : NamesDistinct r)
    (hfa : FlattenDefaultAgrees r) (items : List NestedMeta) :
    MistakeFree r items ↔ mistakes r items = [] := by
  unfold mistakes
  simp only [List.append_eq_nil_iff]
  rw [loop_nil_iff r hd hr hn, flatten_nil_iff r hd hr, missing_nil_iff r hd hr hn]
  constructor
  · intro h
    refine ⟨⟨⟨h.noLiteral, h.noUnknown, h.noRepeat, h.accepted⟩, ?_⟩, h.noneAbsent⟩
    intro f hf hfl
    rcases h.flattenAccepted f hf hfl with ⟨hs, hdf⟩ | h
    · obtain ⟨v, hv, _⟩ := hfa f hf hfl hdf
      exact ⟨v, by rw [hs]; exact hv⟩
    · exact h
  · rintro ⟨⟨⟨h1, h2, h3, h4⟩, h5⟩, h6⟩
    exact ⟨h1, h2, h3, h4, fun f hf hfl => Or.inr (h5 f hf hfl), h6⟩

/-! ## 4. Every field holds what the text says -/

/-! ### `holds`, clause by clause -/

theorem holds_flatten (r : SStruct ν) (items : List NestedMeta) (f : SField ν) (hfl : f.flatten = true) :
    holds r items f = if (strangers r items).isEmpty && f.dflt.isSome then fallback r f
      else okVal (f.fromList (strangers r items)) := by
  unfold holds
  rw [if_pos hfl]

theorem holds_absent (r : SStruct ν) (items : List NestedMeta) (f : SField ν) (hfl : f.flatten = false)
    (h : f.skip = true ∨ occurrences f items = []) : holds r items f = fallback r f := by
  unfold holds supplied
  rw [hfl, if_neg Bool.false_ne_true]
  rcases h with h | h
  · rw [if_pos h]
  · rw [h]; exact ite_self _

theorem holds_multiple (r : SStruct ν) (items : List NestedMeta) (f : SField ν) (hfl : f.flatten = false)
    (hsk : f.skip = false) (hm : f.multiple = true) (hocc : occurrences f items ≠ []) :
    holds r items f = (allOk (supplied f items)).map r.mkList := by
  unfold holds supplied
  rw [hfl, hsk, if_neg Bool.false_ne_true, if_neg Bool.false_ne_true]
  cases ho : occurrences f items with
  | nil => exact absurd ho hocc
  | cons m ms => exact if_pos hm

theorem holds_single (r : SStruct ν) (items : List NestedMeta) (f : SField ν) (hfl : f.flatten = false)
    (hsk : f.skip = false) (hm : f.multiple = false) (m : Meta) (hocc : occurrences f items = [m]) :
    holds r items f = okVal (f.conv m) := by
  unfold holds supplied
  rw [hfl, hsk, hm, hocc]
  rfl

/-! ### the model's `fieldValue`, case by case -/

theorem allOk_accepted (conv : Meta → Outcome ν) (ms : List Meta) (h : ∀ m ∈ ms, ∃ v, conv m = .ok v) :
    allOk (ms.map conv) = some (ms.filterMap (fun m => okVal (conv m))) := by
  induction ms with
  | nil => rfl
  | cons m ms ih =>
      obtain ⟨v, hv⟩ := h m List.mem_cons_self
      have := ih (fun x hx => h x (List.mem_cons_of_mem m hx))
      simp only [List.map_cons, allOk, this, hv, okVal, List.filterMap_cons]

theorem default_fallback (r : SStruct ν) (hd : Declared r) (f : SField ν) (hf : f ∈ r.fields) (d : DefaultSrc ν)
    (hdf : f.dflt = some d) : ∃ v, fallback r f = some v ∧ defaultOf r f d = .ok v := by
  unfold fallback
  rw [hdf]
  cases d with
  | value v => exact ⟨v, rfl, rfl⟩
  | inherit =>
      have := hd.inheritDeclared f hf hdf
      unfold defaultOf
      cases hc : r.containerDefault with
      | none => rw [hc] at this; cases this
      | some cd => exact ⟨cd f.ident, rfl, rfl⟩

theorem fieldValue_absent (r : SStruct ν) (hd : Declared r) (items : List NestedMeta) (f : SField ν)
    (hf : f ∈ r.fields) (hiff : isFirstFlatten r f = false) (hsucc : successes r f items = [])
    (hfirst : firstValue r f items = none)
    (hreq : f.multiple = false → f.dflt = none → f.fromNone ≠ none) :
    ∃ v, fallback r f = some v ∧ fieldValue r items f = .ok v := by
  cases hdf : f.dflt with
  | some d =>
      obtain ⟨v, hv, hdv⟩ := default_fallback r hd f hf d hdf
      refine ⟨v, hv, ?_⟩
      unfold fieldValue
      rw [hdf, hsucc, hiff, hfirst, ← hdv]
      cases f.multiple <;> rfl
  | none =>
      unfold fallback fieldValue
      rw [hdf, hsucc, hiff, hfirst]
      cases hm : f.multiple with
      | true => exact ⟨r.mkList [], rfl, rfl⟩
      | false =>
          cases hfn : f.fromNone with
          | none => exact absurd hfn (hreq hm hdf)
          | some v => exact ⟨v, rfl, rfl⟩

theorem fieldValue_multiple (r : SStruct ν) (items : List NestedMeta) (f : SField ν) (hm : f.multiple = true)
    (hne : successes r f items ≠ []) : fieldValue r items f = .ok (r.mkList (successes r f items)) := by
  unfold fieldValue
  rw [if_pos hm]
  cases hs : successes r f items with
  | nil => exact absurd hs hne
  | cons v vs => cases f.dflt <;> rfl

theorem fieldValue_single (r : SStruct ν) (items : List NestedMeta) (f : SField ν) (hm : f.multiple = false)
    (hiff : isFirstFlatten r f = false) (v : ν) (hv : firstValue r f items = some v) :
    fieldValue r items f = .ok v := by
  unfold fieldValue
  rw [hm, hiff, hv]
  rfl

theorem fieldValue_flatten (r : SStruct ν) (items : List NestedMeta) (f : SField ν) (hm : f.multiple = false)
    (hiff : isFirstFlatten r f = true) (v : ν) (hv : flattenValue r items = some v) :
    fieldValue r items f = .ok v := by
  unfold fieldValue
  rw [hm, hiff, hv]
  rfl

theorem field_holds (r : SStruct ν) (hd : Declared r) (hr : Returns r) (hn : NamesDistinct r)
    (hfa : FlattenDefaultAgrees r) (items : List NestedMeta) (hmf : MistakeFree r items)
    (f : SField ν) (hf : f ∈ r.fields) :
    ∃ v, holds r items f = some v ∧ fieldValue r items f = .ok v := by
  have hiff := isFirstFlatten_eq r hd f hf
  cases hfl : f.flatten with
  | true =>
      rw [hfl] at hiff
      have hhas : r.hasFlatten = true := (hasFlatten_iff r).mpr ⟨f, hf, hfl⟩
      -- whichever clause of `holds` applies, the value is what the type makes of the strangers
      have hfv : ∀ v, f.fromList (strangers r items) = .ok v → fieldValue r items f = .ok v := by
        intro v hv
        apply fieldValue_flatten r items f (hd.flattenSingle f hf hfl) hiff v
        simp only [flattenValue, find_flatten r hd f hf hfl, (flattenResult_ok_iff r hhas f items v).mpr hv]
      rw [holds_flatten r items f hfl]
      cases hc : ((strangers r items).isEmpty && f.dflt.isSome) with
      | true =>
          rw [Bool.and_eq_true, List.isEmpty_iff] at hc
          obtain ⟨v, hv, hfb⟩ := hfa f hf hfl hc.2
          exact ⟨v, hfb, hfv v (by rw [hc.1]; exact hv)⟩
      | false =>
          rcases hmf.flattenAccepted f hf hfl with ⟨hs, hdf⟩ | ⟨v, hv⟩
          · rw [hs, hdf] at hc; cases hc
          · exact ⟨v, by rw [hv]; rfl, hfv v hv⟩
  | false =>
      rw [hfl] at hiff
      cases ha : addressable f with
      | false =>
          have hsk : f.skip = true := ((not_addressable_iff f).mp ha).resolve_right (by rw [hfl]; exact Bool.false_ne_true)
          rw [holds_absent r items f hfl (Or.inl hsk)]
          have hany := any_selects_nonaddr r hd hr f hf ha items
          apply fieldValue_absent r hd items f hf hiff
            (C02.successes_unselected r f items (selects_nonaddr r hd hr f hf ha))
            (C02.firstValue_unselected r f items hany)
          intro hm hdf hfn
          have := (hmf.noneAbsent f hf hfl hm hdf hfn).1
          rw [ha] at this; cases this
      | true =>
          have hsk : f.skip = false := ((addressable_iff f).mp ha).1
          have hsel := selects_addr r hd hr hn f hf ha
          have hacc := hmf.accepted f hf ha
          have hsucc := successes_by_name r f hsel items
          have hfirst := firstValue_by_name r f hsel items
          cases hocc : occurrences f items with
          | nil =>
              rw [hocc] at hsucc hfirst
              rw [holds_absent r items f hfl (Or.inr hocc)]
              exact fieldValue_absent r hd items f hf hiff hsucc hfirst
                (fun hm hdf hfn => (hmf.noneAbsent f hf hfl hm hdf hfn).2 hocc)
          | cons m ms =>
              obtain ⟨v, hv⟩ := hacc m (by rw [hocc]; exact List.mem_cons_self)
              cases hm : f.multiple with
              | true =>
                  refine ⟨r.mkList (successes r f items), ?_, ?_⟩
                  · rw [holds_multiple r items f hfl hsk hm (by rw [hocc]; exact List.cons_ne_nil m ms),
                      supplied, allOk_accepted f.conv _ hacc, hsucc]
                    rfl
                  · apply fieldValue_multiple r items f hm
                    rw [hsucc, hocc, List.filterMap_cons, hv]
                    exact List.cons_ne_nil _ _
              | false =>
                  have hlen := hmf.noRepeat f hf ha hm
                  rw [hocc] at hlen hfirst
                  cases ms with
                  | cons a b => exact absurd hlen (by simp)
                  | nil =>
                      rw [holds_single r items f hfl hsk hm m hocc, hv]
                      refine ⟨v, rfl, fieldValue_single r items f hm hiff v ?_⟩
                      rw [hfirst]
                      show okVal (f.conv m) = some v
                      rw [hv]; rfl

theorem collect_allSome (g : SField ν → Outcome ν) (h : SField ν → Option ν) (fs : List (SField ν))
    (hall : ∀ f ∈ fs, ∃ v, h f = some v ∧ g f = .ok v) :
    ∃ kvs, allSome (fs.map (fun f => (f.ident, h f))) = some kvs ∧
      collect (fs.map (fun f => (f.ident, g f))) = .ok kvs := by
  induction fs with
  | nil => exact ⟨[], rfl, rfl⟩
  | cons f fs ih =>
      obtain ⟨kvs, h1, h2⟩ := ih (fun x hx => hall x (by simp [hx]))
      obtain ⟨v, hv, hg⟩ := hall f (by simp)
      exact ⟨(f.ident, v) :: kvs, by simp [allSome, hv, h1], by simp [collect, hg, h2, Outcome.map]⟩

theorem collect_eq_record (r : SStruct ν) (hd : Declared r) (hr : Returns r) (hn : NamesDistinct r)
    (hfa : FlattenDefaultAgrees r) (items : List NestedMeta) (hmf : MistakeFree r items) :
    ∃ kvs, record r items = some kvs ∧
      collect (r.fields.map (fun f => (f.ident, fieldValue r items f))) = .ok kvs :=
  collect_allSome (fieldValue r items) (holds r items) r.fields
    (fun f hf => field_holds r hd hr hn hfa items hmf f hf)

/-- **C01, end to end** (derived `from_list` of a struct receiver).  For a mistake-free input,
    every field holds what the text says (`record` succeeds) and parsing returns the struct built
    from exactly these values (passed through the container-level map / and_then).
    `_partial`: under the side conditions `NamesDistinct` and `FlattenDefaultAgrees`, which exclude
    the discrepancies D1 and D2 of section 6. -/
theorem fromList_eq_record_partial (r : SStruct ν) (hd : Declared r) (hr : Returns r)
    (hn : NamesDistinct r) (hfa : FlattenDefaultAgrees r) (items : List NestedMeta)
    (hmf : MistakeFree r items) :
    ∃ kvs, record r items = some kvs ∧ fromList r items = r.post (r.build kvs) := by
  obtain ⟨kvs, h1, h2⟩ := collect_eq_record r hd hr hn hfa items hmf
  refine ⟨kvs, h1, ?_⟩
  rw [C02.fromList_value r (hd.wf hr) hd.identsDistinct items ((mistakeFree_iff r hd hr hn hfa items).mp hmf)]
  unfold expected
  rw [h2]

/-- "parsing succeeds" (a receiver without a fallible container-level transform) -/
theorem fromList_succeeds_partial (r : SStruct ν) (hd : Declared r) (hr : Returns r)
    (hn : NamesDistinct r) (hfa : FlattenDefaultAgrees r) (hpost : r.post = .ok) (items : List NestedMeta)
    (hmf : MistakeFree r items) :
    ∃ kvs, record r items = some kvs ∧ fromList r items = .ok (r.build kvs) := by
  obtain ⟨kvs, h1, h2⟩ := fromList_eq_record_partial r hd hr hn hfa items hmf
  exact ⟨kvs, h1, by rw [h2, hpost]⟩

theorem fromList_refuses_partial (r : SStruct ν) (hd : Declared r) (hr : Returns r)
    (hn : NamesDistinct r) (hfa : FlattenDefaultAgrees r) (items : List NestedMeta)
    (hmf : ¬ MistakeFree r items) : ∃ e, fromList r items = .err e := by
  have hmis : mistakes r items ≠ [] := fun h => hmf ((mistakeFree_iff r hd hr hn hfa items).mpr h)
  exact C02.fails_when_mistaken r (hd.wf hr) hd.identsDistinct items hmis

/-! ### "nothing else in the input influences any field"

  By construction `holds r items f` reads the input only through `occurrences f items` (an
  addressable field) or `strangers r items` (the flatten field); the theorems say what that means
  for the items of the input. -/

theorem holds_named_only (r : SStruct ν) (items items' : List NestedMeta) (f : SField ν) (hfl : f.flatten = false)
    (h : occurrences f items = occurrences f items') : holds r items f = holds r items' f := by
  simp only [holds, hfl, supplied, h, Bool.false_eq_true, if_false]

theorem holds_flatten_only (r : SStruct ν) (items items' : List NestedMeta) (f : SField ν) (hfl : f.flatten = true)
    (h : strangers r items = strangers r items') : holds r items f = holds r items' f := by
  simp only [holds, hfl, h, if_true]

/-- an item under another name, anywhere, does not touch the field -/
theorem occurrences_insert_other (f : SField ν) (pre post : List NestedMeta) (m : Meta) (hne : nameOf m ≠ f.name) :
    occurrences f (pre ++ .item m :: post) = occurrences f (pre ++ post) := by
  rw [occurrences_append, occurrences_cons_item, occurrences_append]; simp [hne]

/-- two neighbours under different names may change places -/
theorem occurrences_swap (f : SField ν) (pre post : List NestedMeta) (a b : Meta) (hne : nameOf a ≠ nameOf b) :
    occurrences f (pre ++ .item a :: .item b :: post) = occurrences f (pre ++ .item b :: .item a :: post) := by
  simp only [occurrences_append, occurrences_cons_item]
  by_cases ha : nameOf a = f.name
  · have hb : nameOf b ≠ f.name := fun hb => hne (ha.trans hb.symm)
    simp [ha, hb]
  · simp [ha]

/-- an item under a known name, anywhere, does not touch what the flatten field is handed -/
theorem strangers_insert_known (r : SStruct ν) (pre post : List NestedMeta) (m : Meta) (hk : knows r (nameOf m) = true) :
    strangers r (pre ++ .item m :: post) = strangers r (pre ++ post) := by
  simp [strangers, List.filter_append, hk]

theorem strangers_swap_known (r : SStruct ν) (pre post : List NestedMeta) (a : Meta) (b : NestedMeta)
    (hk : knows r (nameOf a) = true) :
    strangers r (pre ++ .item a :: b :: post) = strangers r (pre ++ b :: .item a :: post) := by
  simp [strangers, List.filter_append, List.filter_cons, hk]

theorem record_congr (r : SStruct ν) (items items' : List NestedMeta)
    (h : ∀ f ∈ r.fields, holds r items f = holds r items' f) : record r items = record r items' := by
  unfold record
  congr 1
  exact List.map_congr_left (fun f hf => by rw [h f hf])

/-- the parser itself: two mistake-free inputs that agree, name by name, on the items under each
    field's effective name and on the unknown items give the same result -/
theorem fromList_congr_partial (r : SStruct ν) (hd : Declared r) (hr : Returns r)
    (hn : NamesDistinct r) (hfa : FlattenDefaultAgrees r) (items items' : List NestedMeta)
    (hmf : MistakeFree r items) (hmf' : MistakeFree r items')
    (hocc : ∀ f ∈ r.fields, occurrences f items = occurrences f items')
    (hstr : strangers r items = strangers r items') : fromList r items = fromList r items' := by
  obtain ⟨kvs, h1, h2⟩ := fromList_eq_record_partial r hd hr hn hfa items hmf
  obtain ⟨kvs', h1', h2'⟩ := fromList_eq_record_partial r hd hr hn hfa items' hmf'
  have : record r items = record r items' := by
    apply record_congr
    intro f hf
    cases hfl : f.flatten with
    | true => exact holds_flatten_only r items items' f hfl hstr
    | false => exact holds_named_only r items items' f hfl (hocc f hf)
  rw [this, h1'] at h1
  cases h1
  rw [h2, h2']

/-! ### the element-level traits (`FromDeriveInput`, `FromField`, `FromVariant`, `FromTypeParam`,
    `FromAttributes`): the ordinary fields of the struct literal are the same record -/

theorem finishChecked_eq_record_partial (so : SOuter ν) (hd : Declared so.fields) (hr : Returns so.fields)
    (hn : NamesDistinct so.fields) (hfa : FlattenDefaultAgrees so.fields) (items : List NestedMeta)
    (hmf : MistakeFree so.fields items) (p : PState ν) (hp : coreLoop so.fields {} items = .ok p)
    (av : Option ν) :
    ∃ kvs, record so.fields items = some kvs ∧
      ∀ late early build a l, attrsPart so av = .ok a → lateValues late = .ok l →
        finishChecked so p av late early build = so.fields.post (build (early ++ a ++ l ++ kvs)) := by
  have hmis := (mistakeFree_iff so.fields hd hr hn hfa items).mp hmf
  have hwf := hd.wf hr
  obtain ⟨kvs, h1, h2⟩ := collect_eq_record so.fields hd hr hn hfa items hmf
  obtain ⟨st0, st1, h0, hfi, herrs, hslots⟩ := C02.before_check so.fields hwf hd.identsDistinct items
  rw [hp] at h0
  cases h0
  refine ⟨kvs, h1, fun late early build a l ha hl => ?_⟩
  unfold finishChecked
  rw [hfi]
  simp only
  rw [herrs, hmis]
  simp only [assemble, ha, hl]
  rw [C02.initFields_eq so.fields hwf items hmis _ hslots so.fields.fields (fun _ h => h), h2]

/-- **C01 for the element-level traits.**  Whatever the split of the items over the element's
    attributes (`C08.selItems` is their concatenation in source order), with a mistake-free item
    list and a well-behaved `attrs` member, the extractor succeeds and the struct literal is
    built from the pass-through members, the `attrs` member, the body members and exactly
    `record` for the ordinary fields. -/
theorem outer_eq_record_partial (so : SOuter ν) (hd : Declared so.fields) (hr : Returns so.fields)
    (hn : NamesDistinct so.fields) (hfa : FlattenDefaultAgrees so.fields) (attrs : List Attr)
    (hall : C08.AllParse so attrs) (hmf : MistakeFree so.fields (C08.selItems so attrs))
    (hav : ∀ mk, so.attrsField = some mk → ∃ v, mk (attrs.filter (C08.forwardedBy so)) = .ok v) :
    ∃ p av kvs, extract so attrs = .ok (p, av) ∧ record so.fields (C08.selItems so attrs) = some kvs ∧
      ∀ late early build a l, attrsPart so av = .ok a → lateValues late = .ok l →
        finishOuter so p av (.ok ()) late early build = so.fields.post (build (early ++ a ++ l ++ kvs)) := by
  obtain ⟨p, hp, _⟩ := C02.coreLoop_spec so.fields (hd.wf hr) (C08.selItems so attrs)
  have hex : ∃ av, extract so attrs = .ok (p, av) := by
    rw [C08.walk_is_one_list so attrs hall, hp]
    simp only [attrsValue]
    cases hmk : so.attrsField with
    | none => exact ⟨none, rfl⟩
    | some mk =>
        obtain ⟨v, hv⟩ := hav mk hmk
        exact ⟨some v, by simp [hv]⟩
  obtain ⟨av, hav'⟩ := hex
  obtain ⟨kvs, h1, h2⟩ := finishChecked_eq_record_partial so hd hr hn hfa _ hmf p hp av
  exact ⟨p, av, kvs, hav', h1, h2⟩

/-! ## 5. From the declaration to the receiver (`Options.resolveField`, `Env.semField`, `Env.semStruct`) -/
section decl
open Options

theorem semField_ident' (env : Env.T) (rh : String → Hooks Val) (f : RField) :
    (Env.semField env rh f).ident = f.ident := rfl

theorem skipped_default_aux (env : Env.T) (ty : Ty) (sk : Option (Bool × Option Span)) :
    Option.map (fun d => match d with
        | DefaultExpr.inherit => DefaultSrc.inherit
        | DefaultExpr.explicit p => DefaultSrc.value ((env.oracle.val? ("fn:" ++ p)).getD Val.unit)
        | DefaultExpr.trait_ _ => DefaultSrc.value (Env.defaultOf env.oracle ty))
      (fieldDefault none none sk) =
    (if skipTrue { skip := sk } then some (.value (Env.defaultOf env.oracle ty)) else none) := by
  cases sk with
  | none => rfl
  | some bs =>
      obtain ⟨b, sp⟩ := bs
      cases b <;> rfl

/-- "its own declared default, else the same-named field of the container-level default, else its
    type's value-for-absent" — as resolved from the options written on the declaration: `own` is
    the field's `default` option (`Default` trait or a function path), `core.dflt` the container's.
    The last line is where a *skipped* field differs from a field that is merely not supplied: its
    value-for-absent is `Default::default()`, not `FromMeta::from_none()`. -/
theorem declared_default_chain (env : Env.T) (rh : String → Hooks Val) (core : CoreOpts) (ident : String) (ty : Ty)
    (s : FieldOpts) (rf : RField) (h : resolveField core ident ty s = .ok rf) :
    (Env.semField env rh rf).dflt =
      (match s.dflt, core.dflt with
       | some (.explicit p), _ => some (.value ((env.oracle.val? ("fn:" ++ p)).getD .unit))
       | some (.trait_ _), _ => some (.value (Env.defaultOf env.oracle ty))
       | some .inherit, _ => some .inherit
       | none, some _ => some .inherit
       | none, none => if skipTrue s then some (.value (Env.defaultOf env.oracle ty)) else none) := by
  rw [resolveField_ok core ident ty s rf h]
  cases hs : s.dflt with
  | some d => cases d <;> rfl
  | none =>
      cases hc : core.dflt with
      | some d => rfl
      | none => exact skipped_default_aux env ty s.skip

/-- "converted by the field's type or custom converter and then by its map / and_then function":
    the converter `Env.semField` attaches is the custom `with` function if one is declared (and
    known to the library of the harness), else `from_meta` of the type the transform starts from
    (the element type for a `multiple` field), followed by the transform if one is declared -/
theorem conv_is_converter_then_transform (env : Env.T) (rh : String → Hooks Val) (f : RField) :
    (Env.semField env rh f).conv =
      (let srcTy : Ty := match f.post.bind Env.customPost with
         | some (t, _) => t
         | none => Env.elemTy f.ty
       let srcTy := if f.multiple then Env.elemTy srcTy else srcTy
       let base : Meta → Outcome Val := match f.with_.bind (Env.customWith env.oracle rh) with
         | some w => w
         | none => (hooksOf env.oracle rh srcTy).fromMeta
       match f.post.bind Env.customPost with
       | some (_, g) => fun m => (base m).bind g
       | none => base) := by
  unfold Env.semField
  cases hp : f.post with
  | none => simp only [Option.bind_none, ite_self]; rfl
  | some p =>
      cases hc : Env.customPost p with
      | none => simp only [Option.bind_some, hc, ite_self]; rfl
      | some tg => simp only [Option.bind_some, hc, ite_self]; rfl

theorem semField_inherit_iff (env : Env.T) (rh : String → Hooks Val) (f : RField) :
    (Env.semField env rh f).dflt = some .inherit ↔ f.dflt = some .inherit := by
  change f.dflt.map _ = _ ↔ _
  cases f.dflt with
  | none => simp
  | some d => cases d <;> simp

/-- what the derive checks on the resolved fields gives `Declared` for the assembled receiver:
    distinct identifiers (Rust), `Core::validate_body`'s one-flatten rule (`flattenErrs = []`),
    `flatten` excluding `multiple` (`InputField::parse_nested`), inheritance only from a declared
    container default (`with_inherited`) -/
theorem semStruct_declared (env : Env.T) (rh : String → Hooks Val) (core : RCore) (fields : List RField)
    (build : List (String × Val) → Val)
    (hid : fields.Pairwise (fun f g => f.ident ≠ g.ident))
    (hone : flattenErrs fields = [])
    (hfm : ∀ f ∈ fields, f.flatten = true → f.multiple = false)
    (hinh : ∀ f ∈ fields, f.dflt = some .inherit → core.dflt.isSome = true) :
    Declared (Env.semStruct env rh core fields build) := by
  have hlen : (fields.filter (·.flatten)).length ≤ 1 := by
    unfold flattenErrs at hone
    apply Nat.le_of_not_gt
    intro hgt
    rw [if_pos hgt, List.map_eq_nil_iff] at hone
    rw [hone] at hgt
    exact absurd hgt (by decide)
  refine ⟨semStruct_identsDistinct env rh core fields build hid, ?_, ?_, ?_⟩
  · intro f hf g hg hfl hgl
    obtain ⟨f0, hf0, rfl⟩ := mem_semStruct_fields.mp hf
    obtain ⟨g0, hg0, rfl⟩ := mem_semStruct_fields.mp hg
    rw [List.unique_of_filter_length_le_one _ fields hlen f0 hf0 g0 hg0 hfl hgl]
  · intro f hf hfl
    obtain ⟨f0, hf0, rfl⟩ := mem_semStruct_fields.mp hf
    exact hfm f0 hf0 hfl
  · intro f hf hdf
    obtain ⟨f0, hf0, rfl⟩ := mem_semStruct_fields.mp hf
    have := hinh f0 hf0 ((semField_inherit_iff env rh f0).mp hdf)
    show (core.dflt.map _).isSome = true
    rw [Option.isSome_map]
    exact this

/-- D1 at the level of the declaration: the side condition is about the *effective names* of the
    fields that are neither skipped nor flattened -/
theorem semStruct_namesDistinct (env : Env.T) (rh : String → Hooks Val) (core : RCore) (fields : List RField)
    (build : List (String × Val) → Val)
    (h : ∀ f ∈ fields, ∀ g ∈ fields, f.skip = false → f.flatten = false → g.skip = false → g.flatten = false →
      f.name = g.name → f = g) :
    NamesDistinct (Env.semStruct env rh core fields build) := by
  intro f hf g hg haf hag hname
  obtain ⟨f0, hf0, rfl⟩ := mem_semStruct_fields.mp hf
  obtain ⟨g0, hg0, rfl⟩ := mem_semStruct_fields.mp hg
  obtain ⟨hfs, hff⟩ := (addressable_iff _).mp haf
  obtain ⟨hgs, hgf⟩ := (addressable_iff _).mp hag
  rw [h f0 hf0 g0 hg0 hfs hff hgs hgf hname]

/-- D3 (observation): a `map` / `and_then` written on the flatten field never runs — what the
    flatten field is given is its type's `from_list` alone -/
theorem flatten_ignores_post (env : Env.T) (rh : String → Hooks Val) (f : RField) (p : Option Post) :
    (Env.semField env rh { f with post := p }).fromList = (Env.semField env rh f).fromList := rfl

/-- a default declared for the flatten field is consulted only when the flatten member's own
    conversion failed (which is then a reported mistake), for every receiver and input -/
theorem flatten_ignores_default (r : SStruct ν) (hd : Declared r) (items : List NestedMeta) (f : SField ν)
    (hf : f ∈ r.fields) (hfl : f.flatten = true) :
    Spec.C01.fieldValue r items f =
      (match Spec.C01.flattenValue r items with
       | some v => .ok v
       | none => (match f.dflt with
          | some d => Spec.C01.defaultOf r f d
          | none => (match f.fromNone with
              | some v => .ok v
              | none => .panic "Uninitialized fields without defaults were already checked"))) := by
  simp only [Spec.C01.fieldValue, hd.flattenSingle f hf hfl, isFirstFlatten_eq r hd f hf, hfl,
    Bool.false_eq_true, if_false, if_true]
  rfl

end decl

/-! ## 6. Discrepancies between the text and the behaviour, and non-vacuity

  D1 and D2 are given as concrete inputs; D3 (an observation, no side condition) is
  `flatten_ignores_post` of section 5.

  Values are lists of numbers: a scalar `k` is `[k]`, "absent" (`None`) is `[0]`, a struct is the
  concatenation of its fields, a `Vec` the concatenation of its elements. -/
namespace Witness

def mkPath (name : String) : Path := { global := false, segs := [name], plain := true, toks := name, span := ⟨0, 0⟩ }
/-- the item `name` -/
def word (name : String) : NestedMeta := .item (.path (mkPath name))

def mkStruct (fields : List (SField (List Nat))) : SStruct (List Nat) :=
  { fields, allowUnknown := false, containerDefault := none,
    build := fun kvs => kvs.flatMap (·.2), mkList := List.flatten, post := .ok, score := fun _ _ => 0, thr := 0 }

/-- a field of type `Option<_>`: any value is accepted and reads `[1]`, absent reads `[0]` -/
def opt (ident name : String) : SField (List Nat) :=
  { ident, name, conv := fun _ => .ok [1], fromNone := some [0], fromList := fun _ => .ok [],
    dflt := none, skip := false, multiple := false, flatten := false }

/-- a required field -/
def req (ident name : String) : SField (List Nat) := { opt ident name with fromNone := none }

/-! ### D1 — two fields with the same effective name
  `struct Dup { #[darling(rename = "a")] b: Option<String>, a: Option<String> }`, input `a = "hello"`:
  the text gives *each* field the value supplied under its effective name; the generated `match`
  has two arms `"a"` of which the second is dead. -/
def dup : SStruct (List Nat) := mkStruct [opt "b" "a", opt "a" "a"]

theorem forall_dup {P : SField (List Nat) → Prop} (hb : P (opt "b" "a")) (ha : P (opt "a" "a")) :
    ∀ f ∈ dup.fields, P f := by
  intro f hf
  rcases List.mem_cons.mp hf with rfl | hf
  · exact hb
  · rw [List.mem_singleton.mp hf]; exact ha

theorem dup_declared : Declared dup :=
  { identsDistinct := by decide
    oneFlatten := List.unique_of_filter_length_le_one _ _ (by decide)
    flattenSingle := forall_dup (nomatch ·) (nomatch ·)
    inheritDeclared := forall_dup (nomatch ·) (nomatch ·) }

theorem dup_returns : Returns dup :=
  { conv := forall_dup (fun _ _ h => nomatch h) (fun _ _ h => nomatch h)
    list := forall_dup (fun _ _ h => nomatch h) (fun _ _ h => nomatch h) }

theorem dup_mistakeFree : MistakeFree dup [word "a"] :=
  { noLiteral := fun _ hit => ⟨_, List.mem_singleton.mp hit⟩
    noUnknown := Or.inl rfl
    noRepeat := forall_dup (fun _ _ => by decide) (fun _ _ => by decide)
    accepted := forall_dup (fun _ _ _ => ⟨_, rfl⟩) (fun _ _ _ => ⟨_, rfl⟩)
    flattenAccepted := forall_dup (nomatch ·) (nomatch ·)
    noneAbsent := forall_dup (fun _ _ _ hfn => nomatch hfn) (fun _ _ _ hfn => nomatch hfn) }

theorem dup_flattenDefaultAgrees : FlattenDefaultAgrees dup :=
  forall_dup (nomatch ·) (nomatch ·)

/-- D1: every hypothesis of `fromList_eq_record_partial` except `NamesDistinct` holds, the input is
    mistake-free, the text gives both fields the value (`[1]`), the parser leaves field `a` absent
    (`[0]`) -/
example : Declared dup ∧ Returns dup ∧ FlattenDefaultAgrees dup ∧ MistakeFree dup [word "a"] ∧
    ¬ NamesDistinct dup ∧
    record dup [word "a"] = some [("b", [1]), ("a", [1])] ∧
    dup.post (dup.build [("b", [1]), ("a", [1])]) = .ok [1, 1] ∧
    fromList dup [word "a"] = .ok [1, 0] := by
  refine ⟨dup_declared, dup_returns, dup_flattenDefaultAgrees, dup_mistakeFree, ?_, rfl, rfl, rfl⟩
  intro h
  have := h (opt "b" "a") List.mem_cons_self (opt "a" "a") (List.mem_cons_of_mem _ List.mem_cons_self) rfl rfl rfl
  exact absurd (congrArg SField.ident this) (by decide)

/-- D1, required variant (`b: String`, `a: String`): the input supplies the name `a`, the answer
    is "Missing field `a`" -/
def dupReq : SStruct (List Nat) := mkStruct [req "b" "a", req "a" "a"]
example : fromList dupReq [word "a"] = .err (Err.new (.missingField "a")) := rfl
example : record dupReq [word "a"] = some [("b", [1]), ("a", [1])] := rfl

/-! ### D2 — a default declared for the flatten field is never used
  `struct FlatDef { x: u8, #[darling(flatten, default = "inner_default")] inner: Inner }` with
  `struct Inner { p: Option<u8> }`, `inner_default() = Inner { p: Some(7) }`, input `x = 1`:
  nothing is handed to `inner`, so by the text it holds its declared default `[7]`; the parser
  always runs `Inner::from_list(&[])`, which reads `[0]`. -/
def flatDef : SStruct (List Nat) :=
  mkStruct [req "x" "x",
    { ident := "inner", name := "inner", conv := fun _ => .ok [], fromNone := none,
      fromList := fun items => .ok [items.length], dflt := some (.value [7]),
      skip := false, multiple := false, flatten := true }]

example : strangers flatDef [word "x"] = [] ∧
    record flatDef [word "x"] = some [("x", [1]), ("inner", [7])] ∧
    fromList flatDef [word "x"] = .ok [1, 0] ∧
    ¬ FlattenDefaultAgrees flatDef := by
  refine ⟨rfl, rfl, rfl, ?_⟩
  intro h
  obtain ⟨v, h1, h2⟩ := h _ (List.mem_cons_of_mem _ List.mem_cons_self) rfl rfl
  cases h2
  cases h1

/-! ### non-vacuity of the hypotheses of the main theorems -/

def gX : SField (List Nat) := req "x" "x"
def gTags : SField (List Nat) := { opt "tags" "tag" with conv := fun _ => .ok [2], fromNone := none, multiple := true }
def gSk : SField (List Nat) := { opt "sk" "sk" with dflt := some (.value [5]), skip := true }
def gRest : SField (List Nat) :=
  { opt "rest" "rest" with fromList := fun items => .ok [items.length], dflt := some (.value [0]),
                            fromNone := none, flatten := true }
/-- `struct Good { x: u8, #[darling(multiple, rename = "tag")] tags: Vec<u8>,
    #[darling(skip, default = "five")] sk: u8, #[darling(flatten, default)] rest: Rest }`
    where `Rest::from_list(&[])` is `Rest::default()` -/
def good : SStruct (List Nat) := mkStruct [gX, gTags, gSk, gRest]

theorem forall_good {P : SField (List Nat) → Prop} (hX : P gX) (hTags : P gTags) (hSk : P gSk) (hRest : P gRest) :
    ∀ f ∈ good.fields, P f := by
  intro f hf
  have : f = gX ∨ f = gTags ∨ f = gSk ∨ f = gRest := by simpa [good, mkStruct] using hf
  rcases this with rfl | rfl | rfl | rfl
  · exact hX
  · exact hTags
  · exact hSk
  · exact hRest

theorem gRest_mem : gRest ∈ good.fields :=
  List.mem_cons_of_mem _ (List.mem_cons_of_mem _ (List.mem_cons_of_mem _ List.mem_cons_self))

theorem good_declared : Declared good :=
  { identsDistinct := by decide
    oneFlatten := List.unique_of_filter_length_le_one _ _ (by decide)
    flattenSingle := forall_good (nomatch ·) (nomatch ·) (nomatch ·) (fun _ => rfl)
    inheritDeclared := forall_good (nomatch ·) (nomatch ·) (nomatch ·) (nomatch ·) }

theorem good_returns : Returns good :=
  { conv := forall_good (fun _ _ h => nomatch h) (fun _ _ h => nomatch h) (fun _ _ h => nomatch h) (fun _ _ h => nomatch h)
    list := forall_good (fun _ _ h => nomatch h) (fun _ _ h => nomatch h) (fun _ _ h => nomatch h) (fun _ _ h => nomatch h) }

theorem good_namesDistinct : NamesDistinct good :=
  namesDistinct_of_pairwise good (by decide)

theorem good_flattenDefaultAgrees : FlattenDefaultAgrees good :=
  forall_good (nomatch ·) (nomatch ·) (nomatch ·) (fun _ _ => ⟨[0], rfl, rfl⟩)

/-- a list of bare words in which `x` occurs exactly once is mistake-free for `good`: every
    converter accepts, unknown names go to the flatten field (whose type accepts any list), only
    `x` can be repeated wrongly, and only `x` is required -/
theorem good_mistakeFree_of (names : List String) (hx : (occurrences gX (names.map word)).length = 1) :
    MistakeFree good (names.map word) :=
  { noLiteral := fun it hit => by
      obtain ⟨n, _, rfl⟩ := List.mem_map.mp hit
      exact ⟨_, rfl⟩
    noUnknown := Or.inr (Or.inl ⟨gRest, gRest_mem, rfl⟩)
    noRepeat := forall_good (fun _ _ => Nat.le_of_eq hx) (fun _ hm => nomatch hm) (fun ha _ => nomatch ha)
      (fun ha _ => nomatch ha)
    accepted := forall_good (fun _ _ _ => ⟨_, rfl⟩) (fun _ _ _ => ⟨_, rfl⟩) (fun _ _ _ => ⟨_, rfl⟩) (fun _ _ _ => ⟨_, rfl⟩)
    flattenAccepted := forall_good (nomatch ·) (nomatch ·) (nomatch ·) (fun _ => Or.inr ⟨_, rfl⟩)
    noneAbsent := forall_good (fun _ _ _ _ => ⟨rfl, fun h => by rw [h] at hx; cases hx⟩) (fun _ hm => nomatch hm)
      (fun _ _ hdf => nomatch hdf) (fun hfl => nomatch hfl) }

def goodInput : List NestedMeta := [word "tag", word "x", word "zzz", word "tag"]

theorem good_mistakeFree : MistakeFree good goodInput :=
  good_mistakeFree_of ["tag", "x", "zzz", "tag"] (by decide)

/-- the conclusion of `fromList_eq_record_partial`, computed: `x = [1]`, two `tag`s in order, the
    skipped field its default, the flatten field the one stranger -/
example : record good goodInput = some [("x", [1]), ("tags", [2, 2]), ("sk", [5]), ("rest", [1])] ∧
    fromList good goodInput = .ok [1, 2, 2, 5, 1] := ⟨rfl, rfl⟩

/-- the flatten default is used, and agrees, when nothing is handed over -/
example : MistakeFree good [word "x"] ∧ flattenIdle good [word "x"] gRest ∧
    fromList good [word "x"] = .ok [1, 5, 0] :=
  ⟨good_mistakeFree_of ["x"] (by decide), ⟨rfl, rfl⟩, rfl⟩

/-- hypothesis of `fromList_refuses_partial`: the required `x` is absent -/
example : ¬ MistakeFree good [word "tag"] ∧ ∃ e, fromList good [word "tag"] = .err e := by
  refine ⟨fun h => ?_, ⟨_, rfl⟩⟩
  exact (h.noneAbsent gX List.mem_cons_self rfl rfl rfl rfl).2 (by decide)

/-- `fromList_succeeds_partial`: no container-level transform -/
example : good.post = .ok := rfl

/-- `fromList_congr_partial`: the same items in another order, still mistake-free, the same
    items under every name and the same strangers -/
def goodInput' : List NestedMeta := [word "zzz", word "x", word "tag", word "tag"]

theorem good_mistakeFree' : MistakeFree good goodInput' :=
  good_mistakeFree_of ["zzz", "x", "tag", "tag"] (by decide)

example : (∀ f ∈ good.fields, occurrences f goodInput = occurrences f goodInput') ∧
    strangers good goodInput = strangers good goodInput' ∧ goodInput ≠ goodInput' ∧
    fromList good goodInput = fromList good goodInput' := by
  have hocc : ∀ f ∈ good.fields, occurrences f goodInput = occurrences f goodInput' :=
    forall_good rfl rfl rfl rfl
  refine ⟨hocc, rfl, ?_, ?_⟩
  · intro h
    have h1 := (List.cons.inj h).1
    simp only [word, NestedMeta.item.injEq, Meta.path.injEq] at h1
    exact absurd h1 (by decide)
  · exact fromList_congr_partial good good_declared good_returns good_namesDistinct good_flattenDefaultAgrees
      _ _ good_mistakeFree good_mistakeFree' hocc rfl

def mkAttr (name : String) (items : List NestedMeta) : Attr :=
  { path := mkPath name, body := .list (mkPath name) items none none "" ⟨0, 0⟩, toks := "", span := ⟨0, 0⟩ }
def bareAttr (name : String) : Attr := { path := mkPath name, body := .path (mkPath name), toks := "", span := ⟨0, 0⟩ }

def goodOuter : SOuter (List Nat) :=
  { fields := good, attrNames := ["my"], forward := some .all, attrsField := some (fun as => .ok [as.length]) }

def goodAttrs : List Attr :=
  [mkAttr "my" [word "tag"], bareAttr "doc", mkAttr "my" [word "x", word "zzz"], bareAttr "my", mkAttr "my" [word "tag"]]

/-- `outer_eq_record_partial`: `#[my(tag)] #[doc] #[my(x, zzz)] #[my] #[my(tag)]` on an element, with
    an `attrs` member that counts the forwarded attributes -/
example : C08.AllParse goodOuter goodAttrs ∧ C08.selItems goodOuter goodAttrs = goodInput ∧
    MistakeFree goodOuter.fields (C08.selItems goodOuter goodAttrs) ∧
    (∀ mk, goodOuter.attrsField = some mk → ∃ v, mk (goodAttrs.filter (C08.forwardedBy goodOuter)) = .ok v) ∧
    goodAttrs.filter (C08.forwardedBy goodOuter) = [bareAttr "doc"] := by
  refine ⟨?_, rfl, good_mistakeFree, ?_, rfl⟩
  · intro a ha _
    simp only [goodAttrs, List.mem_cons, List.mem_nil_iff, or_false] at ha
    rcases ha with rfl | rfl | rfl | rfl | rfl <;> exact ⟨_, rfl⟩
  · intro mk hmk
    cases hmk
    exact ⟨_, rfl⟩

/-- `finishChecked_eq_record_partial`: the walk over the concatenated items returns a state -/
example : ∃ p, coreLoop goodOuter.fields {} goodInput = .ok p := ⟨_, rfl⟩

/-- `declared_default_chain`: the options `#[darling(skip)]` on `f: u8` in a container without options -/
example : Options.resolveField {} "f" .bool { skip := some (true, none) } =
    .ok { ident := "f", name := "f", ty := .bool, with_ := none, post := none,
          dflt := some (.trait_ default), skip := true, multiple := false, flatten := false } := rfl

def rf1 : Options.RField :=
  { ident := "x", name := "x", ty := .bool, with_ := none, post := none, dflt := some .inherit,
    skip := false, multiple := false, flatten := false }
def rf2 : Options.RField :=
  { ident := "rest", name := "rest", ty := .bool, with_ := none, post := none, dflt := none,
    skip := false, multiple := false, flatten := true }
def rcore : Options.RCore :=
  { ident := "R", data := .struct .named [rf1, rf2], dflt := some (.trait_ default), post := none, allowUnknown := false }

local macro "no " h:ident : tactic => `(tactic| (cases $h:ident; done))

/-- `semStruct_declared` / `semStruct_namesDistinct`: two resolved fields, one of them flattened -/
example : [rf1, rf2].Pairwise (fun f g => f.ident ≠ g.ident) ∧ Options.flattenErrs [rf1, rf2] = [] ∧
    (∀ f ∈ [rf1, rf2], f.flatten = true → f.multiple = false) ∧
    (∀ f ∈ [rf1, rf2], f.dflt = some .inherit → rcore.dflt.isSome = true) ∧
    (∀ f ∈ [rf1, rf2], ∀ g ∈ [rf1, rf2], f.skip = false → f.flatten = false → g.skip = false → g.flatten = false →
      f.name = g.name → f = g) := by
  refine ⟨by simp [rf1, rf2], rfl, by decide, fun _ _ _ => rfl, ?_⟩
  intro f hf g hg _ hff _ hgf _
  simp only [List.mem_cons, List.mem_nil_iff, or_false] at hf hg
  rcases hf with rfl | rfl
  · rcases hg with rfl | rfl
    · rfl
    · no hgf
  · no hff

end Witness

end C01
