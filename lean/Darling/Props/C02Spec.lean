import Darling.Props.C02
import Darling.Props.C04
import Darling.Props.C14
import Darling.Derive.Enum
import Darling.FromMeta.Wrappers
import Darling.Derive.Outer
/-
  C02 — an independent, positional reading of the property text, and the proof that the model
  computes it (struct receivers, enum receivers, keyed collections, to any nesting depth).

  The specification is written from the property text: it speaks of item names, positions and the
  six kinds of mistake only, and never of converters, slots, `seen` flags or accumulators.

  First sentence of the property (fails iff a mistake exists, at any depth; `*_verdict`,
  `deep_fails_iff`): no side condition on the input.
  Second sentence (leaves = mistakes, one for one, with tags and paths; `*_reports_partial`,
  `map_reports`): under the side conditions `StructOk` / `EnumOk` / `MapOk` on the input, which
  exclude the discrepancies D1, D2, D4 between the text and the model (`MapOk` only passes the depth
  condition on), and for declarations that meet `Shape` and `WordOk`: of these `NamesDistinct` (D5),
  `PostAccepts` (a rejecting `and_then`, `Ex.checkedS`) and `WordOk` (a failing `from_word`
  override) are not guaranteed by the derive.  Section 8 gives each as a concrete input; all of
  them reproduce on the library.  D4 does not include a variant's list that fails to parse
  (`Ex.badList_ok`); D3, the element index of a `multiple` field, is no discrepancy
  (`Ex.multi_ok`) and needs no side condition.
-/
set_option autoImplicit false

open Derive

namespace C02

/-! ## 1. The vocabulary of the property text -/

/-- the six kinds of mistake the property text lists -/
inductive Tag where
  | unknownName (n : String)
  | repeatedName (n : String)
  | bareLiteral
  | absent (n : String)
  | rejected
  | wrongCount
  deriving DecidableEq, Repr

/-- a mistake: what it is (naming the offending item) and its outer-to-inner location path -/
abbrev Mistake := Tag × List String

/-- which of the six kinds an error leaf announces (did-you-mean suggestions are C17's subject) -/
def tagOf : Kind → Tag
  | .unknownField n _ => .unknownName n
  | .duplicateField n => .repeatedName n
  | .missingField n => .absent n
  | .tooFewItems _ => .wrongCount
  | .tooManyItems _ => .wrongCount
  | .unexpectedFormat f => if f = "literal" ∨ f = "expression" then .bareLiteral else .rejected
  | _ => .rejected

/-- the leaves of a returned error, left to right, each with its full location path -/
def reported (e : Err) : List Mistake := (Spec.C04.leaves e).map (fun d => (tagOf d.kind, d.path))

def reportedAll (es : List Err) : List Mistake := es.flatMap reported

/-- a mistake found inside the item located at `l` -/
def under (l : String) (m : Mistake) : Mistake := (m.1, l :: m.2)

/-- **the judgement of the property**: the outcome is `Ok` when there is no mistake; otherwise it
    is an error whose leaves are exactly the mistakes (one each, none invented); never a panic -/
def Reports {α : Type} (o : Outcome α) (ms : List Mistake) : Prop :=
  match o with
  | .ok _ => ms = []
  | .err e => ms ≠ [] ∧ reported e = ms
  | .panic _ => False

/-! ## 2. How the judgement composes (error algebra) -/

/-- what `Reports` says at the observation point the property names (`Error::flatten()`): the
    flattened error's items are leaves, and their kinds and paths are the mistakes -/
theorem reported_is_flatten (e : Err) :
    (Err.intoVec e).map (fun x => (tagOf (C04.kp x).1, (C04.kp x).2)) = reported e := by
  have h := congrArg (List.map (fun p : Kind × List String => (tagOf p.1, p.2))) (C04.intoVecP_kp [] none e)
  simpa only [reported, Spec.C04.leaves, Err.intoVec, List.map_map, Function.comp_def] using h

open Spec.C04 in
theorem reported_leaf (k : Kind) (ls : List String) (s : Option Span) :
    reported (.leaf k ls s) = [(tagOf k, ls)] := by
  simp [reported, leaves, leavesUnder]

theorem reported_new (k : Kind) : reported (Err.new k) = [(tagOf k, [])] := reported_leaf k [] none

theorem reported_at (e : Err) (l : String) : reported (e.at l) = (reported e).map (under l) := by
  unfold reported
  rw [C04.at_leaves, List.map_map, List.map_map]
  rfl

theorem reported_withSpan (e : Err) (s : Span) : reported (e.withSpan s) = reported e := by
  have h := congrArg (List.map (fun p : Kind × List String => (tagOf p.1, p.2))) (C04.withSpan_kp e s)
  simpa only [reported, List.map_map, Function.comp_def] using h

open Spec.C04 in
theorem leavesListUnder_flatMap (anc : List String) (cs : List Err) :
    leavesListUnder anc cs = cs.flatMap (leavesUnder anc) := by
  induction cs with
  | nil => simp [leavesListUnder]
  | cons c cs ih => simp [leavesListUnder, ih]

open Spec.C04 in
theorem reported_multi (cs : List Err) (s : Option Span) : reported (.multi cs [] s) = reportedAll cs := by
  simp only [reported, leaves, leavesUnder, List.append_nil, leavesListUnder_flatMap, reportedAll,
    List.map_flatMap]
  rfl

theorem reportedAll_nil : reportedAll [] = [] := rfl
theorem reportedAll_cons (e : Err) (es : List Err) : reportedAll (e :: es) = reported e ++ reportedAll es := by
  simp [reportedAll]
theorem reportedAll_append (a b : List Err) : reportedAll (a ++ b) = reportedAll a ++ reportedAll b := by
  simp [reportedAll]

/-- `Error::multiple` loses nothing and adds nothing -/
theorem bundle_reported {α : Type} (es : List Err) (h : es ≠ []) :
    ∃ e, (Err.bundleErr es : Outcome α) = .err e ∧ reported e = reportedAll es := by
  match es, h with
  | [x], _ => exact ⟨x, rfl, by simp [reportedAll]⟩
  | x :: y :: r, _ => exact ⟨.multi (x :: y :: r) [] none, rfl, reported_multi _ _⟩

open Spec.C04 Suggest in
theorem addSiblingAlts_leaf (thr : Nat) (sc : String → List (String × Nat)) (k : Kind) (ls : List String)
    (sp : Option Span) : ∃ k', addSiblingAlts thr sc (.leaf k ls sp) = .leaf k' ls sp ∧ tagOf k' = tagOf k := by
  unfold addSiblingAlts
  split
  · exact ⟨k, rfl, rfl⟩
  · split
    · exact ⟨_, rfl, rfl⟩
    · exact ⟨k, rfl, rfl⟩

open Spec.C04 Suggest in
mutual
theorem leavesUnder_siblingAlts (thr : Nat) (sc : String → List (String × Nat)) (anc : List String) (e : Err) :
    (leavesUnder anc (addSiblingAlts thr sc e)).map (fun d => (tagOf d.kind, d.path))
      = (leavesUnder anc e).map (fun d => (tagOf d.kind, d.path)) := by
  cases e with
  | leaf k ls sp =>
      obtain ⟨k', hk, ht⟩ := addSiblingAlts_leaf thr sc k ls sp
      rw [hk]
      simp only [leavesUnder, List.map, ht]
  | multi cs ls sp =>
      unfold addSiblingAlts
      split
      · rfl
      · exact leavesListUnder_siblingAlts thr sc _ cs
theorem leavesListUnder_siblingAlts (thr : Nat) (sc : String → List (String × Nat)) (anc : List String) (es : List Err) :
    (leavesListUnder anc (addSiblingAltsList thr sc es)).map (fun d => (tagOf d.kind, d.path))
      = (leavesListUnder anc es).map (fun d => (tagOf d.kind, d.path)) := by
  cases es with
  | nil => rfl
  | cons c cs =>
      simp only [addSiblingAltsList, leavesListUnder, List.map_append]
      rw [leavesUnder_siblingAlts thr sc anc c, leavesListUnder_siblingAlts thr sc anc cs]
end

/-- offering sibling names for a did-you-mean changes neither the mistakes nor their paths -/
theorem reported_siblingAlts (thr : Nat) (sc : String → List (String × Nat)) (e : Err) :
    reported (Suggest.addSiblingAlts thr sc e) = reported e :=
  leavesUnder_siblingAlts thr sc [] e

/-! ### the judgement under the wrappers the generated code applies -/

theorem Reports.map {α β : Type} {o : Outcome α} {ms : List Mistake} (h : Reports o ms) (f : α → β) :
    Reports (o.map f) ms := by
  cases o <;> exact h

theorem Reports.withSpan {α : Type} {o : Outcome α} {ms : List Mistake} (h : Reports o ms) (s : Span) :
    Reports (o.mapErr (·.withSpan s)) ms := by
  cases o with
  | ok v => exact h
  | panic m => exact h
  | err e => exact ⟨h.1, by show reported (e.withSpan s) = ms; rw [reported_withSpan]; exact h.2⟩

theorem Reports.at {α : Type} {o : Outcome α} {ms : List Mistake} (h : Reports o ms) (l : String) :
    Reports (o.mapErr (·.at l)) (ms.map (under l)) := by
  cases o with
  | ok v => simp only [Reports, Outcome.mapErr] at h ⊢; simp [h]
  | panic m => exact h
  | err e =>
      refine ⟨?_, ?_⟩
      · intro hnil; exact h.1 (by simpa using hnil)
      · show reported (e.at l) = ms.map (under l); rw [reported_at, h.2]

theorem Reports.siblingAlts {α : Type} {o : Outcome α} {ms : List Mistake} (h : Reports o ms)
    (thr : Nat) (sc : String → List (String × Nat)) :
    Reports (o.mapErr (Suggest.addSiblingAlts thr sc)) ms := by
  cases o with
  | ok v => exact h
  | panic m => exact h
  | err e => exact ⟨h.1, by show reported (Suggest.addSiblingAlts thr sc e) = ms; rw [reported_siblingAlts]; exact h.2⟩

theorem Reports.not_panic {α : Type} {o : Outcome α} {ms : List Mistake} (h : Reports o ms) (msg : String) :
    o ≠ .panic msg := by
  intro he; subst he; exact h

/-- fails if and only if there is a mistake -/
theorem Reports.fails_iff {α : Type} {o : Outcome α} {ms : List Mistake} (h : Reports o ms) :
    (∃ e, o = .err e) ↔ ms ≠ [] := by
  cases o with
  | ok v => simp only [Reports] at h; simp [h]
  | panic m => exact h.elim
  | err e => exact ⟨fun _ => h.1, fun _ => ⟨e, rfl⟩⟩

theorem Reports.leaf {α : Type} (k : Kind) (ls : List String) (s : Option Span) :
    Reports (.err (.leaf k ls s) : Outcome α) [(tagOf k, ls)] :=
  ⟨by simp, reported_leaf k ls s⟩

/-- a list of error values that stands for a list of mistakes: same leaves, and no empty bundle -/
structure Faithful (es : List Err) (ms : List Mistake) : Prop where
  same : reportedAll es = ms
  solid : ∀ e ∈ es, reported e ≠ []

theorem Faithful.nil : Faithful [] [] := ⟨rfl, by simp⟩

theorem Faithful.append {a b : List Err} {x y : List Mistake} (h1 : Faithful a x) (h2 : Faithful b y) :
    Faithful (a ++ b) (x ++ y) :=
  ⟨by rw [reportedAll_append, h1.same, h2.same], by
    intro e he
    rcases List.mem_append.mp he with h | h
    · exact h1.solid e h
    · exact h2.solid e h⟩

theorem Faithful.single {e : Err} {x : Mistake} (h : reported e = [x]) : Faithful [e] [x] :=
  ⟨by rw [reportedAll_cons, h]; rfl, fun e' he => by rw [List.mem_singleton.mp he, h]; exact List.cons_ne_nil _ _⟩

theorem Faithful.flatMap {α : Type} {F : α → List Err} {G : α → List Mistake} :
    ∀ (l : List α), (∀ a ∈ l, Faithful (F a) (G a)) → Faithful (l.flatMap F) (l.flatMap G)
  | [], _ => Faithful.nil
  | a :: l, h => by
      rw [List.flatMap_cons, List.flatMap_cons]
      exact (h a List.mem_cons_self).append (Faithful.flatMap l (fun b hb => h b (List.mem_cons_of_mem a hb)))

theorem Faithful.nil_iff {es : List Err} {ms : List Mistake} (h : Faithful es ms) : es = [] ↔ ms = [] := by
  constructor
  · intro he; subst he; exact h.same.symm
  · intro hm
    cases es with
    | nil => rfl
    | cons e es =>
        exfalso
        have := h.same
        rw [reportedAll_cons, hm] at this
        exact h.solid e (by simp) (List.append_eq_nil_iff.mp this).1

/-- what a conversion contributes to an accumulator: its error, if it fails -/
def errOf {α : Type} : Outcome α → List Err
  | .err e => [e]
  | _ => []

theorem Faithful.of_reports {α : Type} {o : Outcome α} {ms : List Mistake} (h : Reports o ms) :
    Faithful (errOf o) ms := by
  cases o with
  | ok v => simp only [Reports] at h; subst h; exact Faithful.nil
  | panic m => exact h.elim
  | err e =>
      refine ⟨by simp [errOf, reportedAll, h.2], ?_⟩
      intro x hx
      simp only [errOf, List.mem_singleton] at hx
      subst hx; rw [h.2]; exact h.1

/-- `finish()` on an accumulator holding a faithful list judges the input correctly -/
theorem Faithful.bundle {α : Type} {es : List Err} {ms : List Mistake} (h : Faithful es ms) (hne : es ≠ []) :
    Reports (Err.bundleErr es : Outcome α) ms := by
  obtain ⟨e, he, hr⟩ := bundle_reported (α := α) es hne
  rw [he]
  exact ⟨fun hm => hne (h.nil_iff.mpr hm), by rw [hr, h.same]⟩

/-! ### the verdict alone (first sentence of the property): fails iff there is a mistake -/

/-- the outcome is `Ok` when there is no mistake and an error when there is one; never a panic -/
def Verdict {α : Type} (o : Outcome α) (ms : List Mistake) : Prop :=
  match o with
  | .ok _ => ms = []
  | .err _ => ms ≠ []
  | .panic _ => False

theorem Reports.verdict {α : Type} {o : Outcome α} {ms : List Mistake} (h : Reports o ms) : Verdict o ms := by
  cases o with
  | ok v => exact h
  | err e => exact h.1
  | panic p => exact h

theorem Verdict.map {α β : Type} {o : Outcome α} {ms : List Mistake} (h : Verdict o ms) (f : α → β) :
    Verdict (o.map f) ms := by
  cases o <;> exact h

theorem Verdict.mapErr {α : Type} {o : Outcome α} {ms : List Mistake} (h : Verdict o ms) (f : Err → Err) :
    Verdict (o.mapErr f) ms := by
  cases o <;> exact h

theorem Verdict.under {α : Type} {o : Outcome α} {ms : List Mistake} (h : Verdict o ms) (f : Err → Err) (l : String) :
    Verdict (o.mapErr f) (ms.map (under l)) := by
  cases o with
  | ok v => simp only [Verdict] at h; subst h; rfl
  | err e => intro hn; exact h (by simpa using hn)
  | panic p => exact h

theorem Verdict.not_panic {α : Type} {o : Outcome α} {ms : List Mistake} (h : Verdict o ms) (msg : String) :
    o ≠ .panic msg := by
  intro he; subst he; exact h

theorem Verdict.fails_iff {α : Type} {o : Outcome α} {ms : List Mistake} (h : Verdict o ms) :
    (∃ e, o = .err e) ↔ ms ≠ [] := by
  cases o with
  | ok v => simp only [Verdict] at h; simp [h]
  | panic m => exact h.elim
  | err e => exact ⟨fun _ => h, fun _ => ⟨e, rfl⟩⟩

theorem Verdict.ok_iff {α : Type} {o : Outcome α} {ms : List Mistake} (h : Verdict o ms) :
    (∃ v, o = .ok v) ↔ ms = [] := by
  cases o with
  | ok v => simp only [Verdict] at h; simp [h]
  | panic m => exact h.elim
  | err e => simp only [Verdict] at h; simp [h]

theorem Verdict.clean {α : Type} {o : Outcome α} {ms : List Mistake} (h : Verdict o ms) (hm : ms = []) :
    ∃ v, o = .ok v := h.ok_iff.mpr hm

/-- two lists that are empty together -/
def Agree (es : List Err) (ms : List Mistake) : Prop := es = [] ↔ ms = []

theorem Agree.append {a b : List Err} {x y : List Mistake} (h1 : Agree a x) (h2 : Agree b y) :
    Agree (a ++ b) (x ++ y) := by
  unfold Agree at *
  rw [List.append_eq_nil_iff, List.append_eq_nil_iff, h1, h2]

theorem Agree.of_verdict {α : Type} {o : Outcome α} {ms : List Mistake} (h : Verdict o ms) :
    Agree (errOf o) ms := by
  cases o with
  | ok v => simp only [Verdict] at h; simp [Agree, errOf, h]
  | err e => simp only [Verdict] at h; simp [Agree, errOf, h]
  | panic p => exact h.elim

theorem Agree.both {es : List Err} {ms : List Mistake} (h1 : es ≠ []) (h2 : ms ≠ []) : Agree es ms := by
  simp [Agree, h1, h2]

theorem Agree.nil : Agree [] [] := by simp [Agree]

theorem Faithful.agree {es : List Err} {ms : List Mistake} (h : Faithful es ms) : Agree es ms := h.nil_iff

theorem Agree.bundle {α : Type} {es : List Err} {ms : List Mistake} (h : Agree es ms) (hne : es ≠ []) :
    Verdict (Err.bundleErr es : Outcome α) ms := by
  obtain ⟨e, he, _⟩ := bundle_reported (α := α) es hne
  rw [he]
  exact fun hm => hne (h.mpr hm)

/-! ## 3. Struct receivers: what the property text demands, positionally

  A receiver is described by its declaration data (`SStruct`: field names, the `skip`, `flatten`,
  `multiple`, default options, `allow_unknown_fields`) and, for the type of each field, a *reading*:
  which mistakes the text sees in an item supplied as a value of that type.  Nothing below looks at
  a converter, a slot, a `seen` flag or an accumulator. -/

/-- how the property text reads a target type -/
structure Reading where
  /-- the mistakes inside an item `name…` supplied as a value of this type (paths relative to it) -/
  item : Meta → List Mistake
  /-- the mistakes in a bare item list handed to this type (it is a flattened member) -/
  list : List NestedMeta → List Mistake
  /-- not supplying it is fine (the type has a value for "absent") -/
  optional : Bool
  /-- the inputs on which the library returns exactly `item` / `list` (those that avoid the
      discrepancies D1, D2, D4 at every depth inside); the *verdict* never needs them -/
  okItem : Meta → Prop
  okList : List NestedMeta → Prop

variable {ν : Type}

/-- the name an item carries; a bare literal carries none -/
def nameOf : NestedMeta → Option String
  | .item m => some m.path'.toStr
  | .lit _ => none

/-- the field an item name addresses: the first field that is neither skipped nor flattened and
    goes by that name -/
def addressed (r : SStruct ν) (n : String) : Option (SField ν) :=
  r.fields.find? (fun f => !f.skip && !f.flatten && f.name == n)

/-- how many of `items` carry the name `n` -/
def occurrences (items : List NestedMeta) (n : String) : Nat :=
  (items.filter (fun it => nameOf it == some n)).length

/-- the mistakes the item `it` contributes, `earlier` being the items before it -/
def itemMistakes (r : SStruct ν) (rd : SField ν → Reading) (earlier : List NestedMeta) : NestedMeta → List Mistake
  | .lit _ => [(.bareLiteral, [])]                                  -- bare literal where a named item is required
  | .item m =>
      let n := m.path'.toStr
      match addressed r n with
      | none =>
          if r.hasFlatten || r.allowUnknown then []                 -- handed on to the flattened member / tolerated
          else [(.unknownName n, [])]                               -- unknown name
      | some f =>
          if f.multiple then
            -- every occurrence counts; what is wrong inside the k-th occurrence is located at `n[k]`
            ((rd f).item m).map (under (n ++ "[" ++ toString (occurrences earlier n) ++ "]"))
          else
            (if occurrences earlier n > 0 then [(.repeatedName n, [])] else [])   -- repeated name
              ++ ((rd f).item m).map (under n)                      -- whatever is wrong inside it, located at `n`

/-- all item-level mistakes, in item order -/
def walk (r : SStruct ν) (rd : SField ν → Reading) : List NestedMeta → List NestedMeta → List Mistake
  | _, [] => []
  | earlier, it :: rest => itemMistakes r rd earlier it ++ walk r rd (earlier ++ [it]) rest

/-- the items no field claims, in order -/
def strangers (r : SStruct ν) (items : List NestedMeta) : List NestedMeta :=
  items.filter (fun it => match nameOf it with
    | some n => (addressed r n).isNone
    | none => false)

/-- the flattened member is transparent: its own mistakes on the items nobody else claims, with no
    location of its own -/
def flattenMistakes (r : SStruct ν) (rd : SField ν → Reading) (items : List NestedMeta) : List Mistake :=
  match r.fields.find? (·.flatten) with
  | some ff => (rd ff).list (strangers r items)
  | none => []

/-- a field the input has to supply -/
def required (rd : SField ν → Reading) (f : SField ν) : Bool :=
  !f.skip && !f.flatten && !f.multiple && f.dflt.isNone && !(rd f).optional

/-- required item absent: no item carries its name; in declaration order -/
def absentMistakes (r : SStruct ν) (rd : SField ν → Reading) (items : List NestedMeta) : List Mistake :=
  r.fields.filterMap (fun f =>
    if required rd f && occurrences items f.name == 0 then some (.absent f.name, []) else none)

/-- **every mistake of an item list given to a struct receiver** -/
def structMistakes (r : SStruct ν) (rd : SField ν → Reading) (items : List NestedMeta) : List Mistake :=
  walk r rd [] items ++ flattenMistakes r rd items ++ absentMistakes r rd items

/-! ### what a declaration must satisfy for the text to make sense (all guaranteed at derive time
    or by the compiler, except `NamesDistinct`, see discrepancy D5, and `PostAccepts`, see
    `Ex.checkedS`) -/

/-- a skipped field always has a default (`Default::default()` is supplied by the derive) -/
def SkipHasDefault (r : SStruct ν) : Prop := ∀ f ∈ r.fields, f.skip = true → f.dflt.isSome = true
/-- at most one flattened member -/
def OneFlatten (r : SStruct ν) : Prop :=
  ∀ f ∈ r.fields, ∀ g ∈ r.fields, f.flatten = true → g.flatten = true → f = g
/-- no two addressable fields go by the same name -/
def NamesDistinct (r : SStruct ν) : Prop :=
  ∀ f ∈ r.fields, f.skip = false → f.flatten = false → addressed r f.name = some f
/-- the container-level `map` / `and_then` accepts every value (it is a validator of its own, not a
    reader of the input) -/
def PostAccepts (r : SStruct ν) : Prop := ∀ v, ∃ w, r.post v = .ok w

/-- the field behaves as its reading says, in the three ways the generated code uses it:
    the verdict on every input, the exact leaves on the inputs its reading calls `ok` -/
structure FieldReads (f : SField ν) (t : Reading) : Prop where
  vItem : ∀ m, Verdict (f.conv m) (t.item m)
  vList : ∀ items, Verdict (f.fromList items) (t.list items)
  item : ∀ m, t.okItem m → Reports (f.conv m) (t.item m)
  list : ∀ items, t.okList items → Reports (f.fromList items) (t.list items)
  optional : f.fromNone.isSome = t.optional

/-- what the derive (and the compiler) guarantee about a declaration, together with `names` (D5) and
    `post` (no rejecting `and_then`), which they do not -/
structure Shape (r : SStruct ν) : Prop where
  distinct : Distinct r
  skipDefault : SkipHasDefault r
  oneFlatten : OneFlatten r
  names : NamesDistinct r
  defaults : DefaultsOk r
  post : PostAccepts r

/-- a declaration whose field types behave as their readings say -/
structure Decl (r : SStruct ν) (rd : SField ν → Reading) : Prop extends Shape r where
  reads : ∀ f ∈ r.fields, FieldReads f (rd f)

/-! ### the places where the model (and the library) fall short of the text -/

/-- side condition for one item, given the items before it:
    * (D1) if it repeats the name of a single-valued field, nothing is wrong inside it;
    * (depth) otherwise its value avoids D1, D2, D4 inside, as the field's reading says -/
def ItemOk (r : SStruct ν) (rd : SField ν → Reading) (earlier : List NestedMeta) (it : NestedMeta) : Prop :=
  ∀ m, it = .item m → ∀ f, addressed r m.path'.toStr = some f →
    (f.multiple = false → occurrences earlier m.path'.toStr > 0 → (rd f).item m = []) ∧
    (f.multiple = false → occurrences earlier m.path'.toStr = 0 → (rd f).okItem m) ∧
    (f.multiple = true → (rd f).okItem m)

def WalkOk (r : SStruct ν) (rd : SField ν → Reading) : List NestedMeta → List NestedMeta → Prop
  | _, [] => True
  | earlier, it :: rest => ItemOk r rd earlier it ∧ WalkOk r rd (earlier ++ [it]) rest

/-- the item lists on which a struct receiver returns exactly `structMistakes` -/
def StructOk (r : SStruct ν) (rd : SField ν → Reading) (items : List NestedMeta) : Prop :=
  WalkOk r rd [] items ∧ ∀ ff, r.fields.find? (·.flatten) = some ff → (rd ff).okList (strangers r items)

/-! ### how the side condition is checked on a given item -/

section itemRules
variable {r : SStruct ν} {rd : SField ν → Reading} {earlier : List NestedMeta} {m : Meta} {f : SField ν}

theorem ItemOk.lit (r : SStruct ν) (rd : SField ν → Reading) (earlier : List NestedMeta) (l : Lit) :
    ItemOk r rd earlier (.lit l) :=
  fun _ h => nomatch h

theorem ItemOk.unaddressed (h : addressed r m.path'.toStr = none) : ItemOk r rd earlier (.item m) := by
  intro m' hm f hf
  cases hm
  rw [h] at hf
  cases hf

theorem ItemOk.of_clauses (h : addressed r m.path'.toStr = some f)
    (hc : (f.multiple = false → occurrences earlier m.path'.toStr > 0 → (rd f).item m = []) ∧
      (f.multiple = false → occurrences earlier m.path'.toStr = 0 → (rd f).okItem m) ∧
      (f.multiple = true → (rd f).okItem m)) : ItemOk r rd earlier (.item m) := by
  intro m' hm f' hf
  cases hm
  rw [h] at hf
  cases hf
  exact hc

theorem ItemOk.first (h : addressed r m.path'.toStr = some f) (hs : f.multiple = false)
    (h0 : occurrences earlier m.path'.toStr = 0) (hok : (rd f).okItem m) : ItemOk r rd earlier (.item m) :=
  ItemOk.of_clauses h ⟨fun _ hp => absurd h0 (Nat.ne_of_gt hp), fun _ _ => hok, fun hm => absurd (hs ▸ hm) nofun⟩

/-- a later item under the name of a single-valued field: nothing may be wrong inside it (D1) -/
theorem ItemOk.repeated (h : addressed r m.path'.toStr = some f) (hs : f.multiple = false)
    (hp : occurrences earlier m.path'.toStr > 0) (hclean : (rd f).item m = []) : ItemOk r rd earlier (.item m) :=
  ItemOk.of_clauses h ⟨fun _ _ => hclean, fun _ h0 => absurd h0 (Nat.ne_of_gt hp), fun hm => absurd (hs ▸ hm) nofun⟩

theorem ItemOk.multiple (h : addressed r m.path'.toStr = some f) (hs : f.multiple = true) (hok : (rd f).okItem m) :
    ItemOk r rd earlier (.item m) :=
  ItemOk.of_clauses h ⟨fun hm => absurd (hs ▸ hm) nofun, fun hm => absurd (hs ▸ hm) nofun, fun _ => hok⟩

end itemRules

/-! ### proofs: the model's struct parser computes `structMistakes` -/

section structProofs
open Spec.C02 (selects loopMistakes)
variable {r : SStruct ν} {rd : SField ν → Reading}

theorem Decl.wf (h : Decl r rd) : WF r where
  identInj := List.pairwise_inj (fun f : SField ν => f.ident) h.distinct
  convNoPanic := fun f hf m msg => ((h.reads f hf).vItem m).not_panic msg
  listNoPanic := fun f hf items msg => ((h.reads f hf).vList items).not_panic msg

theorem addressed_eq_arm (r : SStruct ν) (n : String) : addressed r n = r.arm n := rfl

/-- an item selects the field its name addresses, and no other -/
theorem selects_eq_name {r : SStruct ν} (hwf : WF r) {n : String} {f : SField ν} (harm : r.arm n = some f)
    (it : NestedMeta) : selects r f it = (nameOf it == some n) := by
  cases it with
  | lit l => rfl
  | item m =>
      by_cases hn : m.path'.toStr = n
      · subst hn
        rw [selects_of_arm r m f harm]
        exact (beq_iff_eq.mpr rfl).symm
      · have hrhs : (nameOf (.item m) == some n) = false := by simp [nameOf, hn]
        rw [hrhs]
        cases hg : r.arm m.path'.toStr with
        | none => exact selects_none r m f hg
        | some g =>
            obtain ⟨hfm, _, _, hfn⟩ := SStruct.arm_some harm
            refine selects_other r hwf m g f hg hfm fun hfg => hn ?_
            rw [← hfn, hfg]
            exact (SStruct.arm_some hg).2.2.2.symm

theorem selects_eq_nameTest {r : SStruct ν} (hwf : WF r) {n : String} {f : SField ν} (harm : r.arm n = some f) :
    selects r f = fun it => nameOf it == some n :=
  funext (selects_eq_name hwf harm)

theorem any_selects {r : SStruct ν} (hwf : WF r) {n : String} {f : SField ν} (harm : r.arm n = some f)
    (items : List NestedMeta) : items.any (selects r f) = decide (occurrences items n > 0) := by
  rw [selects_eq_nameTest hwf harm]
  unfold occurrences
  induction items with
  | nil => rfl
  | cons it rest ih =>
      rw [List.any_cons, List.filter_cons, ih]
      cases (nameOf it == some n)
      · rfl
      · exact (decide_eq_true (Nat.succ_pos _)).symm

/-- the element index the library prints for an occurrence of a `multiple` field is the number of
    earlier items carrying that name -/
theorem occurrences_eq {r : SStruct ν} (hwf : WF r) {n : String} {f : SField ν} (harm : r.arm n = some f)
    (earlier : List NestedMeta) : Spec.C02.occurrences r f earlier = occurrences earlier n := by
  unfold Spec.C02.occurrences occurrences
  rw [selects_eq_nameTest hwf harm]

theorem tagOf_literal : tagOf (.unexpectedFormat "literal") = .bareLiteral := by decide
theorem tagOf_expression : tagOf (.unexpectedFormat "expression") = .bareLiteral := by decide

theorem single_faithful (k : Kind) (sp : Span) :
    Faithful [(Err.new k).withSpan sp] [(tagOf k, [])] :=
  Faithful.single (by rw [reported_withSpan, reported_new])

theorem itemMistakes_errOf {r : SStruct ν} {m : Meta} {f : SField ν} (harm : r.arm m.path'.toStr = some f)
    (earlier : List NestedMeta) :
    Spec.C02.itemMistakes r earlier (.item m) =
      if f.multiple then
        errOf (((f.conv m).mapErr (·.withSpan m.span)).mapErr
          (·.at (f.name ++ "[" ++ toString (Spec.C02.occurrences r f earlier) ++ "]")))
      else if earlier.any (selects r f) then [(Err.new (.duplicateField f.name)).withSpan m.span]
      else errOf (((f.conv m).mapErr (·.withSpan m.span)).mapErr (·.at f.name)) := by
  simp only [Spec.C02.itemMistakes, harm]
  cases f.conv m <;> rfl

theorem itemMistakes_addressed {r : SStruct ν} {m : Meta} {f : SField ν} (harm : r.arm m.path'.toStr = some f)
    (rd : SField ν → Reading) (earlier : List NestedMeta) :
    itemMistakes r rd earlier (.item m) =
      if f.multiple then
        ((rd f).item m).map (under (m.path'.toStr ++ "[" ++ toString (occurrences earlier m.path'.toStr) ++ "]"))
      else (if occurrences earlier m.path'.toStr > 0 then [(.repeatedName m.path'.toStr, [])] else [])
        ++ ((rd f).item m).map (under m.path'.toStr) := by
  simp only [itemMistakes, addressed_eq_arm, harm]

/-- one item: the model's contribution is the text's, unless D1 applies -/
theorem item_faithful (hd : Decl r rd) (earlier : List NestedMeta)
    (it : NestedMeta) (hok : ItemOk r rd earlier it) :
    Faithful (Spec.C02.itemMistakes r earlier it) (itemMistakes r rd earlier it) := by
  have hwf := hd.wf
  cases it with
  | lit l =>
      have := single_faithful (.unexpectedFormat "literal") l.span
      rw [tagOf_literal] at this
      exact this
  | item m =>
      cases harm : r.arm m.path'.toStr with
      | none =>
          simp only [Spec.C02.itemMistakes, itemMistakes, addressed_eq_arm, harm]
          cases r.hasFlatten || r.allowUnknown
          · exact single_faithful _ m.span
          · exact Faithful.nil
      | some f =>
          obtain ⟨hfm, _, _, hname⟩ := SStruct.arm_some harm
          obtain ⟨hD1, hfresh, hmulti⟩ := hok m rfl f harm
          rw [itemMistakes_errOf harm, itemMistakes_addressed harm, occurrences_eq hwf harm, any_selects hwf harm,
            hname]
          cases hmul : f.multiple with
          | true => exact Faithful.of_reports ((((hd.reads f hfm).item m (hmulti hmul)).withSpan m.span).at _)
          | false =>
              by_cases hocc : occurrences earlier m.path'.toStr > 0
              · rw [hD1 hmul hocc]
                simp only [hocc, decide_true, if_true, Bool.false_eq_true, if_false]
                exact single_faithful (.duplicateField m.path'.toStr) m.span
              · simp only [hocc, decide_false, Bool.false_eq_true, if_false, List.nil_append]
                exact Faithful.of_reports
                  ((((hd.reads f hfm).item m (hfresh hmul (Nat.eq_zero_of_not_pos hocc))).withSpan m.span).at _)

theorem walk_faithful (hd : Decl r rd) :
    ∀ (rest earlier : List NestedMeta), WalkOk r rd earlier rest →
      Faithful (loopMistakes r earlier rest) (walk r rd earlier rest)
  | [], _, _ => Faithful.nil
  | it :: rest, earlier, hok =>
      (item_faithful hd earlier it hok.1).append (walk_faithful hd rest (earlier ++ [it]) hok.2)

theorem buffered_eq_strangers {r : SStruct ν} (hfl : r.hasFlatten = true) (items : List NestedMeta) :
    Spec.C02.buffered r items = strangers r items := by
  unfold Spec.C02.buffered strangers
  rw [if_pos hfl]
  apply List.filter_congr
  intro it _
  cases it <;> rfl

/-- the model's flatten hand-off, as one conversion outcome -/
theorem flattenMistakes_errOf (r : SStruct ν) (items : List NestedMeta) (ff : SField ν)
    (hff : r.fields.find? (·.flatten) = some ff) :
    ∃ o : Outcome ν, Spec.C02.flattenMistakes r items = errOf o ∧
      (o = ff.fromList (strangers r items) ∨
        o = (ff.fromList (strangers r items)).mapErr
              (Suggest.addSiblingAlts r.thr (fun n => r.names.map (fun a => (a, r.score n a))))) := by
  unfold Spec.C02.flattenMistakes
  simp only [hff, Spec.C02.flattenResult, buffered_eq_strangers (SStruct.hasFlatten_of_find hff)]
  by_cases hn : r.names.isEmpty = true
  · simp only [hn, if_true]
    refine ⟨ff.fromList (strangers r items), ?_, .inl rfl⟩
    cases ff.fromList (strangers r items) <;> rfl
  · simp only [hn, Bool.false_eq_true, if_false]
    refine ⟨_, ?_, .inr rfl⟩
    cases ff.fromList (strangers r items) <;> rfl

theorem flatten_faithful (hd : Decl r rd) (items : List NestedMeta)
    (hok : ∀ ff, r.fields.find? (·.flatten) = some ff → (rd ff).okList (strangers r items)) :
    Faithful (Spec.C02.flattenMistakes r items) (flattenMistakes r rd items) := by
  cases hff : r.fields.find? (·.flatten) with
  | none => simp only [Spec.C02.flattenMistakes, flattenMistakes, hff]; exact Faithful.nil
  | some ff =>
      have hrep := (hd.reads ff (List.mem_of_find?_eq_some hff)).list (strangers r items) (hok ff hff)
      obtain ⟨o, ho, hcase⟩ := flattenMistakes_errOf r items ff hff
      rw [ho]
      simp only [flattenMistakes, hff]
      rcases hcase with rfl | rfl
      · exact Faithful.of_reports hrep
      · exact Faithful.of_reports (hrep.siblingAlts _ _)

theorem flatten_agree (hd : Decl r rd) (items : List NestedMeta) :
    Agree (Spec.C02.flattenMistakes r items) (flattenMistakes r rd items) := by
  cases hff : r.fields.find? (·.flatten) with
  | none => simp only [Spec.C02.flattenMistakes, flattenMistakes, hff]; exact Agree.nil
  | some ff =>
      have hv := (hd.reads ff (List.mem_of_find?_eq_some hff)).vList (strangers r items)
      obtain ⟨o, ho, hcase⟩ := flattenMistakes_errOf r items ff hff
      rw [ho]
      simp only [flattenMistakes, hff]
      rcases hcase with rfl | rfl
      · exact Agree.of_verdict hv
      · exact Agree.of_verdict (hv.mapErr _)

theorem isFirstFlatten_of_flatten (hd : Decl r rd) {f : SField ν}
    (hf : f ∈ r.fields) (hfl : f.flatten = true) : Spec.C02.isFirstFlatten r f = true := by
  unfold Spec.C02.isFirstFlatten
  cases hff : r.fields.find? (·.flatten) with
  | none =>
      have := List.find?_eq_none.mp hff f hf
      simp [hfl] at this
  | some ff =>
      have : ff = f := hd.oneFlatten ff (List.mem_of_find?_eq_some hff) f hf (by simpa using List.find?_some hff) hfl
      subst this; simp

/-- the presence check of the model and the text's "required and not supplied" agree field by field -/
theorem absent_cond (hd : Decl r rd) (items : List NestedMeta)
    {f : SField ν} (hf : f ∈ r.fields) :
    (!f.multiple && f.dflt.isNone && !(items.any (selects r f)) && !(Spec.C02.isFirstFlatten r f) && f.fromNone.isNone)
      = (required rd f && occurrences items f.name == 0) := by
  have hwf := hd.wf
  unfold required
  rw [← (hd.reads f hf).optional]
  cases hs : f.skip with
  | true =>
      -- a skipped field has a default: both sides are false
      have hdf : f.dflt.isNone = false := by
        cases hdf : f.dflt with
        | none => have := hd.skipDefault f hf hs; rw [hdf] at this; cases this
        | some d => rfl
      rw [hdf, Bool.and_false]; rfl
  | false =>
      cases hfl : f.flatten with
      | true =>
          -- the flatten member is supplied by the hand-off and is not a named item
          rw [isFirstFlatten_of_flatten hd hf hfl, Bool.not_true, Bool.and_false]; rfl
      | false =>
          have harm : r.arm f.name = some f := hd.names f hf hs hfl
          have hnot : Spec.C02.isFirstFlatten r f = false := by
            cases hb : Spec.C02.isFirstFlatten r f with
            | false => rfl
            | true => rw [first_flatten_is_flatten r hwf f hf hb] at hfl; cases hfl
          have hocc : (!decide (occurrences items f.name > 0)) = (occurrences items f.name == 0) := by
            cases occurrences items f.name <;> rfl
          rw [any_selects hwf harm items, hnot, hocc]
          simp only [Bool.not_false, Bool.true_and, Bool.and_true, Option.not_isSome]
          exact Bool.and_right_comm ..

theorem absent_faithful (hd : Decl r rd) (items : List NestedMeta) :
    Faithful (Spec.C02.missing r items) (absentMistakes r rd items) := by
  unfold Spec.C02.missing absentMistakes
  rw [← List.flatMap_ite_eq_filterMap, ← List.flatMap_ite_eq_filterMap]
  refine Faithful.flatMap _ (fun f hf => ?_)
  rw [absent_cond hd items hf]
  cases required rd f && occurrences items f.name == 0
  · exact Faithful.nil
  · exact Faithful.single (reported_new _)

theorem clean_accepted (hd : Decl r rd) (items : List NestedMeta)
    (hclean : Spec.C02.mistakes r items = []) : ∃ v, fromList r items = .ok v := by
  obtain ⟨kvs, hk⟩ := expected_eq_post r hd.wf hd.defaults items hclean
  rw [fromList_value r hd.wf hd.distinct items hclean, hk]
  exact hd.post _

theorem mistakes_faithful (hd : Decl r rd) (items : List NestedMeta)
    (hok : StructOk r rd items) : Faithful (Spec.C02.mistakes r items) (structMistakes r rd items) :=
  ((walk_faithful hd items [] hok.1).append (flatten_faithful hd items hok.2)).append (absent_faithful hd items)

/-! the verdict needs no side condition: D1 changes *which* leaves are returned, never whether
    parsing fails -/

theorem item_agree (hd : Decl r rd) (earlier : List NestedMeta)
    (it : NestedMeta) : Agree (Spec.C02.itemMistakes r earlier it) (itemMistakes r rd earlier it) := by
  have hwf := hd.wf
  cases it with
  | lit l => exact Agree.both (List.cons_ne_nil _ _) (List.cons_ne_nil _ _)
  | item m =>
      cases harm : r.arm m.path'.toStr with
      | none =>
          simp only [Spec.C02.itemMistakes, itemMistakes, addressed_eq_arm, harm]
          cases r.hasFlatten || r.allowUnknown
          · exact Agree.both (List.cons_ne_nil _ _) (List.cons_ne_nil _ _)
          · exact Agree.nil
      | some f =>
          have hv := (hd.reads f (SStruct.arm_some harm).1).vItem m
          rw [itemMistakes_errOf harm, itemMistakes_addressed harm, any_selects hwf harm]
          cases f.multiple with
          | true => exact Agree.of_verdict ((hv.mapErr _).under _ _)
          | false =>
              by_cases hocc : occurrences earlier m.path'.toStr > 0
              · simp only [hocc, decide_true, if_true, Bool.false_eq_true, if_false]
                exact Agree.both (List.cons_ne_nil _ _) (List.cons_ne_nil _ _)
              · simp only [hocc, decide_false, Bool.false_eq_true, if_false, List.nil_append]
                exact Agree.of_verdict ((hv.mapErr _).under _ _)

theorem walk_agree (hd : Decl r rd) :
    ∀ (rest earlier : List NestedMeta), Agree (loopMistakes r earlier rest) (walk r rd earlier rest)
  | [], _ => Agree.nil
  | it :: rest, earlier => (item_agree hd earlier it).append (walk_agree hd rest (earlier ++ [it]))

theorem mistakes_agree (hd : Decl r rd) (items : List NestedMeta) :
    Agree (Spec.C02.mistakes r items) (structMistakes r rd items) :=
  ((walk_agree hd items []).append (flatten_agree hd items)).append (absent_faithful hd items).agree

end structProofs

/-- **C02 for struct receivers, against the text** (conditional: `StructOk` excludes D1).
    For every declaration, every reading of its field types that the fields meet, and every item
    list: the generated parser succeeds exactly when the text sees no mistake, and otherwise
    returns an error whose leaves are, one for one and in order, the mistakes the text sees — each
    with its tag (naming the item) and its outer-to-inner path. -/
theorem struct_reports_partial {r : SStruct ν} {rd : SField ν → Reading} (hd : Decl r rd) (items : List NestedMeta)
    (hok : StructOk r rd items) : Reports (fromList r items) (structMistakes r rd items) := by
  have hf := mistakes_faithful hd items hok
  by_cases hm : Spec.C02.mistakes r items = []
  · obtain ⟨v, hv⟩ := clean_accepted hd items hm
    rw [hv]
    exact hf.nil_iff.mp hm
  · rw [fromList_reports_exactly_the_mistakes r hd.wf hd.distinct items hm]
    exact hf.bundle hm

/-- **C02, first sentence, struct receivers — no side condition on the input**: parsing fails if
    and only if the input contains at least one mistake (as the text reads it, at any depth the
    field readings reach), and otherwise succeeds; it never panics. -/
theorem struct_verdict {r : SStruct ν} {rd : SField ν → Reading} (hd : Decl r rd) (items : List NestedMeta) :
    Verdict (fromList r items) (structMistakes r rd items) := by
  have ha := mistakes_agree hd items
  by_cases hm : Spec.C02.mistakes r items = []
  · obtain ⟨v, hv⟩ := clean_accepted hd items hm
    rw [hv]
    exact ha.mp hm
  · rw [fromList_reports_exactly_the_mistakes r hd.wf hd.distinct items hm]
    exact ha.bundle hm

theorem struct_fails_iff {r : SStruct ν} {rd : SField ν → Reading} (hd : Decl r rd) (items : List NestedMeta) :
    ((∃ e, fromList r items = .err e) ↔ structMistakes r rd items ≠ [])
      ∧ ((∃ v, fromList r items = .ok v) ↔ structMistakes r rd items = []) :=
  ⟨(struct_verdict hd items).fails_iff, (struct_verdict hd items).ok_iff⟩

/-! ## 4. Enum receivers -/

/-- the variant a name selects: the first variant that is not skipped and goes by that name -/
def selectedVariant (e : SEnum ν) (n : String) : Option (SVariant ν) :=
  e.variants.find? (fun v => !v.skip && v.name == n)

/-- what is wrong with the item `m` that names variant `v`, relative to that item:
    a unit variant wants a bare name, a newtype variant whatever its inner type wants (`nt`), a
    struct variant a list of items for its fields (`sf`) -/
def variantContent (nt : SVariant ν → Reading) (sf : SVariant ν → SField ν → Reading)
    (v : SVariant ν) (m : Meta) : List Mistake :=
  match v.kind with
  | .unit _ => (match m with
      | .path _ => []
      | _ => [(.rejected, [])])
  | .newtype _ _ _ => (nt v).item m
  | .struct s => (match m with
      | .list _ items none _ _ _ => structMistakes s (sf v) items
      | _ => [(.rejected, [])])

/-- the mistakes in one item of the list given to an enum -/
def enumItem (e : SEnum ν) (nt : SVariant ν → Reading) (sf : SVariant ν → SField ν → Reading) :
    NestedMeta → List Mistake
  | .lit _ => [(.bareLiteral, [])]
  | .item m => match selectedVariant e m.path'.toStr with
      | none => [(.unknownName m.path'.toStr, [])]
      | some v => (variantContent nt sf v m).map (under v.name)

/-- **every mistake of an item list given to an enum receiver**: a wrong item count, and whatever
    is wrong with each item -/
def enumMistakes (e : SEnum ν) (nt : SVariant ν → Reading) (sf : SVariant ν → SField ν → Reading)
    (items : List NestedMeta) : List Mistake :=
  (if items.length = 1 then [] else [(.wrongCount, [])]) ++ items.flatMap (enumItem e nt sf)

/-- the variants behave as their readings say -/
structure EnumDecl (e : SEnum ν) (nt : SVariant ν → Reading) (sf : SVariant ν → SField ν → Reading) : Prop where
  vNewtype : ∀ v ∈ e.variants, ∀ fm fn wrap, v.kind = .newtype fm fn wrap → ∀ m, Verdict (fm m) ((nt v).item m)
  newtype : ∀ v ∈ e.variants, ∀ fm fn wrap, v.kind = .newtype fm fn wrap →
    ∀ m, (nt v).okItem m → Reports (fm m) ((nt v).item m)
  newtypeNone : ∀ v ∈ e.variants, ∀ fm fn wrap, v.kind = .newtype fm fn wrap → fn.isSome = (nt v).optional
  struct : ∀ v ∈ e.variants, ∀ s, v.kind = .struct s → Decl s (sf v)

/-- the item lists on which an enum receiver returns exactly `enumMistakes`:
    * (D2) when the count is wrong, nothing else is wrong with any item;
    * (D4) a unit variant is given as a bare name and a struct variant as a list `name(...)`
      (a list that does not parse is fine: that error is located under the variant's name);
    * (depth) the content of a newtype or struct variant avoids D1, D2, D4 inside -/
structure EnumOk (e : SEnum ν) (nt : SVariant ν → Reading) (sf : SVariant ν → SField ν → Reading)
    (items : List NestedMeta) : Prop where
  countOnly : items.length ≥ 2 → ∀ it ∈ items, enumItem e nt sf it = []
  formFits : ∀ m, items = [.item m] → ∀ v, selectedVariant e m.path'.toStr = some v →
    (∀ val, v.kind = .unit val → ∃ p, m = .path p) ∧
    (∀ fm fn wrap, v.kind = .newtype fm fn wrap → (nt v).okItem m) ∧
    (∀ s, v.kind = .struct s →
      (∃ p its bad ts tk sp, m = .list p its bad ts tk sp) ∧
      (∀ p its ts tk sp, m = .list p its none ts tk sp → StructOk s (sf v) its))

/-- the struct-variant arm is the struct parser, with the variant's name put in front of the paths -/
theorem variant_struct_eq {s : SStruct ν} {rd : SField ν → Reading} (hd : Decl s rd) (items : List NestedMeta)
    (l : String) :
    ∃ st0, coreLoop s {} items = .ok st0 ∧
      finishStruct s true (some l) st0 = (fromList s items).mapErr (·.at l) := by
  obtain ⟨st0, st1, h0, h1, herrs, _⟩ := before_check s hd.wf hd.distinct items
  refine ⟨st0, h0, ?_⟩
  cases hm : Spec.C02.mistakes s items with
  | nil =>
      obtain ⟨v, hv⟩ := clean_accepted hd items hm
      have hclean := finishStruct_clean (flattenHere := true) h1 (herrs.trans hm)
      rw [fromList_of_loop_ok h0, hclean none] at hv ⊢
      rw [hclean (some l), hv]
      rfl
  | cons x xs =>
      have herrs' := finishStruct_errs (flattenHere := true) h1 (herrs.trans hm)
      rw [fromList_of_loop_ok h0, herrs' none, herrs' (some l)]

theorem selectedVariant_eq_arm (e : SEnum ν) (n : String) : selectedVariant e n = e.arm n := rfl

theorem enum_unknown_reported (e : SEnum ν) (n : String) (sp : Span) :
    reported ((e.unknownErr n).withSpan sp) = [(.unknownName n, [])] := by
  rw [reported_withSpan]
  unfold SEnum.unknownErr
  split <;> exact reported_new _

/-- a wrong form, located under the variant's name -/
theorem wrongForm_reports {α : Type} (k : Kind) (hk : tagOf k = .rejected) (sp : Option Span) (l : String) :
    Reports (.err ((Err.leaf k [] sp).at l) : Outcome α) [(Tag.rejected, [l])] := by
  have h := (Reports.leaf (α := α) k [] sp).at l
  rw [hk] at h
  exact h

/-- **C02 for enum receivers, against the text** (conditional: `EnumOk` excludes D2, D4 and, inside a
    newtype or struct variant, D1, D2, D4) -/
theorem enum_reports_partial {e : SEnum ν} {nt : SVariant ν → Reading} {sf : SVariant ν → SField ν → Reading}
    (hd : EnumDecl e nt sf) (items : List NestedMeta) (hok : EnumOk e nt sf items) :
    Reports (enumFromList e items) (enumMistakes e nt sf items) := by
  match items, hok with
  | [], _ => exact ⟨List.cons_ne_nil _ _, reported_new _⟩
  | [.lit l], _ => exact ⟨List.cons_ne_nil _ _, (reported_new _).trans (congrArg (fun t => [(t, [])]) tagOf_literal)⟩
  | a :: b :: rest, hok =>
      have hall := hok.countOnly (by simp)
      have hflat : (a :: b :: rest).flatMap (enumItem e nt sf) = [] := by
        rw [List.flatMap_eq_nil_iff]; exact hall
      have hspec : enumMistakes e nt sf (a :: b :: rest) = [(.wrongCount, [])] := by
        simp [enumMistakes, hflat]
      rw [hspec]
      cases a <;> exact ⟨List.cons_ne_nil _ _, reported_new _⟩
  | [.item m], hok =>
      have hlen : enumMistakes e nt sf [.item m] = enumItem e nt sf (.item m) := by
        simp [enumMistakes]
      rw [hlen]
      simp only [enumFromList, enumItem, selectedVariant_eq_arm]
      cases harm : e.arm m.path'.toStr with
      | none => exact ⟨List.cons_ne_nil _ _, enum_unknown_reported e _ _⟩
      | some v =>
          have hv : v ∈ e.variants := List.mem_of_find?_eq_some harm
          obtain ⟨hunit, hnew, hstruct⟩ := hok.formFits m rfl v (by rw [selectedVariant_eq_arm]; exact harm)
          -- the span of the selecting item, attached on the way out, changes no leaf's kind or path
          refine Reports.withSpan ?_ m.span
          unfold dataArm variantContent
          dsimp only
          cases hk : v.kind with
          | unit val =>
              obtain ⟨p, rfl⟩ := hunit val hk
              simp [Reports]
          | newtype fm fn wrap =>
              exact ((hd.newtype v hv fm fn wrap hk m (hnew fm fn wrap hk)).at v.name).map wrap
          | struct s =>
              have hds := hd.struct v hv s hk
              obtain ⟨⟨p, its, bad, ts, tk, sp, rfl⟩, hso⟩ := hstruct s hk
              cases bad with
              | some b => exact wrongForm_reports _ rfl (some b.2) v.name
              | none =>
                  have hw := hso p its ts tk sp rfl
                  obtain ⟨st0, h0, hfin⟩ := variant_struct_eq hds its v.name
                  simp only [h0, hfin]
                  exact (struct_reports_partial hds its hw).at v.name

/-- **C02, first sentence, enum receivers — no side condition on the input** -/
theorem enum_verdict {e : SEnum ν} {nt : SVariant ν → Reading} {sf : SVariant ν → SField ν → Reading}
    (hd : EnumDecl e nt sf) (items : List NestedMeta) :
    Verdict (enumFromList e items) (enumMistakes e nt sf items) := by
  match items with
  | [] => exact List.cons_ne_nil _ _
  | [.lit l] => exact List.cons_ne_nil _ _
  | a :: b :: rest => cases a <;> exact List.cons_ne_nil _ _
  | [.item m] =>
      have hlen : enumMistakes e nt sf [.item m] = enumItem e nt sf (.item m) := by
        simp [enumMistakes]
      rw [hlen]
      simp only [enumFromList, enumItem, selectedVariant_eq_arm]
      cases harm : e.arm m.path'.toStr with
      | none => exact List.cons_ne_nil _ _
      | some v =>
          have hv : v ∈ e.variants := List.mem_of_find?_eq_some harm
          refine Verdict.mapErr ?_ (·.withSpan m.span)
          unfold dataArm variantContent
          dsimp only
          cases hk : v.kind with
          | unit val =>
              cases m with
              | path p => exact rfl
              | nameValue p ex tk sp => exact List.cons_ne_nil _ _
              | list p its bad ts tk sp => exact List.cons_ne_nil _ _
          | newtype fm fn wrap => exact ((hd.vNewtype v hv fm fn wrap hk m).under _ v.name).map wrap
          | struct s =>
              have hds := hd.struct v hv s hk
              cases m with
              | path p => exact List.cons_ne_nil _ _
              | nameValue p ex tk sp => exact List.cons_ne_nil _ _
              | list p its bad ts tk sp =>
                  cases bad with
                  | some b => exact List.cons_ne_nil _ _
                  | none =>
                      obtain ⟨st0, h0, hfin⟩ := variant_struct_eq hds its v.name
                      simp only [h0, hfin]
                      exact (struct_verdict hds its).under _ v.name

/-! ## 5. Keyed collections (map values) -/

/-- the key an item name stands for; `none`: the name cannot be a key of this kind -/
def keyText (k : Maps.KeyKind) (p : Path) : Option String :=
  match k with
  | .string => some p.toStr
  | .path => some p.toks
  | .ident => p.getIdent

/-- how a key is named in a message: a path-keyed collection shows the name as written -/
def shownKey (k : Maps.KeyKind) (p : Path) (key : String) : String :=
  match k with
  | .path => p.toStr
  | _ => key

/-- does an earlier item stand for the key `key`? -/
def keyTaken (k : Maps.KeyKind) (earlier : List NestedMeta) (key : String) : Bool :=
  earlier.any (fun it => match it with
    | .item m' => keyText k m'.path' == some key
    | .lit _ => false)

/-- the mistakes one entry contributes: a bare literal; a name that cannot be a key, or a key
    already taken; and — in every case — whatever is wrong inside its value, located at its name -/
def mapItem (k : Maps.KeyKind) (vr : Reading) (earlier : List NestedMeta) : NestedMeta → List Mistake
  | .lit _ => [(.bareLiteral, [])]
  | .item m =>
      (match keyText k m.path' with
       | none => [(.rejected, [])]
       | some key =>
           if keyTaken k earlier key
           then [(.repeatedName (shownKey k m.path' key), [])]
           else [])
        ++ (vr.item m).map (under m.path'.toStr)

def mapWalk (k : Maps.KeyKind) (vr : Reading) : List NestedMeta → List NestedMeta → List Mistake
  | _, [] => []
  | earlier, it :: rest => mapItem k vr earlier it ++ mapWalk k vr (earlier ++ [it]) rest

/-- **every mistake of an item list given to a keyed collection** -/
def mapMistakes (k : Maps.KeyKind) (vr : Reading) (items : List NestedMeta) : List Mistake :=
  mapWalk k vr [] items

/-- the entry values avoid D1, D2, D4 inside -/
def MapOk (vr : Reading) (items : List NestedMeta) : Prop := ∀ m, NestedMeta.item m ∈ items → vr.okItem m

section mapProofs
variable {α : Type}

theorem keyOf_text (k : Maps.KeyKind) (p : Path) :
    Maps.keyOf k p = (match keyText k p with
      | some s => .ok s
      | none => .error (.leaf (.custom "Key must be an identifier") [] (some p.span))) := by
  cases k with
  | string => rfl
  | path => rfl
  | ident => simp only [Maps.keyOf, keyText]; cases p.getIdent <;> rfl

theorem repeated_eq (k : Maps.KeyKind) (earlier : List NestedMeta) (key : String) :
    Spec.C14.repeated (Maps.keyOf k) earlier key = keyTaken k earlier key := by
  unfold Spec.C14.repeated keyTaken
  congr 1
  funext it
  cases it with
  | lit l => rfl
  | item m' =>
      simp only [Spec.C14.nameOf?, keyOf_text]
      cases keyText k m'.path' <;> simp

/-- the shape of the model's contribution for one entry: a key part and a value part -/
theorem mapItem_shape (k : Maps.KeyKind) (h : Hooks α) (earlier : List NestedMeta) (m : Meta)
    (hnp : ∀ msg, h.fromMeta m ≠ .panic msg) :
    Spec.C14.itemMistakes (Maps.keyOf k) (C14.dupErr k) (C14.conv h) earlier (.item m)
      = (match keyText k m.path' with
          | none => [Err.leaf (.custom "Key must be an identifier") [] (some m.path'.span)]
          | some key => if keyTaken k earlier key then [C14.dupErr k key m.path'] else [])
        ++ errOf ((h.fromMeta m).mapErr (·.at m.path'.toStr)) := by
  simp only [Spec.C14.itemMistakes, keyOf_text, C14.conv]
  cases ho : h.fromMeta m with
  | panic p => exact absurd ho (hnp p)
  | ok v =>
      cases keyText k m.path' with
      | none => rfl
      | some key => simp [repeated_eq, errOf, Outcome.mapErr]
  | err e =>
      cases keyText k m.path' with
      | none => rfl
      | some key => simp [repeated_eq, errOf, Outcome.mapErr]

theorem keyPart_faithful (k : Maps.KeyKind) (earlier : List NestedMeta) (m : Meta) :
    Faithful
      (match keyText k m.path' with
        | none => [Err.leaf (.custom "Key must be an identifier") [] (some m.path'.span)]
        | some key => if keyTaken k earlier key then [C14.dupErr k key m.path'] else [])
      (match keyText k m.path' with
        | none => [((Tag.rejected, []) : Mistake)]
        | some key => if keyTaken k earlier key then [(.repeatedName (shownKey k m.path' key), [])] else []) := by
  cases keyText k m.path' with
  | none => exact ⟨by simp [reportedAll, reported_leaf, tagOf], by simp [reported_leaf]⟩
  | some key =>
      simp only []
      cases keyTaken k earlier key with
      | false => exact Faithful.nil
      | true =>
          simp only [if_true]
          unfold C14.dupErr
          have := single_faithful (.duplicateField (Maps.keyDisplay k key m.path')) m.path'.span
          cases k <;> exact this

theorem mapItem_faithful (k : Maps.KeyKind) (h : Hooks α) (vr : Reading)
    (earlier : List NestedMeta) (it : NestedMeta)
    (hv : ∀ m, it = .item m → Reports (h.fromMeta m) (vr.item m)) :
    Faithful (Spec.C14.itemMistakes (Maps.keyOf k) (C14.dupErr k) (C14.conv h) earlier it)
      (mapItem k vr earlier it) := by
  cases it with
  | lit l =>
      exact ⟨by simp [Spec.C14.itemMistakes, mapItem, reportedAll, Err.unsupportedFormat, reported_new, tagOf_expression],
        by simp [Spec.C14.itemMistakes, Err.unsupportedFormat, reported_new]⟩
  | item m =>
      have hrep := hv m rfl
      rw [mapItem_shape k h earlier m (fun msg => hrep.not_panic msg)]
      exact (keyPart_faithful k earlier m).append (Faithful.of_reports (hrep.at _))

theorem mapItem_agree (k : Maps.KeyKind) (h : Hooks α) (vr : Reading)
    (hv : ∀ m, Verdict (h.fromMeta m) (vr.item m)) (earlier : List NestedMeta) (it : NestedMeta) :
    Agree (Spec.C14.itemMistakes (Maps.keyOf k) (C14.dupErr k) (C14.conv h) earlier it)
      (mapItem k vr earlier it) := by
  cases it with
  | lit l => simp [Agree, Spec.C14.itemMistakes, mapItem]
  | item m =>
      rw [mapItem_shape k h earlier m (fun msg => (hv m).not_panic msg)]
      exact (keyPart_faithful k earlier m).agree.append (Agree.of_verdict ((hv m).under _ _))

theorem mapWalk_faithful (k : Maps.KeyKind) (h : Hooks α) (vr : Reading) :
    ∀ (rest earlier : List NestedMeta), (∀ m, NestedMeta.item m ∈ rest → Reports (h.fromMeta m) (vr.item m)) →
      Faithful (Spec.C14.mistakes (Maps.keyOf k) (C14.dupErr k) (C14.conv h) earlier rest) (mapWalk k vr earlier rest)
  | [], _, _ => Faithful.nil
  | it :: rest, earlier, hv =>
      (mapItem_faithful k h vr earlier it (fun m hm => hv m (by simp [hm]))).append
        (mapWalk_faithful k h vr rest (earlier ++ [it]) (fun m hm => hv m (by simp [hm])))

theorem mapWalk_agree (k : Maps.KeyKind) (h : Hooks α) (vr : Reading)
    (hv : ∀ m, Verdict (h.fromMeta m) (vr.item m)) :
    ∀ (rest earlier : List NestedMeta),
      Agree (Spec.C14.mistakes (Maps.keyOf k) (C14.dupErr k) (C14.conv h) earlier rest) (mapWalk k vr earlier rest)
  | [], _ => Agree.nil
  | it :: rest, earlier =>
      (mapItem_agree k h vr hv earlier it).append (mapWalk_agree k h vr hv rest (earlier ++ [it]))

end mapProofs

/-- **C02 for keyed collections, against the text**: nothing of the collection's own needs a side
    condition — a repeated key does *not* hide what is wrong inside its value (contrast D1); `MapOk`
    only passes the depth condition on to the values -/
theorem map_reports {α : Type} (k : Maps.KeyKind) (h : Hooks α) (vr : Reading)
    (hvv : ∀ m, Verdict (h.fromMeta m) (vr.item m))
    (hv : ∀ m, vr.okItem m → Reports (h.fromMeta m) (vr.item m)) (items : List NestedMeta) (hok : MapOk vr items) :
    Reports (Maps.fromList k h items) (mapMistakes k vr items) := by
  have hf := mapWalk_faithful k h vr items [] (fun m hm => hv m (hok m hm))
  rw [C14.fromList_spec k h (fun m msg => (hvv m).not_panic msg) items]
  simp only []
  by_cases hm : Spec.C14.mistakes (Maps.keyOf k) (C14.dupErr k) (C14.conv h) [] items = []
  · rw [hm]
    exact hf.nil_iff.mp hm
  · rw [List.isEmpty_eq_false_iff.2 hm]
    exact hf.bundle hm

theorem map_verdict {α : Type} (k : Maps.KeyKind) (h : Hooks α) (vr : Reading)
    (hvv : ∀ m, Verdict (h.fromMeta m) (vr.item m)) (items : List NestedMeta) :
    Verdict (Maps.fromList k h items) (mapMistakes k vr items) := by
  have ha := mapWalk_agree k h vr hvv items []
  rw [C14.fromList_spec k h (fun m msg => (hvv m).not_panic msg) items]
  simp only []
  by_cases hm : Spec.C14.mistakes (Maps.keyOf k) (C14.dupErr k) (C14.conv h) [] items = []
  · rw [hm]
    exact ha.mp hm
  · rw [List.isEmpty_eq_false_iff.2 hm]
    exact ha.bundle hm

/-! ## 6. Nesting: receivers as field types, to any depth -/

/-- a `FromMeta` implementation behaves as a reading says (`FieldReads` says the same of a field, whose
    three functions need not come from one `Hooks`; `Tied` says when they do) -/
structure Meets (h : Hooks ν) (t : Reading) : Prop where
  vItem : ∀ m, Verdict (h.fromMeta m) (t.item m)
  vList : ∀ items, Verdict (h.fromList items) (t.list items)
  item : ∀ m, t.okItem m → Reports (h.fromMeta m) (t.item m)
  list : ∀ items, t.okList items → Reports (h.fromList items) (t.list items)
  optional : h.fromNone.isSome = t.optional

/-- the field's converter, flatten hand-off and value-for-absent are those of its type -/
def Tied (f : SField ν) (h : Hooks ν) : Prop :=
  f.conv = h.fromMeta ∧ f.fromList = h.fromList ∧ f.fromNone = h.fromNone

theorem FieldReads.of_meets {f : SField ν} {h : Hooks ν} {t : Reading} (hm : Meets h t) (ht : Tied f h) :
    FieldReads f t := by
  obtain ⟨hc, hl, hn⟩ := ht
  exact ⟨by rw [hc]; exact hm.vItem, by rw [hl]; exact hm.vList, by rw [hc]; exact hm.item,
    by rw [hl]; exact hm.list, by rw [hn]; exact hm.optional⟩

/-! ### the three forms of an item (`name`, `name(...)`, `name = value`) -/

/-- how an item reaches a type that reads item lists: by its form -/
def routed (word : List Mistake) (list : List NestedMeta → List Mistake) (value : Expr → List Mistake) :
    Meta → List Mistake
  | .path _ => word
  | .list _ items none _ _ _ => list items
  | .list _ _ (some _) _ _ _ => [(.rejected, [])]      -- the list itself does not parse
  | .nameValue _ e _ _ => value e

def okRouted (okList : List NestedMeta → Prop) : Meta → Prop
  | .list _ items none _ _ _ => okList items
  | _ => True

section routing
variable {α : Type}

theorem tagOf_format_other (f : String) (h1 : f ≠ "literal") (h2 : f ≠ "expression") :
    tagOf (.unexpectedFormat f) = .rejected := by
  simp [tagOf, h1, h2]

theorem routed_verdict (h : Hooks α) (hm : h.fromMeta? = none) {word : List Mistake}
    {list : List NestedMeta → List Mistake} {value : Expr → List Mistake}
    (hw : Verdict h.fromWord word) (hl : ∀ items, Verdict (h.fromList items) (list items))
    (he : ∀ e, Verdict (h.fromExpr e) (value e)) :
    ∀ m, Verdict (h.fromMeta m) (routed word list value m) := by
  intro m
  simp only [Hooks.fromMeta, hm]
  cases m with
  | path p => exact hw.mapErr _
  | nameValue p e tk sp => exact (he e).mapErr _
  | list p items bad ts tk sp =>
      cases bad with
      | none => exact (hl items).mapErr _
      | some b => simp [Hooks.fromMetaD, routed, Verdict]

theorem routed_reports (h : Hooks α) (hm : h.fromMeta? = none) {word : List Mistake}
    {list : List NestedMeta → List Mistake} {value : Expr → List Mistake} {okList : List NestedMeta → Prop}
    (hw : Reports h.fromWord word) (hl : ∀ items, okList items → Reports (h.fromList items) (list items))
    (he : ∀ e, Reports (h.fromExpr e) (value e)) :
    ∀ m, okRouted okList m → Reports (h.fromMeta m) (routed word list value m) := by
  intro m hok
  simp only [Hooks.fromMeta, hm]
  cases m with
  | path p => exact hw.withSpan _
  | nameValue p e tk sp => exact (he e).withSpan _
  | list p items bad ts tk sp =>
      cases bad with
      | none => exact (hl items hok).withSpan _
      | some b => exact Reports.leaf _ _ _

/-- a type without hooks for literals and expressions -/
structure NoValueHooks (h : Hooks α) : Prop where
  e : h.fromExpr? = none
  v : h.fromValue? = none
  s : h.fromString? = none
  b : h.fromBool? = none
  c : h.fromChar? = none

theorem newErr_rejected (k : Kind) (hk : tagOf k = .rejected) :
    Reports (.err (Err.new k) : Outcome α) [(.rejected, [])] := by
  have := Reports.leaf (α := α) k [] none
  rw [hk] at this
  exact this

theorem fromValueD_reports (h : Hooks α) (hb : h.fromBool? = none) (hc : h.fromChar? = none)
    {str : String → List Mistake} (hs : ∀ s, Reports (h.fromString s) (str s)) (l : Lit) :
    Reports (h.fromValueD l) (match l.v with
      | .str s => str s
      | _ => [(.rejected, [])]) := by
  unfold Hooks.fromValueD
  apply Reports.withSpan
  cases l.v with
  | str s => exact hs s
  | bool b => simp only [Hooks.fromBool, hb]; exact newErr_rejected _ rfl
  | char c => simp only [Hooks.fromChar, hc]; exact newErr_rejected _ rfl
  | _ => exact Reports.leaf _ _ _

theorem fromValueD_rejected (h : Hooks α) (hn : NoValueHooks h) (l : Lit) :
    Reports (h.fromValueD l) [(.rejected, [])] := by
  have hs : ∀ s, Reports (h.fromString s) [(.rejected, [])] := fun s => by
    simp only [Hooks.fromString, hn.s]; exact newErr_rejected _ rfl
  have := fromValueD_reports h hn.b hn.c hs l
  cases hv : l.v <;> rw [hv] at this <;> exact this

theorem fromExprD_rejected (h : Hooks α) (hn : NoValueHooks h) :
    ∀ e, Reports (h.fromExprD e) [(.rejected, [])]
  | .lit l => by
      simp only [Hooks.fromExprD, Hooks.fromValue, hn.v]
      exact (fromValueD_rejected h hn l).withSpan _
  | .group g sp => by
      simp only [Hooks.fromExprD]
      exact (fromExprD_rejected h hn g).withSpan _
  | .path p sp => by simp only [Hooks.fromExprD]; exact (Reports.leaf _ _ _).withSpan _
  | .qpath p t sp => by simp only [Hooks.fromExprD]; exact (Reports.leaf _ _ _).withSpan _
  | .array es t sp => by simp only [Hooks.fromExprD]; exact (Reports.leaf _ _ _).withSpan _
  | .other k t sp => by simp only [Hooks.fromExprD]; exact (Reports.leaf _ _ _).withSpan _

theorem fromExpr_rejected (h : Hooks α) (hn : NoValueHooks h) (e : Expr) :
    Reports (h.fromExpr e) [(.rejected, [])] := by
  simp only [Hooks.fromExpr, hn.e]
  exact fromExprD_rejected h hn e

theorem fromList_default_rejected (h : Hooks α) (hl : h.fromList? = none) (items : List NestedMeta) :
    Reports (h.fromList items) [(.rejected, [])] := by
  simp only [Hooks.fromList, hl]
  exact newErr_rejected _ (by decide)

theorem fromWord_default_rejected (h : Hooks α) (hw : h.fromWord? = none) :
    Reports h.fromWord [(.rejected, [])] := by
  simp only [Hooks.fromWord, hw]
  exact newErr_rejected _ (by decide)

end routing

def wordMistakes (wordOk : Bool) : List Mistake := if wordOk then [] else [(.rejected, [])]

/-- a derived struct receiver used as a type: a list form is read field by field; the bare name is
    fine only with a `from_word`; `name = value` is rejected -/
def structReading (r : SStruct ν) (rd : SField ν → Reading) (wordOk optional : Bool) : Reading where
  item := routed (wordMistakes wordOk) (structMistakes r rd) (fun _ => [(.rejected, [])])
  list := structMistakes r rd
  optional := optional
  okItem := okRouted (StructOk r rd)
  okList := StructOk r rd

theorem word_reports {α : Type} (h : Hooks α) (fw : Option α) (hw : h.fromWord? = fw.map .ok) :
    Reports h.fromWord (wordMistakes fw.isSome) := by
  cases fw with
  | none => exact fromWord_default_rejected h hw
  | some v => simp only [Hooks.fromWord, hw]; rfl

theorem struct_meets {r : SStruct ν} {rd : SField ν → Reading} (hd : Decl r rd) (fw fn : Option ν) :
    Meets (structHooks (.named r) (fw.map .ok) fn) (structReading r rd fw.isSome fn.isSome) := by
  have hnv : NoValueHooks (structHooks (.named r) (fw.map .ok) fn) := ⟨rfl, rfl, rfl, rfl, rfl⟩
  have hw := word_reports (structHooks (.named r) (fw.map .ok) fn) fw rfl
  refine ⟨?_, fun items => struct_verdict hd items, ?_, fun items hok => struct_reports_partial hd items hok, rfl⟩
  · exact routed_verdict _ rfl hw.verdict (fun items => struct_verdict hd items)
      (fun e => (fromExpr_rejected _ hnv e).verdict)
  · exact routed_reports _ rfl hw (fun items hok => struct_reports_partial hd items hok)
      (fun e => fromExpr_rejected _ hnv e)

/-- `name = "variant"`: a string naming a unit variant (or a newtype variant whose inner type has a
    value for "absent") is fine; one naming a variant that needs data is a bare literal where a
    named item is required; any other string is rejected -/
def enumString (e : SEnum ν) (nt : SVariant ν → Reading) (s : String) : List Mistake :=
  match selectedVariant e s with
  | none => [(.rejected, [])]
  | some v => (match v.kind with
      | .unit _ => []
      | .newtype _ _ _ => if (nt v).optional then [] else [(.bareLiteral, [])]
      | .struct _ => [(.bareLiteral, [])])

def enumValue (e : SEnum ν) (nt : SVariant ν → Reading) : Expr → List Mistake
  | .lit l => (match l.v with
      | .str s => enumString e nt s
      | _ => [(.rejected, [])])
  | .group g _ => enumValue e nt g
  | _ => [(.rejected, [])]

def enumReading (e : SEnum ν) (nt : SVariant ν → Reading) (sf : SVariant ν → SField ν → Reading) : Reading where
  item := routed (wordMistakes e.fromWord.isSome) (enumMistakes e nt sf) (enumValue e nt)
  list := enumMistakes e nt sf
  optional := e.fromNone.isSome
  okItem := okRouted (EnumOk e nt sf)
  okList := EnumOk e nt sf

theorem enumString_reports {e : SEnum ν} {nt : SVariant ν → Reading} {sf : SVariant ν → SField ν → Reading}
    (hd : EnumDecl e nt sf) (s : String) : Reports (enumFromString e s) (enumString e nt s) := by
  simp only [enumFromString, enumString, selectedVariant_eq_arm]
  cases harm : e.arm s with
  | none => exact newErr_rejected _ rfl
  | some v =>
      have hv : v ∈ e.variants := List.mem_of_find?_eq_some harm
      simp only []
      cases hk : v.kind with
      | unit val => rfl
      | struct st =>
          have := Reports.leaf (α := ν) (.unexpectedFormat "literal") [] none
          rw [tagOf_literal] at this
          exact this
      | newtype fm fn wrap =>
          have hopt := hd.newtypeNone v hv fm fn wrap hk
          simp only [← hopt]
          cases fn with
          | some x => rfl
          | none =>
              have := Reports.leaf (α := ν) (.unexpectedFormat "literal") [] none
              rw [tagOf_literal] at this
              exact this

theorem enumValue_reports {e : SEnum ν} {nt : SVariant ν → Reading} {sf : SVariant ν → SField ν → Reading}
    (hd : EnumDecl e nt sf) : ∀ ex, Reports ((enumHooks e).fromExprD ex) (enumValue e nt ex)
  | .lit l => by
      simp only [Hooks.fromExprD, Hooks.fromValue, enumHooks, enumValue]
      exact (fromValueD_reports (enumHooks e) rfl rfl (str := enumString e nt) (fun s => enumString_reports hd s) l).withSpan _
  | .group g sp => by
      simp only [Hooks.fromExprD, enumValue]
      exact (enumValue_reports hd g).withSpan _
  | .path p sp => by simp only [Hooks.fromExprD, enumValue]; exact (Reports.leaf _ _ _).withSpan _
  | .qpath p t sp => by simp only [Hooks.fromExprD, enumValue]; exact (Reports.leaf _ _ _).withSpan _
  | .array es t sp => by simp only [Hooks.fromExprD, enumValue]; exact (Reports.leaf _ _ _).withSpan _
  | .other k t sp => by simp only [Hooks.fromExprD, enumValue]; exact (Reports.leaf _ _ _).withSpan _

/-- a `from_word` override of an enum, when present, succeeds -/
def WordOk (e : SEnum ν) : Prop := ∀ o, e.fromWord = some o → ∃ v, o = .ok v

theorem enum_meets {e : SEnum ν} {nt : SVariant ν → Reading} {sf : SVariant ν → SField ν → Reading}
    (hd : EnumDecl e nt sf) (hword : WordOk e) : Meets (enumHooks e) (enumReading e nt sf) := by
  have hw : Reports (enumHooks e).fromWord (wordMistakes e.fromWord.isSome) := by
    cases hfw : e.fromWord with
    | none => exact fromWord_default_rejected _ hfw
    | some o =>
        obtain ⟨v, rfl⟩ := hword o hfw
        simp only [Hooks.fromWord, enumHooks, hfw]
        rfl
  have hexpr : ∀ ex, Reports ((enumHooks e).fromExpr ex) (enumValue e nt ex) := fun ex => enumValue_reports hd ex
  refine ⟨?_, fun items => enum_verdict hd items, ?_, fun items hok => enum_reports_partial hd items hok, rfl⟩
  · exact routed_verdict _ rfl hw.verdict (fun items => enum_verdict hd items) (fun ex => (hexpr ex).verdict)
  · exact routed_reports _ rfl hw (fun items hok => enum_reports_partial hd items hok) hexpr

def mapReading (k : Maps.KeyKind) (vr : Reading) : Reading where
  item := routed [(.rejected, [])] (mapMistakes k vr) (fun _ => [(.rejected, [])])
  list := mapMistakes k vr
  optional := false
  okItem := okRouted (MapOk vr)
  okList := MapOk vr

theorem map_meets {h : Hooks ν} {vr : Reading} (hm : Meets h vr) (k : Maps.KeyKind) (inj : List (String × ν) → ν) :
    Meets (Maps.mapHooks k inj h) (mapReading k vr) := by
  have hnv : NoValueHooks (Maps.mapHooks k inj h) := ⟨rfl, rfl, rfl, rfl, rfl⟩
  have hw := fromWord_default_rejected (Maps.mapHooks k inj h) rfl
  have hv : ∀ items, Verdict ((Maps.mapHooks k inj h).fromList items) (mapMistakes k vr items) :=
    fun items => (map_verdict k h vr hm.vItem items).map inj
  have hr : ∀ items, MapOk vr items → Reports ((Maps.mapHooks k inj h).fromList items) (mapMistakes k vr items) :=
    fun items hok => (map_reports k h vr hm.vItem hm.item items hok).map inj
  refine ⟨?_, hv, ?_, hr, rfl⟩
  · exact routed_verdict _ rfl hw.verdict hv (fun e => (fromExpr_rejected _ hnv e).verdict)
  · exact routed_reports _ rfl hw hr (fun e => fromExpr_rejected _ hnv e)

/-- `Option<T>`: reads an item as `T` does, and may be absent -/
def optionReading (t : Reading) : Reading where
  item := t.item
  list := fun _ => [(.rejected, [])]
  optional := true
  okItem := t.okItem
  okList := fun _ => True

theorem option_meets {h : Hooks ν} {t : Reading} (hm : Meets h t) (some' : ν → ν) (none' : ν) :
    Meets (Wrappers.optionOf some' none' h) (optionReading t) := by
  have hl := fromList_default_rejected (Wrappers.optionOf some' none' h) rfl
  exact ⟨fun m => (hm.vItem m).map some', fun items => (hl items).verdict,
    fun m hok => (hm.item m hok).map some', fun items _ => hl items, rfl⟩

/-- the receivers that can be assembled from leaf types by `Option`, keyed collections, derived
    structs (fields of any built type, any options) and derived enums (unit, newtype and struct
    variants over built types): each comes with its reading -/
inductive Built : Hooks ν → Reading → Prop
  | base {h : Hooks ν} {t : Reading} : Meets h t → Built h t
  | option {h : Hooks ν} {t : Reading} (some' : ν → ν) (none' : ν) :
      Built h t → Built (Wrappers.optionOf some' none' h) (optionReading t)
  | map {h : Hooks ν} {t : Reading} (k : Maps.KeyKind) (inj : List (String × ν) → ν) :
      Built h t → Built (Maps.mapHooks k inj h) (mapReading k t)
  | struct (r : SStruct ν) (rd : SField ν → Reading) (fh : SField ν → Hooks ν) (fw fn : Option ν) :
      Shape r → (∀ f ∈ r.fields, Tied f (fh f)) → (∀ f ∈ r.fields, Built (fh f) (rd f)) →
      Built (structHooks (.named r) (fw.map .ok) fn) (structReading r rd fw.isSome fn.isSome)
  | enum (e : SEnum ν) (nt : SVariant ν → Reading) (sf : SVariant ν → SField ν → Reading)
      (vh : SVariant ν → Hooks ν) (vfh : SVariant ν → SField ν → Hooks ν) :
      WordOk e →
      (∀ v ∈ e.variants, ∀ fm fn wrap, v.kind = .newtype fm fn wrap →
        fm = (vh v).fromMeta ∧ fn = (vh v).fromNone) →
      (∀ v ∈ e.variants, ∀ fm fn wrap, v.kind = .newtype fm fn wrap → Built (vh v) (nt v)) →
      (∀ v ∈ e.variants, ∀ s, v.kind = .struct s → Shape s ∧ ∀ f ∈ s.fields, Tied f (vfh v f)) →
      (∀ v ∈ e.variants, ∀ s, v.kind = .struct s → ∀ f ∈ s.fields, Built (vfh v f) (sf v f)) →
      Built (enumHooks e) (enumReading e nt sf)

theorem Built.meets {h : Hooks ν} {t : Reading} (hb : Built h t) : Meets h t := by
  induction hb with
  | base hm => exact hm
  | option some' none' _ ih => exact option_meets ih some' none'
  | map k inj _ ih => exact map_meets ih k inj
  | struct r rd fh fw fn hshape htied _ ih =>
      exact struct_meets ⟨hshape, fun f hf => FieldReads.of_meets (ih f hf) (htied f hf)⟩ fw fn
  | enum e nt sf vh vfh hword hnt _ hst _ ihn ihs =>
      refine enum_meets ⟨?_, ?_, ?_, ?_⟩ hword
      · intro v hv fm fn wrap hk m
        obtain ⟨hfm, _⟩ := hnt v hv fm fn wrap hk
        rw [hfm]; exact (ihn v hv fm fn wrap hk).vItem m
      · intro v hv fm fn wrap hk m hok
        obtain ⟨hfm, _⟩ := hnt v hv fm fn wrap hk
        rw [hfm]; exact (ihn v hv fm fn wrap hk).item m hok
      · intro v hv fm fn wrap hk
        obtain ⟨_, hfn⟩ := hnt v hv fm fn wrap hk
        rw [hfn]; exact (ihn v hv fm fn wrap hk).optional
      · intro v hv s hk
        obtain ⟨hshape, htied⟩ := hst v hv s hk
        exact ⟨hshape, fun f hf => FieldReads.of_meets (ihs v hv s hk f hf) (htied f hf)⟩

/-- **C02 at any nesting depth, first sentence — no side condition on the input.**  For every built
    receiver and every item list: parsing fails if and only if the text sees a mistake somewhere
    (nested receivers, enum variants, map values included); it never panics. -/
theorem deep_verdict {h : Hooks ν} {t : Reading} (hb : Built h t) (items : List NestedMeta) :
    Verdict (h.fromList items) (t.list items) := hb.meets.vList items

theorem deep_fails_iff {h : Hooks ν} {t : Reading} (hb : Built h t) (items : List NestedMeta) :
    ((∃ e, h.fromList items = .err e) ↔ t.list items ≠ []) ∧ ((∃ v, h.fromList items = .ok v) ↔ t.list items = []) :=
  ⟨(deep_verdict hb items).fails_iff, (deep_verdict hb items).ok_iff⟩

/-- **C02 at any nesting depth, second sentence (conditional).**  On the inputs that avoid D1, D2, D4 at
    every depth (`t.okList`), the leaves of the returned error are, one for one and in order, the
    mistakes the text sees, each with its tag and its outer-to-inner path. -/
theorem deep_reports_partial {h : Hooks ν} {t : Reading} (hb : Built h t) (items : List NestedMeta)
    (hok : t.okList items) : Reports (h.fromList items) (t.list items) := hb.meets.list items hok

/-- the same for a receiver reached as the value of an item, in any of the three forms -/
theorem deep_item_verdict {h : Hooks ν} {t : Reading} (hb : Built h t) (m : Meta) :
    Verdict (h.fromMeta m) (t.item m) := hb.meets.vItem m

theorem deep_item_reports_partial {h : Hooks ν} {t : Reading} (hb : Built h t) (m : Meta) (hok : t.okItem m) :
    Reports (h.fromMeta m) (t.item m) := hb.meets.item m hok

/-! ## 7. Element-level receivers: the attribute layer first, the body layer only when it is clean

  `C08.walk_is_one_list` reduces the attribute walk of an element-level receiver to the struct
  parser's item loop over one item list (the subject of section 3).  What remains of the clause
  "the mistakes in the attribute layer, or, when that layer is clean, in the body layer" is the
  control flow after the walk, stated here for the model's `finishOuter`. -/

section layers

/-- the accumulator when `check_errors` is reached: the attribute walk's errors (`st`), the shape
    verdict, the flatten hand-off, the presence check; `none`: a converter panicked -/
def attrLayer (r : SOuter ν) (st : PState ν) (validate : Outcome Unit) : Option (List Err) :=
  match validate with
  | .panic _ => none
  | .err e => (match flattenInit r.fields (st.push e) with
      | .ok s => some (checkMissing r.fields.fields s).errs
      | .error _ => none)
  | .ok _ => (match flattenInit r.fields st with
      | .ok s => some (checkMissing r.fields.fields s).errs
      | .error _ => none)

theorem finishOuter_of_attrLayer (r : SOuter ν) (st : PState ν) (attrsVal : Option ν) (validate : Outcome Unit)
    (late : List (String × Outcome ν)) (early : List (String × ν)) (build : List (String × ν) → ν)
    (errs : List Err) (h : attrLayer r st validate = some errs) :
    ∃ st' : PState ν, st'.errs = errs ∧ finishOuter r st attrsVal validate late early build =
      (match st'.errs with
       | _ :: _ => Err.bundleErr st'.errs
       | [] => assemble r st' attrsVal late early build) := by
  have checked : ∀ st0 : PState ν,
      (match flattenInit r.fields st0 with
        | .ok s => some (checkMissing r.fields.fields s).errs
        | .error _ => none) = some errs →
      ∃ st' : PState ν, st'.errs = errs ∧ finishChecked r st0 attrsVal late early build =
        (match st'.errs with
         | _ :: _ => Err.bundleErr st'.errs
         | [] => assemble r st' attrsVal late early build) := by
    intro st0 h0
    unfold finishChecked
    cases hf : flattenInit r.fields st0 with
    | error m => rw [hf] at h0; cases h0
    | ok s => rw [hf] at h0; exact ⟨_, Option.some.inj h0, rfl⟩
  cases validate with
  | panic m => cases h
  | err e => exact checked (st.push e) h
  | ok u => exact checked st h

/-- when the attribute layer holds a mistake, exactly its errors are returned, whatever the body
    (`late`) would have said -/
theorem outer_attr_layer_first (r : SOuter ν) (st : PState ν) (attrsVal : Option ν) (validate : Outcome Unit)
    (late : List (String × Outcome ν)) (early : List (String × ν)) (build : List (String × ν) → ν)
    (errs : List Err) (h : attrLayer r st validate = some errs) (hne : errs ≠ []) :
    finishOuter r st attrsVal validate late early build = Err.bundleErr errs := by
  obtain ⟨st', he, hfin⟩ := finishOuter_of_attrLayer r st attrsVal validate late early build errs h
  rw [hfin, he]
  cases errs with
  | nil => exact absurd rfl hne
  | cons x xs => rfl

/-- when the attribute layer is clean, the outcome is that of the struct literal, whose `?`-chained
    members are the body layer -/
theorem outer_body_layer (r : SOuter ν) (st : PState ν) (attrsVal : Option ν) (validate : Outcome Unit)
    (late : List (String × Outcome ν)) (early : List (String × ν)) (build : List (String × ν) → ν)
    (h : attrLayer r st validate = some []) :
    ∃ st', finishOuter r st attrsVal validate late early build = assemble r st' attrsVal late early build := by
  obtain ⟨st', he, hfin⟩ := finishOuter_of_attrLayer r st attrsVal validate late early build [] h
  exact ⟨st', by rw [hfin, he]⟩

/-- the body layer stops at its first failing member: what follows it is never looked at
    (generics before the body; recorded as F11 in /verif for type parameters) -/
theorem lateValues_first (k : String) (e : Err) (rest rest' : List (String × Outcome ν)) :
    lateValues ((k, .err e) :: rest) = lateValues ((k, .err e) :: rest') := rfl

end layers

/-! ## 8. Non-vacuity, and the discrepancies as concrete inputs -/

namespace Ex

def sp0 : Span := ⟨0, 0⟩
def pth (s : String) : Path := { global := false, segs := [s], plain := true, toks := s, span := sp0 }
/-- `n = 1` -/
def good (n : String) : NestedMeta := .item (.nameValue (pth n) (.lit ⟨.int "1" "", "1", sp0⟩) "" sp0)
/-- `n = "bad"` -/
def bad (n : String) : NestedMeta := .item (.nameValue (pth n) (.lit ⟨.str "bad", "\"bad\"", sp0⟩) "" sp0)
/-- `n(items)` -/
def lst (n : String) (items : List NestedMeta) : NestedMeta := .item (.list (pth n) items none none "" sp0)
/-- `n` -/
def word (n : String) : NestedMeta := .item (.path (pth n))

/-- a `u8`-like leaf type: accepts `name = <integer literal>`, rejects everything else with one leaf -/
def accepts : Meta → Bool
  | .nameValue _ (.lit ⟨.int _ _, _, _⟩) _ _ => true
  | _ => false

def u8 : Hooks Nat :=
  { fromMeta? := some (fun m => if accepts m then .ok 1 else .err (Err.new (.unknownValue "bad"))) }

def u8R : Reading where
  item := fun m => if accepts m then [] else [(.rejected, [])]
  list := fun _ => [(.rejected, [])]
  optional := false
  okItem := fun _ => True
  okList := fun _ => True

theorem u8_item (m : Meta) : Reports (u8.fromMeta m) (u8R.item m) := by
  simp only [Hooks.fromMeta, u8, u8R]
  cases accepts m with
  | true => rfl
  | false => exact newErr_rejected _ rfl

theorem u8_meets : Meets u8 u8R :=
  ⟨fun m => (u8_item m).verdict, fun items => (fromList_default_rejected u8 rfl items).verdict,
   fun m _ => u8_item m, fun items _ => fromList_default_rejected u8 rfl items, rfl⟩

def fld (name : String) (h : Hooks Nat) (dflt : Option (DefaultSrc Nat) := none) (multiple : Bool := false)
    (flatten : Bool := false) : SField Nat :=
  { ident := name, name := name, conv := h.fromMeta, fromNone := h.fromNone, fromList := h.fromList,
    dflt := dflt, skip := false, multiple := multiple, flatten := flatten }

def mk (fields : List (SField Nat)) : SStruct Nat :=
  { fields := fields, allowUnknown := false, containerDefault := none, build := fun _ => 0,
    mkList := fun _ => 0, post := .ok, score := fun _ _ => 0, thr := 0 }

/-- `struct Inner { x: u8, #[darling(default)] y: u8 }` -/
def innerS : SStruct Nat := mk [fld "x" u8, fld "y" u8 (some (.value 0))]
def innerH : Hooks Nat := structHooks (.named innerS) none none
def innerR : Reading := structReading innerS (fun _ => u8R) false false
/-- `struct Outer { inner: Inner }` -/
def outerS : SStruct Nat := mk [fld "inner" innerH]
/-- `struct Multi { #[darling(multiple)] a: Vec<u8> }` -/
def multiS : SStruct Nat := mk [fld "a" u8 none true]
/-- `enum E { Unit, New(Inner), St { p: u8 } }` -/
def enumE : SEnum Nat :=
  { variants := [⟨"unit", false, .unit 0⟩, ⟨"new", false, .newtype innerH.fromMeta innerH.fromNone id⟩,
                 ⟨"st", false, .struct (mk [fld "p" u8])⟩],
    score := fun _ _ => 0, thr := 0, fromWord := none, fromNone := none }

theorem mk_shape {fields : List (SField Nat)} (hd : fields.Pairwise (fun f g => f.ident ≠ g.ident))
    (hplain : ∀ f ∈ fields, f.skip = false ∧ f.flatten = false ∧ f.dflt ≠ some .inherit)
    (hname : ∀ f ∈ fields, addressed (mk fields) f.name = some f) : Shape (mk fields) :=
  ⟨hd, fun f hf hs => absurd ((hplain f hf).1 ▸ hs) Bool.false_ne_true,
    fun f hf _ _ hfl _ => absurd ((hplain f hf).2.1 ▸ hfl) Bool.false_ne_true,
    fun f hf _ _ => hname f hf, fun f hf h => absurd h (hplain f hf).2.2, fun v => ⟨v, rfl⟩⟩

theorem mk_shape_single (g : SField Nat) (hs : g.skip = false) (hfl : g.flatten = false)
    (hd : g.dflt ≠ some .inherit) (hname : addressed (mk [g]) g.name = some g) : Shape (mk [g]) :=
  mk_shape (List.pairwise_singleton _ _) (fun f hf => by cases List.mem_singleton.mp hf; exact ⟨hs, hfl, hd⟩)
    (fun f hf => by cases List.mem_singleton.mp hf; exact hname)

theorem innerShape : Shape innerS := by
  refine mk_shape (List.pairwise_pair.mpr (by decide)) (fun f hf => ?_) (fun f hf => ?_)
  · rcases List.mem_cons.mp hf with rfl | hf
    · exact ⟨rfl, rfl, nofun⟩
    · cases List.mem_singleton.mp hf; exact ⟨rfl, rfl, nofun⟩
  · rcases List.mem_cons.mp hf with rfl | hf
    · rfl
    · cases List.mem_singleton.mp hf; rfl

theorem innerBuilt : Built innerH innerR :=
  Built.struct innerS (fun _ => u8R) (fun _ => u8) none none innerShape
    (by intro f hf; simp [innerS, mk, fld] at hf; rcases hf with rfl | rfl <;> exact ⟨rfl, rfl, rfl⟩)
    (fun _ _ => .base u8_meets)

theorem outerShape : Shape outerS := mk_shape_single (fld "inner" innerH) rfl rfl nofun rfl

/-- a receiver two levels deep is `Built` (non-vacuity of `Built`, `Shape`, `Tied`, `Meets`) -/
theorem outerBuilt : Built (structHooks (.named outerS) none none) (structReading outerS (fun _ => innerR) false false) :=
  Built.struct outerS (fun _ => innerR) (fun _ => innerH) none none outerShape
    (by intro f hf; simp [outerS, mk, fld] at hf; subst hf; exact ⟨rfl, rfl, rfl⟩)
    (fun _ _ => innerBuilt)

theorem outerDecl : Decl outerS (fun _ => innerR) :=
  ⟨outerShape, fun f hf => FieldReads.of_meets innerBuilt.meets
    (by simp [outerS, mk, fld] at hf; subst hf; exact ⟨rfl, rfl, rfl⟩)⟩

/-- what the model returns, as the property observes it -/
def seen {α : Type} : Outcome α → List Mistake
  | .err e => reported e
  | _ => []

/-! ### the main theorems are not vacuous: an input with five mistakes on two levels that meets
    `StructOk`, and what both sides say about it -/

/-- `outer(inner(x = "bad", zzz = 1, "s"), nope = 1, inner(x = 1))` -/
def okIn : List NestedMeta :=
  [lst "inner" [bad "x", good "zzz", .lit ⟨.str "s", "", sp0⟩], good "nope", lst "inner" [good "x"]]

theorem okIn_ok : StructOk outerS (fun _ => innerR) okIn := by
  have hin : StructOk innerS (fun _ => u8R) [bad "x", good "zzz", .lit ⟨.str "s", "", sp0⟩] :=
    ⟨⟨ItemOk.first (f := fld "x" u8) rfl rfl rfl trivial, ItemOk.unaddressed rfl, ItemOk.lit _ _ _ _, trivial⟩,
      fun _ hff => nomatch hff⟩
  exact ⟨⟨ItemOk.first (f := fld "inner" innerH) rfl rfl rfl hin, ItemOk.unaddressed rfl,
      ItemOk.repeated (f := fld "inner" innerH) rfl rfl (by decide) (by decide), trivial⟩,
    fun _ hff => nomatch hff⟩

theorem okIn_mistakes : structMistakes outerS (fun _ => innerR) okIn
    = [(.rejected, ["inner", "x"]), (.unknownName "zzz", ["inner"]), (.bareLiteral, ["inner"]),
       (.unknownName "nope", []), (.repeatedName "inner", [])] := by rfl
example : structMistakes outerS (fun _ => innerR) okIn
    = [(.rejected, ["inner", "x"]), (.unknownName "zzz", ["inner"]), (.bareLiteral, ["inner"]),
       (.unknownName "nope", []), (.repeatedName "inner", [])] := okIn_mistakes
example : seen (fromList outerS okIn) = structMistakes outerS (fun _ => innerR) okIn := by
  rw [okIn_mistakes]; rfl
example : Reports (fromList outerS okIn) (structMistakes outerS (fun _ => innerR) okIn) :=
  struct_reports_partial outerDecl okIn okIn_ok

/-! ### an enum, a keyed collection and an `Option` are `Built` too -/

def enumNt : SVariant Nat → Reading := fun _ => innerR
def enumSf : SVariant Nat → SField Nat → Reading := fun _ _ => u8R

theorem enumE_newtype : ∀ v ∈ enumE.variants, ∀ fm fn wrap, v.kind = .newtype fm fn wrap →
    fm = innerH.fromMeta ∧ fn = innerH.fromNone := by
  intro v hv fm fn wrap hk
  simp [enumE] at hv
  rcases hv with rfl | rfl | rfl <;> simp at hk
  exact ⟨hk.1.symm, hk.2.1.symm⟩

theorem stShape : Shape (mk [fld "p" u8]) := mk_shape_single (fld "p" u8) rfl rfl nofun rfl

theorem enumE_struct : ∀ v ∈ enumE.variants, ∀ s, v.kind = .struct s → Shape s ∧ ∀ f ∈ s.fields, Tied f u8 := by
  intro v hv s hk
  simp [enumE] at hv
  rcases hv with rfl | rfl | rfl <;> simp at hk
  subst hk
  exact ⟨stShape, by intro f hf; simp [mk, fld] at hf; subst hf; exact ⟨rfl, rfl, rfl⟩⟩

theorem enumE_built : Built (enumHooks enumE) (enumReading enumE enumNt enumSf) :=
  Built.enum enumE enumNt enumSf (fun _ => innerH) (fun _ _ => u8)
    (by intro o ho; simp [enumE] at ho)
    enumE_newtype (fun _ _ _ _ _ _ => innerBuilt) enumE_struct (fun _ _ _ _ _ _ => .base u8_meets)

theorem enumE_decl : EnumDecl enumE enumNt enumSf where
  vNewtype := fun v hv fm fn wrap hk m => by
    rw [(enumE_newtype v hv fm fn wrap hk).1]; exact innerBuilt.meets.vItem m
  newtype := fun v hv fm fn wrap hk m hok => by
    rw [(enumE_newtype v hv fm fn wrap hk).1]; exact innerBuilt.meets.item m hok
  newtypeNone := fun v hv fm fn wrap hk => by
    rw [(enumE_newtype v hv fm fn wrap hk).2]; exact innerBuilt.meets.optional
  struct := fun v hv s hk =>
    ⟨(enumE_struct v hv s hk).1, fun f hf => FieldReads.of_meets u8_meets ((enumE_struct v hv s hk).2 f hf)⟩

/-- `WordOk` with an override present -/
example : WordOk { enumE with fromWord := some (.ok 7) } := by
  intro o ho; simp at ho; exact ⟨7, ho.symm⟩

/-- `e(st(p = "bad", q = 1))` meets `EnumOk`; two mistakes inside the struct variant -/
def enumIn : List NestedMeta := [lst "st" [bad "p", good "q"]]

theorem enumIn_ok : EnumOk enumE enumNt enumSf enumIn := by
  refine ⟨fun h => absurd h (by decide), ?_⟩
  intro m hm v hv
  cases hm
  cases hv
  refine ⟨fun _ hk => (nomatch hk), fun _ _ _ hk => (nomatch hk), ?_⟩
  intro s hs
  cases hs
  refine ⟨⟨_, _, _, _, _, _, rfl⟩, ?_⟩
  intro p its ts tk sp hm
  cases hm
  exact ⟨⟨ItemOk.first (f := fld "p" u8) rfl rfl rfl trivial, ItemOk.unaddressed rfl, trivial⟩,
    fun _ hff => nomatch hff⟩

example : enumMistakes enumE enumNt enumSf enumIn = [(.rejected, ["st", "p"]), (.unknownName "q", ["st"])] := rfl
example : Reports (enumFromList enumE enumIn) (enumMistakes enumE enumNt enumSf enumIn) :=
  enum_reports_partial enumE_decl enumIn enumIn_ok
/-- the count clause of `EnumOk`: `e()` -/
example : EnumOk enumE enumNt enumSf [] := ⟨fun h => absurd h (by decide), fun _ hm => nomatch hm⟩
example : seen (enumFromList enumE []) = [(.wrongCount, [])] := rfl

/-- `m(k(x = "bad"), k(x = 1, zz = 1), "lit")` for a `HashMap<String, Inner>`: the repeated key does
    not hide the unknown name inside its value -/
def mapIn : List NestedMeta := [lst "k" [bad "x"], lst "k" [good "x", good "zz"], .lit ⟨.str "lit", "", sp0⟩]

theorem mapIn_ok : MapOk innerR mapIn := by
  intro m hm
  rcases List.mem_cons.mp hm with h | hm
  · cases h
    exact ⟨⟨ItemOk.first (f := fld "x" u8) rfl rfl rfl trivial, trivial⟩, fun _ hff => nomatch hff⟩
  rcases List.mem_cons.mp hm with h | hm
  · cases h
    exact ⟨⟨ItemOk.first (f := fld "x" u8) rfl rfl rfl trivial, ItemOk.unaddressed rfl, trivial⟩,
      fun _ hff => nomatch hff⟩
  rcases List.mem_cons.mp hm with h | hm
  · cases h
  · cases hm

theorem mapIn_mistakes : mapMistakes .string innerR mapIn
    = [(.rejected, ["k", "x"]), (.repeatedName "k", []), (.unknownName "zz", ["k"]), (.bareLiteral, [])] := by rfl
example : mapMistakes .string innerR mapIn
    = [(.rejected, ["k", "x"]), (.repeatedName "k", []), (.unknownName "zz", ["k"]), (.bareLiteral, [])] := mapIn_mistakes
example : seen (Maps.fromList .string innerH mapIn) = mapMistakes .string innerR mapIn := by
  rw [mapIn_mistakes]; rfl
example : Reports (Maps.fromList .string innerH mapIn) (mapMistakes .string innerR mapIn) :=
  map_reports .string innerH innerR innerBuilt.meets.vItem innerBuilt.meets.item mapIn mapIn_ok

example : Built (Maps.mapHooks .string (fun _ => 0) innerH) (mapReading .string innerR) :=
  Built.map .string (fun _ => 0) innerBuilt
example : Built (Wrappers.optionOf id 0 u8) (optionReading u8R) := Built.option id 0 (.base u8_meets)

/-- the unconditional verdict on an input that violates every side condition at once -/
example (items : List NestedMeta) :
    (∃ e, (structHooks (.named outerS) none none).fromList items = .err e)
      ↔ structMistakes outerS (fun _ => innerR) items ≠ [] :=
  (deep_fails_iff outerBuilt items).1

/-! ### the discrepancies: what the text demands (right-hand sides of the second line of each
    pair) against what the model — and the library — returns (first line) -/

/-- **D1** `outer(inner(x = 1), inner(x = 1, zzz = 1, y = "bad"))`: the repeated name hides the two
    mistakes inside the repeated item -/
def d1 : List NestedMeta := [lst "inner" [good "x"], lst "inner" [good "x", good "zzz", bad "y"]]
example : seen (fromList outerS d1) = [(.repeatedName "inner", [])] := rfl
example : structMistakes outerS (fun _ => innerR) d1
    = [(.repeatedName "inner", []), (.unknownName "zzz", ["inner"]), (.rejected, ["inner", "y"])] := rfl
example : ¬ StructOk outerS (fun _ => innerR) d1 := by
  intro h
  have := (h.1.2.1 _ rfl (fld "inner" innerH)
    (by simp [addressed, outerS, mk, fld, pth, Path.toStr, Meta.path'])).1 rfl (by decide)
  revert this
  decide

/-- **D2** `e(st(p = "bad", q = 1), nope)`: the wrong item count hides the three other mistakes -/
def d2 : List NestedMeta := [lst "st" [bad "p", good "q"], word "nope"]
example : seen (enumFromList enumE d2) = [(.wrongCount, [])] := rfl
example : enumMistakes enumE enumNt enumSf d2
    = [(.wrongCount, []), (.rejected, ["st", "p"]), (.unknownName "q", ["st"]), (.unknownName "nope", [])] := rfl

/-- **D3** (no discrepancy) `m(a = "bad", a = "bad", a = 1, a = "bad")` for
    `#[darling(multiple)] a: Vec<u8>`: each bad occurrence is located at its own occurrence index —
    `a[0]`, `a[1]`, `a[3]`, not the number of values accepted so far — and the input meets
    `StructOk`, so the main theorem applies to it -/
def d3 : List NestedMeta := [bad "a", bad "a", good "a", bad "a"]
theorem d3_seen : seen (fromList multiS d3) = [(.rejected, ["a[0]"]), (.rejected, ["a[1]"]), (.rejected, ["a[3]"])] := by
  rfl
theorem d3_mistakes : structMistakes multiS (fun _ => u8R) d3
    = [(.rejected, ["a[0]"]), (.rejected, ["a[1]"]), (.rejected, ["a[3]"])] := by rfl
example : seen (fromList multiS d3) = [(.rejected, ["a[0]"]), (.rejected, ["a[1]"]), (.rejected, ["a[3]"])] := d3_seen
example : structMistakes multiS (fun _ => u8R) d3
    = [(.rejected, ["a[0]"]), (.rejected, ["a[1]"]), (.rejected, ["a[3]"])] := d3_mistakes
example : seen (fromList multiS d3) = structMistakes multiS (fun _ => u8R) d3 := d3_seen.trans d3_mistakes.symm

theorem multiShape : Shape multiS := mk_shape_single (fld "a" u8 none true) rfl rfl nofun rfl

theorem multiDecl : Decl multiS (fun _ => u8R) :=
  ⟨multiShape, fun f hf => FieldReads.of_meets u8_meets
    (by simp [multiS, mk, fld] at hf; subst hf; exact ⟨rfl, rfl, rfl⟩)⟩

/-- every item list meets the side condition of a receiver whose only field is `multiple` and of
    a leaf type: no clause of `StructOk` speaks about the indices -/
theorem multi_ok (items : List NestedMeta) : StructOk multiS (fun _ => u8R) items := by
  refine ⟨?_, by intro ff hff; simp [multiS, mk, fld] at hff⟩
  have h : ∀ (rest earlier : List NestedMeta), WalkOk multiS (fun _ => u8R) earlier rest := by
    intro rest
    induction rest with
    | nil => intro _; trivial
    | cons it rest ih =>
        intro earlier
        refine ⟨?_, ih _⟩
        intro m _ f hf
        have hm : f.multiple = true := by
          have := List.mem_of_find?_eq_some hf
          simp [multiS, mk, fld] at this; subst this; rfl
        refine ⟨fun h => ?_, fun h => ?_, fun _ => trivial⟩
        · rw [hm] at h; cases h
        · rw [hm] at h; cases h
  exact h items []

example : Reports (fromList multiS d3) [(.rejected, ["a[0]"]), (.rejected, ["a[1]"]), (.rejected, ["a[3]"])] :=
  d3_mistakes ▸ struct_reports_partial multiDecl d3 (multi_ok d3)

/-- **D4** `e(unit = 1)`, `e(st = 1)`: the leaf neither names the variant nor carries it in its path -/
example : seen (enumFromList enumE [good "unit"]) = [(.rejected, [])] := rfl
example : enumMistakes enumE enumNt enumSf [good "unit"] = [(.rejected, ["unit"])] := rfl
example : seen (enumFromList enumE [good "st"]) = [(.rejected, [])] := rfl
example : enumMistakes enumE enumNt enumSf [good "st"] = [(.rejected, ["st"])] := rfl
/-- …whereas a newtype variant does carry it, and so does a struct variant whose list does not
    parse: `e(st(<syntax error>))` -/
example : seen (enumFromList enumE [good "new"]) = [(.rejected, ["new"])] := rfl
def badList : NestedMeta := .item (.list (pth "st") [] (some ("expected `,`", sp0)) none "" sp0)
example : seen (enumFromList enumE [badList]) = [(.rejected, ["st"])] := rfl
example : enumMistakes enumE enumNt enumSf [badList] = [(.rejected, ["st"])] := rfl
/-- that input meets `EnumOk`: no side condition is needed for the parse failure -/
theorem badList_ok : EnumOk enumE enumNt enumSf [badList] := by
  refine ⟨fun h => absurd h (by decide), ?_⟩
  intro m hm v hv
  cases hm
  cases hv
  refine ⟨fun _ hk => (nomatch hk), fun _ _ _ hk => (nomatch hk), ?_⟩
  intro s hs
  exact ⟨⟨_, _, _, _, _, _, rfl⟩, fun _ _ _ _ _ hm => nomatch hm⟩
example : Reports (enumFromList enumE [badList]) [(.rejected, ["st"])] :=
  enum_reports_partial enumE_decl [badList] badList_ok

/-- **D5** (`NamesDistinct` is needed) `struct S { a: u8, #[darling(rename = "a")] b: u8 }` on
    `s(a = 1)`: a mistake is invented — `a` is reported absent although it is supplied -/
def collideS : SStruct Nat := mk [fld "a" u8, { fld "a" u8 with ident := "b" }]
example : seen (fromList collideS [good "a"]) = [(.absent "a", [])] := rfl
example : structMistakes collideS (fun _ => u8R) [good "a"] = [] := rfl
example : ¬ NamesDistinct collideS := by
  intro h
  have := h { fld "a" u8 with ident := "b" } (by simp [collideS, mk]) rfl rfl
  simp [addressed, collideS, mk, fld] at this

/-- (`PostAccepts` is needed) a container-level `and_then` that rejects the built value fails a
    mistake-free input -/
def checkedS : SStruct Nat := { mk [fld "n" u8] with post := fun _ => .err (Err.custom "zero not allowed") }
example : seen (fromList checkedS [good "n"]) = [(.rejected, [])] := rfl
example : structMistakes checkedS (fun _ => u8R) [good "n"] = [] := rfl

end Ex

end C02
