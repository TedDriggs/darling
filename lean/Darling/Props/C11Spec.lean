import Darling.Props.C11
import Darling.FromMeta.Universe
/-
  C11 — an independent specification of the scalar conversions, written from the property text,
  and the end-to-end theorem `model = specification` for every target and every meta item.

  The specification has four small layers, none of which calls a step function of the model:

    1. `decimal`    what number a digit string writes (positional notation), validated against
                    Lean's own decimal printer (`decimal_toDigits`, `stdInt_toString`);
    2. `stdInt` …   what the target type's standard parsing accepts (sign rule, range, NonZero);
    3. `Written`    how the user wrote the value, as far as the property distinguishes
                    (bare word / list / quoted / unquoted number / …), read off the syntax tree;
    4. `expected`   the table "target × written form ↦ value, or rejected".

  All theorems are unconditional: every target, float included, every input.

  Float targets: `from_meta_float!` reads an integer literal through the float parser (`f = 1` is
  accepted like `f = "1"`).
-/
open Scalars

namespace C11

/-! ## 1. Decimal notation -/

/-- an ASCII decimal digit -/
def isDec (c : Char) : Bool := '0' ≤ c && c ≤ '9'

/-- its numeric value -/
def digit (c : Char) : Nat := c.toNat - '0'.toNat

/-- the number a digit string writes: a digit followed by `k` more digits counts `10^k` times -/
def decimal : List Char → Nat
  | [] => 0
  | c :: cs => digit c * 10 ^ cs.length + decimal cs

/-- one or more decimal digits and nothing else -/
def numeral (ds : List Char) : Bool := !ds.isEmpty && ds.all isDec

/-! ## 2. The target types' standard parsing -/

/-- the values an integer target can hold: two's-complement range of its width, zero excluded
    for the NonZero forms -/
def fits (ty : IntSpec) (v : Int) : Bool :=
  (if ty.signed then decide (-(2 ^ (ty.bits - 1) : Int) ≤ v ∧ v < 2 ^ (ty.bits - 1))
   else decide (0 ≤ v ∧ v < 2 ^ ty.bits))
  && (!ty.nonzero || v != 0)

/-- an optional sign in front of the rest -/
def splitSign : List Char → Bool × List Char
  | [] => (false, [])
  | c :: ds => if c = '-' then (true, ds) else if c = '+' then (false, ds) else (false, c :: ds)

/-- `str::parse::<N>()` for an integer target: an optional `+`, or a `-` when the type is
    signed, then a numeral; the value must fit -/
def stdInt (ty : IntSpec) (s : String) : Option Int :=
  let (neg, ds) := splitSign s.toList
  let v : Int := if neg then -(decimal ds : Int) else decimal ds
  if numeral ds && (!neg || ty.signed) && fits ty v then some v else none

/-- `str::parse::<bool>()` -/
def stdBool (s : String) : Option Bool :=
  if s = "true" then some true else if s = "false" then some false else none

/-- `str::parse::<char>()`: a string of exactly one character -/
def stdChar (s : String) : Option Char :=
  if s.length = 1 then s.toList.head? else none

/-! ## 3. How a value is written -/

/-- the written forms the property distinguishes -/
inductive Written where
  /-- `name` -/
  | word
  /-- `name(...)` -/
  | list
  /-- `name = "s"` -/
  | quoted (s : String)
  /-- an unquoted integer literal: its sign and decimal digits (radix, underscores and suffix
      are not part of what is written, as far as the property is concerned) -/
  | integer (digits : String)
  /-- an unquoted float literal, likewise -/
  | fraction (digits : String)
  | boolLit (b : Bool)
  | charLit (c : Char)
  /-- any other literal (byte string, byte, C string, verbatim) -/
  | otherLiteral
  /-- a value that is not a literal -/
  | notLiteral
  deriving Repr, DecidableEq

def writtenLit (l : Lit) : Written :=
  match l.v with
  | .str s => .quoted s
  | .int d _ => .integer d
  | .float d _ => .fraction d
  | .bool b => .boolLit b
  | .char c => .charLit c
  | _ => .otherLiteral

/-- invisible groups are not written by anybody -/
def writtenExpr : Expr → Written
  | .lit l => writtenLit l
  | .group g _ => writtenExpr g
  | _ => .notLiteral

def written : Meta → Written
  | .path _ => .word
  | .list _ _ _ _ _ _ => .list
  | .nameValue _ e _ _ => writtenExpr e

def writtenNested : NestedMeta → Written
  | .lit l => writtenLit l
  | .item m => written m

/-! ## 4. What the conversion must return -/

inductive Target where
  | int (ty : IntSpec)
  | float
  | bool
  | char
  /-- `String` and `PathBuf` -/
  | text
  deriving Repr, DecidableEq

inductive Scalar where
  | int (v : Int)
  | float (bits : Nat)
  | bool (b : Bool)
  | char (c : Char)
  | text (s : String)
  deriving Repr, DecidableEq

/-- **the specification**.  `some v`: accepted with exactly that value; `none`: rejected.
    `parseF` is the float type's standard parsing (external). -/
def expected (parseF : String → Option Nat) : Target → Written → Option Scalar
  -- quoted: the string as it stands, through the target's standard parsing
  | .int ty, .quoted s => (stdInt ty s).map .int
  | .float,  .quoted s => (parseF s).map .float
  | .bool,   .quoted s => (stdBool s).map .bool
  | .char,   .quoted s => (stdChar s).map .char
  | .text,   .quoted s => some (.text s)
  -- unquoted: sign and decimal value, through the target's standard parsing
  | .int ty, .integer d => (stdInt ty d).map .int
  | .float,  .integer d => (parseF d).map .float
  | .float,  .fraction d => (parseF d).map .float
  | .bool,   .boolLit b => some (.bool b)
  | .char,   .charLit c => some (.char c)
  -- bool additionally accepts the bare word
  | .bool,   .word => some (.bool true)
  -- wrong literal kind, wrong meta form
  | _, _ => none

/-- the piece of the input a rejection points at: the value of `name = value` (inside its
    invisible groups), otherwise the item -/
def siteExpr : Expr → Span
  | .group g _ => siteExpr g
  | e => e.span

def site : Meta → Span
  | .path p => p.span
  | .list _ _ (some (_, sp)) _ _ _ => sp
  | .list _ _ none _ _ sp => sp
  | .nameValue _ e _ _ => siteExpr e

def siteNested : NestedMeta → Span
  | .lit l => l.span
  | .item m => site m

/-- an outcome conforms to a verdict: accepted means exactly that value; rejected means an
    error carrying the span `sp`; never a panic -/
def Conforms {α : Type} (o : Outcome α) (want : Option α) (sp : Span) : Prop :=
  match o with
  | .ok v => want = some v
  | .err e => want = none ∧ e.span = some sp
  | .panic _ => False

/-! ## The model's side: the conversion the table is compared with -/

/-- the model's conversion for a target (the entries of `hooksOf` for the scalar types) -/
def hooks {α : Type} (parseF : String → Option Nat) (inj : Scalar → α) : Target → Hooks α
  | .int ty => numHooks ty (fun v => inj (.int v))
  | .float => floatHooks parseF (fun b => inj (.float b))
  | .bool => boolHooks (fun b => inj (.bool b))
  | .char => charHooks (fun c => inj (.char c))
  | .text => stringHooks (fun s => inj (.text s))

/-! ## 5. Proofs -/

/-! ### 5.1 decimal notation: agreement with the model's digit fold and with Lean's printer -/

theorem isDec_eq (c : Char) : Spec.C11.isDigit c = isDec c := rfl
theorem pos_eq_decimal (ds : List Char) : Spec.C11.pos ds = decimal ds := by
  induction ds with
  | nil => rfl
  | cons c cs ih => simp only [Spec.C11.pos, decimal, ih]; rfl

theorem all_isDec_eq (ds : List Char) : ds.all Spec.C11.isDigit = ds.all isDec := rfl

/-- agreement with core's reader of digit strings -/
theorem decimal_eq_ofDigitChars (ds : List Char) : decimal ds = Nat.ofDigitChars 10 ds 0 := by
  induction ds with
  | nil => rfl
  | cons c cs ih =>
      rw [Nat.ofDigitChars_cons, Nat.ofDigitChars_eq_ofDigitChars_zero, ← ih]
      simp only [decimal, digit, Nat.mul_zero, Nat.zero_add]
      rw [Nat.mul_comm]

/-- the positional value of Lean's own decimal printing of `n` is `n` -/
theorem decimal_toDigits (n : Nat) : decimal (Nat.toDigits 10 n) = n := by
  rw [decimal_eq_ofDigitChars]; exact Nat.ofDigitChars_ten_toDigits

theorem isDec_of_isDigit (c : Char) (h : c.isDigit = true) : isDec c = true := by
  simp only [Char.isDigit, Bool.and_eq_true, decide_eq_true_eq] at h
  simp only [isDec, Bool.and_eq_true, decide_eq_true_eq, Char.le_def]
  exact h

theorem numeral_toDigits (n : Nat) : numeral (Nat.toDigits 10 n) = true := by
  simp only [numeral, Bool.and_eq_true, Bool.not_eq_true', List.isEmpty_eq_false_iff, ne_eq,
    Nat.toDigits_ne_nil, not_false_eq_true, List.all_eq_true, true_and]
  intro c hc
  exact isDec_of_isDigit c (Nat.isDigit_of_mem_toDigits (by decide) (by decide) hc)


/-! ### 5.2 the integer targets' standard parsing -/

theorem holds_eq_fits (ty : IntSpec) (v : Int) : ty.holds v = fits ty v := by
  unfold IntSpec.holds IntSpec.lo IntSpec.hi fits
  congr 1
  cases ty.signed <;> simp [Int.le_sub_one_iff]

/-- the tail of the model's parser, against the specification's three conditions -/
theorem finish_ok_iff_spec (ty : IntSpec) (neg : Bool) (ds : List Char) (v : Int) :
    finishSpec ty neg ds = .ok v ↔
      ds.all isDec = true ∧ v = (if neg then -(decimal ds : Int) else decimal ds) ∧ fits ty v = true := by
  rw [finish_ok_iff, holds_eq_fits, pos_eq_decimal]; rfl

theorem stdInt_iff (ty : IntSpec) (s : String) (v : Int) :
    stdInt ty s = some v ↔
      let (neg, ds) := splitSign s.toList
      ds.isEmpty = false ∧ (neg = true → ty.signed = true) ∧ ds.all isDec = true ∧
      v = (if neg then -(decimal ds : Int) else decimal ds) ∧ fits ty v = true := by
  unfold stdInt
  generalize splitSign s.toList = p
  obtain ⟨neg, ds⟩ := p
  show (if (numeral ds && (!neg || ty.signed) && fits ty _) = true then some _ else none) = some v ↔ _
  rw [Option.ite_none_right_eq_some, Option.some.injEq]
  simp only [numeral, Bool.and_eq_true, Bool.not_eq_true']
  constructor
  · rintro ⟨⟨⟨⟨hne, hall⟩, hs⟩, hf⟩, rfl⟩
    exact ⟨hne, fun hn => by rw [hn] at hs; exact hs, hall, rfl, hf⟩
  · rintro ⟨hne, hs, hall, rfl, hf⟩
    refine ⟨⟨⟨⟨hne, hall⟩, ?_⟩, hf⟩, rfl⟩
    cases neg
    · rfl
    · exact hs rfl

theorem parseIntStd_ok_iff (ty : IntSpec) (s : String) (v : Int) :
    parseIntStd ty s = .ok v ↔ stdInt ty s = some v := by
  rw [stdInt_iff]
  cases hcs : s.toList with
  | nil => rw [parseIntStd_nil ty hcs]; exact ⟨nofun, fun h => nomatch h.1⟩
  | cons c ds =>
    by_cases hm : c = '-'
    · subst hm
      rw [parseIntStd_minus ty hcs, ite_error_ok_iff, finish_ok_iff_spec]
      refine Iff.trans (and_congr_left' ?_) and_assoc
      show _ ↔ ds.isEmpty = false ∧ (true = true → ty.signed = true)
      cases ds.isEmpty <;> cases ty.signed <;> decide
    by_cases hp : c = '+'
    · subst hp
      rw [parseIntStd_plus ty hcs, ite_error_ok_iff, finish_ok_iff_spec, Bool.not_eq_true]
      exact and_congr_right' ⟨fun h => ⟨nofun, h⟩, fun h => h.2⟩
    · rw [parseIntStd_nosign ty hcs hp hm, finish_ok_iff_spec, splitSign, if_neg hm, if_neg hp]
      exact ⟨fun h => ⟨rfl, nofun, h⟩, fun h => h.2.2⟩

/-! ### 5.3 plain decimal spellings -/

theorem toString_toList (v : Int) :
    (toString v).toList = if 0 ≤ v then Nat.toDigits 10 v.toNat else '-' :: Nat.toDigits 10 (-v).toNat := by
  rw [Int.toString_eq_repr, Int.repr_eq_if]
  split
  · exact Nat.toList_repr
  · rw [String.toList_append, Nat.toList_repr]; rfl

theorem splitSign_numeral (ds : List Char) (h : numeral ds = true) : splitSign ds = (false, ds) := by
  cases ds with
  | nil => rfl
  | cons c cs =>
    simp only [numeral, List.isEmpty_cons, Bool.not_false, Bool.true_and, List.all_cons, Bool.and_eq_true] at h
    have hm : c ≠ '-' := by intro hc; rw [hc] at h; exact absurd h.1 (by decide)
    have hp : c ≠ '+' := by intro hc; rw [hc] at h; exact absurd h.1 (by decide)
    simp only [splitSign, if_neg hm, if_neg hp]

/-- **plain decimal spellings**: the usual decimal writing of an integer `v` is accepted by an
    integer target exactly when `v` fits, and then means `v` -/
theorem stdInt_toString (ty : IntSpec) (v : Int) :
    stdInt ty (toString v) = if fits ty v then some v else none := by
  unfold stdInt
  rw [toString_toList]
  by_cases hv : 0 ≤ v
  · rw [if_pos hv, splitSign_numeral _ (numeral_toDigits _)]
    simp only [numeral_toDigits, decimal_toDigits, Bool.false_eq_true, if_false, Bool.not_false, Bool.true_or, Bool.true_and, Bool.and_true]
    rw [Int.toNat_of_nonneg hv]
  · rw [if_neg hv]
    simp only [splitSign, if_true, numeral_toDigits, decimal_toDigits, Bool.true_and, Bool.not_true, Bool.false_or]
    have hneg : -((-v).toNat : Int) = v := by omega
    rw [hneg]
    cases hs : ty.signed
    · -- a negative value fits no unsigned target
      have : fits ty v = false := by
        unfold fits
        rw [hs, if_neg Bool.false_ne_true, decide_eq_false (fun h => hv h.1)]
        rfl
      rw [this]; rfl
    · rfl


/-! ### 5.4 routing: from the literal to the item -/

variable {α : Type}

/-- a conforming outcome is unchanged by the `with_span` calls further out -/
theorem Conforms.mapErr {o : Outcome α} {want : Option α} {sp : Span} (sp' : Span)
    (h : Conforms o want sp) : o.mapErr (·.withSpan sp') = o := by
  cases o with
  | ok v => rfl
  | panic m => rfl
  | err e => exact congrArg Outcome.err (Err.withSpan_of_spanned (h.2 ▸ Option.some_ne_none sp) sp')

theorem expr_conforms (h : Hooks α) (f : Written → Option α)
    (hl : ∀ l, Conforms (h.fromValue l) (f (writtenLit l)) l.span) (hn : f .notLiteral = none) :
    ∀ e, Conforms (h.fromExprD e) (f (writtenExpr e)) (siteExpr e)
  | .lit l => by
      simp only [Hooks.fromExprD, (hl l).mapErr, writtenExpr, siteExpr, Expr.span]; exact hl l
  | .group g sp => by
      have ih := expr_conforms h f hl hn g
      simp only [Hooks.fromExprD, ih.mapErr, writtenExpr, siteExpr]; exact ih
  | .path p s => ⟨hn, rfl⟩
  | .qpath p t s => ⟨hn, rfl⟩
  | .array es t s => ⟨hn, rfl⟩
  | .other k t s => ⟨hn, rfl⟩


/-- what the generic routing needs to know of an implementor: which hooks it leaves at their
    default, and what its word and literal conversions return -/
structure Routed (h : Hooks α) (f : Written → Option α) : Prop where
  dNested : h.fromNestedMeta? = none
  dMeta : h.fromMeta? = none
  dExpr : h.fromExpr? = none
  dList : h.fromList? = none
  word : (h.fromWord? = none ∧ f .word = none) ∨ ∃ v, h.fromWord? = some (.ok v) ∧ f .word = some v
  lit : ∀ l, Conforms (h.fromValue l) (f (writtenLit l)) l.span
  fList : f .list = none
  fNotLit : f .notLiteral = none

theorem meta_conforms {h : Hooks α} {f : Written → Option α} (r : Routed h f) (m : Meta) :
    Conforms (h.fromMeta m) (f (written m)) (site m) := by
  simp only [Hooks.fromMeta, r.dMeta]
  cases m with
  | path p =>
      simp only [Hooks.fromMetaD, Hooks.fromWord, written, site, Meta.span]
      rcases r.word with ⟨hw, hf⟩ | ⟨v, hw, hf⟩
      · rw [hw]; exact ⟨hf, rfl⟩
      · rw [hw]; exact hf
  | list p items bad ts t s =>
      cases bad with
      | some b => exact ⟨r.fList, rfl⟩
      | none =>
          simp only [Hooks.fromMetaD, Hooks.fromList, r.dList, written, site, Meta.span]
          exact ⟨r.fList, rfl⟩
  | nameValue p e t s =>
      have hc := expr_conforms h f r.lit r.fNotLit e
      simp only [Hooks.fromMetaD, Hooks.fromExpr, r.dExpr, hc.mapErr, written, site]
      exact hc

theorem nestedMeta_conforms {h : Hooks α} {f : Written → Option α} (r : Routed h f) (n : NestedMeta) :
    Conforms (h.fromNestedMeta n) (f (writtenNested n)) (siteNested n) := by
  simp only [Hooks.fromNestedMeta, r.dNested]
  cases n with
  | lit l =>
      simp only [Hooks.fromNestedMetaD, (r.lit l).mapErr, writtenNested, siteNested]; exact r.lit l
  | item m =>
      simp only [Hooks.fromNestedMetaD, (meta_conforms r m).mapErr, writtenNested, siteNested]
      exact meta_conforms r m


/-! ### 5.5 the five kinds of target, at the literal -/

theorem stdInt_eq_toOption (ty : IntSpec) (s : String) : stdInt ty s = (parseIntStd ty s).toOption := by
  cases h : parseIntStd ty s with
  | ok v => exact (parseIntStd_ok_iff ty s v).mp h
  | error e =>
      cases hs : stdInt ty s with
      | none => rfl
      | some v => rw [(parseIntStd_ok_iff ty s v).mpr hs] at h; cases h

theorem int_lit_conforms (ty : IntSpec) (inj : Scalar → α) (parseF) (l : Lit) :
    Conforms ((hooks parseF inj (.int ty)).fromValue l)
      ((expected parseF (.int ty) (writtenLit l)).map inj) l.span := by
  obtain ⟨v, t, span⟩ := l
  cases v with
  | str s =>
      show Conforms (numFromValue ty (fun v => inj (.int v)) ⟨.str s, t, span⟩)
        (((stdInt ty s).map Scalar.int).map inj) span
      rw [quoted_exact, stdInt_eq_toOption]
      cases parseIntStd ty s
      · exact ⟨rfl, rfl⟩
      · exact rfl
  | int d sfx =>
      show Conforms (numFromValue ty (fun v => inj (.int v)) ⟨.int d sfx, t, span⟩)
        (((stdInt ty d).map Scalar.int).map inj) span
      rw [unquoted_exact, stdInt_eq_toOption]
      cases parseIntStd ty d
      · exact ⟨rfl, rfl⟩
      · exact rfl
  | _ => exact ⟨rfl, rfl⟩

theorem float_lit_conforms (inj : Scalar → α) (parseF : String → Option Nat) (l : Lit) :
    Conforms ((hooks parseF inj .float).fromValue l)
      ((expected parseF .float (writtenLit l)).map inj) l.span := by
  obtain ⟨v, t, span⟩ := l
  cases v with
  | str s =>
      show Conforms (Outcome.mapErr _ (floatFromString parseF _ s))
        (((parseF s).map Scalar.float).map inj) span
      unfold floatFromString
      cases parseF s
      · exact ⟨rfl, rfl⟩
      · exact rfl
  | float d sfx =>
      show Conforms (Outcome.mapErr _ (match parseF d with | some b => _ | none => _))
        (((parseF d).map Scalar.float).map inj) span
      cases parseF d
      · exact ⟨rfl, rfl⟩
      · exact rfl
  | int d sfx =>
      show Conforms (Outcome.mapErr _ (match parseF d with | some b => _ | none => _))
        (((parseF d).map Scalar.float).map inj) span
      cases parseF d
      · exact ⟨rfl, rfl⟩
      · exact rfl
  | _ => exact ⟨rfl, rfl⟩

theorem bool_lit_conforms (inj : Scalar → α) (parseF : String → Option Nat) (l : Lit) :
    Conforms ((hooks parseF inj .bool).fromValue l)
      ((expected parseF .bool (writtenLit l)).map inj) l.span := by
  obtain ⟨v, t, span⟩ := l
  cases v with
  | str s =>
      show Conforms ((boolHooks fun b => inj (.bool b)).fromValue ⟨.str s, t, span⟩)
        (((stdBool s).map Scalar.bool).map inj) span
      rw [bool_string]
      unfold stdBool
      by_cases h1 : s = "true"
      · rw [if_pos h1, if_pos h1]; exact rfl
      by_cases h2 : s = "false"
      · rw [if_neg h1, if_neg h1, if_pos h2, if_pos h2]; exact rfl
      · rw [if_neg h1, if_neg h1, if_neg h2, if_neg h2]; exact ⟨rfl, rfl⟩
  | bool b => exact rfl
  | _ => exact ⟨rfl, rfl⟩

theorem stdChar_eq (s : String) : stdChar s = match s.toList with | [c] => some c | _ => none := by
  unfold stdChar
  rw [← String.length_toList]
  match s.toList with
  | [] => rfl
  | [c] => rfl
  | _ :: _ :: r => simp

theorem char_lit_conforms (inj : Scalar → α) (parseF : String → Option Nat) (l : Lit) :
    Conforms ((hooks parseF inj .char).fromValue l)
      ((expected parseF .char (writtenLit l)).map inj) l.span := by
  obtain ⟨v, t, span⟩ := l
  cases v with
  | str s =>
      show Conforms (Outcome.mapErr _ (match s.toList with | [c] => _ | _ => _))
        (((stdChar s).map Scalar.char).map inj) span
      rw [stdChar_eq]
      match s.toList with
      | [] => exact ⟨rfl, rfl⟩
      | [c] => exact rfl
      | _ :: _ :: r => exact ⟨rfl, rfl⟩
  | char c => exact rfl
  | _ => exact ⟨rfl, rfl⟩

theorem text_lit_conforms (inj : Scalar → α) (parseF : String → Option Nat) (l : Lit) :
    Conforms ((hooks parseF inj .text).fromValue l)
      ((expected parseF .text (writtenLit l)).map inj) l.span := by
  obtain ⟨v, t, span⟩ := l
  cases v with
  | str s => exact rfl
  | _ => exact ⟨rfl, rfl⟩

theorem routed (parseF : String → Option Nat) (inj : Scalar → α) (t : Target) :
    Routed (hooks parseF inj t) (fun w => (expected parseF t w).map inj) := by
  cases t with
  | int ty => exact ⟨rfl, rfl, rfl, rfl, Or.inl ⟨rfl, rfl⟩, int_lit_conforms ty inj parseF, rfl, rfl⟩
  | float => exact ⟨rfl, rfl, rfl, rfl, Or.inl ⟨rfl, rfl⟩, float_lit_conforms inj parseF, rfl, rfl⟩
  | bool => exact ⟨rfl, rfl, rfl, rfl, Or.inr ⟨_, rfl, rfl⟩, bool_lit_conforms inj parseF, rfl, rfl⟩
  | char => exact ⟨rfl, rfl, rfl, rfl, Or.inl ⟨rfl, rfl⟩, char_lit_conforms inj parseF, rfl, rfl⟩
  | text => exact ⟨rfl, rfl, rfl, rfl, Or.inl ⟨rfl, rfl⟩, text_lit_conforms inj parseF, rfl, rfl⟩


/-! ## 6. Main theorems -/

/-- **model = specification**: for every target (float included), every meta item and every
    float parser, the conversion returns exactly what the table says — that value, or an error
    carrying the span of the offending piece; never a panic -/
theorem scalar_conforms (parseF : String → Option Nat) (inj : Scalar → α) (t : Target) (m : Meta) :
    Conforms ((hooks parseF inj t).fromMeta m) ((expected parseF t (written m)).map inj) (site m) :=
  meta_conforms (routed parseF inj t) m

/-- the nested-item entry point (`from_nested_meta`), which derived receivers call -/
theorem nested_conforms (parseF : String → Option Nat) (inj : Scalar → α) (t : Target)
    (n : NestedMeta) :
    Conforms ((hooks parseF inj t).fromNestedMeta n) ((expected parseF t (writtenNested n)).map inj)
      (siteNested n) :=
  nestedMeta_conforms (routed parseF inj t) n

/-! ### consequences, clause by clause -/

theorem Conforms.ok_iff {o : Outcome α} {want : Option α} {sp : Span} (h : Conforms o want sp) (v : α) :
    o = .ok v ↔ want = some v := by
  cases o with
  | ok w => rw [show want = some w from h, Outcome.ok.injEq, Option.some.injEq]
  | err e => rw [show want = none from h.1]; exact ⟨nofun, nofun⟩
  | panic msg => exact h.elim

theorem never_panics (parseF : String → Option Nat) (inj : Scalar → α) (t : Target) (m : Meta) :
    ((hooks parseF inj t).fromMeta m).isPanic = false := by
  have h := scalar_conforms parseF inj t m
  cases ho : (hooks parseF inj t).fromMeta m with
  | panic msg => rw [ho] at h; exact h.elim
  | ok v => rfl
  | err e => rfl

/-- every rejection is spanned, and the span is that of the offending piece -/
theorem rejection_spanned (parseF : String → Option Nat) (inj : Scalar → α) (t : Target) (m : Meta)
    (e : Err) (h : (hooks parseF inj t).fromMeta m = .err e) : e.span = some (site m) := by
  have hc := scalar_conforms parseF inj t m
  rw [h] at hc; exact hc.2

/-- an accepted integer fits the target: never wrapped, truncated, saturated, never zero for
    NonZero -/
theorem accepted_fits (parseF : String → Option Nat) (inj : Scalar → α) (ty : IntSpec) (m : Meta)
    (a : α) (h : (hooks parseF inj (.int ty)).fromMeta m = .ok a) :
    ∃ v, a = inj (.int v) ∧ fits ty v = true := by
  have hc := ((scalar_conforms parseF inj (.int ty) m).ok_iff a).mp h
  obtain ⟨sc, hsc, rfl⟩ := Option.map_eq_some_iff.mp hc
  generalize written m = w at hsc
  have key : ∀ s, (stdInt ty s).map Scalar.int = some sc →
      ∃ v, inj sc = inj (.int v) ∧ fits ty v = true := by
    intro s hs
    obtain ⟨v, hv, rfl⟩ := Option.map_eq_some_iff.mp hs
    exact ⟨v, rfl, ((stdInt_iff ty s v).mp hv).2.2.2.2⟩
  cases w with
  | quoted s => exact key s hsc
  | integer d => exact key d hsc
  | _ => cases hsc

/-- **in range means that value, otherwise an error**: an item that writes the plain decimal
    spelling of `v`, quoted or unquoted (whatever the suffix, the token text, the invisible groups
    around it), is accepted with `v` iff `v` fits -/
theorem plain_decimal (parseF : String → Option Nat) (inj : Scalar → α) (ty : IntSpec) (v : Int)
    (m : Meta) (hw : written m = .quoted (toString v) ∨ written m = .integer (toString v)) :
    Conforms ((hooks parseF inj (.int ty)).fromMeta m)
      (if fits ty v then some (inj (.int v)) else none) (site m) := by
  have h := scalar_conforms parseF inj (.int ty) m
  have hv : expected parseF (.int ty) (written m) = (stdInt ty (toString v)).map .int := by
    rcases hw with hw | hw <;> rw [hw] <;> rfl
  rw [hv, stdInt_toString] at h
  cases hf : fits ty v <;> rw [hf] at h <;> exact h

theorem plain_decimal_quoted (parseF : String → Option Nat) (inj : Scalar → α) (ty : IntSpec) (v : Int)
    (p : Path) (toks toks' : String) (sp sp' : Span) :
    Conforms ((hooks parseF inj (.int ty)).fromMeta
        (.nameValue p (.lit ⟨.str (toString v), toks, sp⟩) toks' sp'))
      (if fits ty v then some (inj (.int v)) else none) sp :=
  plain_decimal parseF inj ty v _ (.inl rfl)

theorem plain_decimal_unquoted (parseF : String → Option Nat) (inj : Scalar → α) (ty : IntSpec) (v : Int)
    (p : Path) (suffix toks toks' : String) (sp sp' : Span) :
    Conforms ((hooks parseF inj (.int ty)).fromMeta
        (.nameValue p (.lit ⟨.int (toString v) suffix, toks, sp⟩) toks' sp'))
      (if fits ty v then some (inj (.int v)) else none) sp :=
  plain_decimal parseF inj ty v _ (.inr rfl)

/-- the targets that read numbers: the integer types and the floats -/
def Target.numeric : Target → Bool
  | .int _ => true
  | .float => true
  | _ => false

/-- plain decimal spellings mean the same quoted or unquoted: two items, one writing the digits
    `d` unquoted (any suffix, radix, invisible groups), the other writing them quoted, are
    accepted with the same value or both rejected — for every integer target, for the float
    targets, and every `d` -/
theorem quoted_unquoted_same (parseF : String → Option Nat) (inj : Scalar → α) (t : Target)
    (ht : t.numeric = true) (m₁ m₂ : Meta) (d : String)
    (h₁ : written m₁ = .integer d) (h₂ : written m₂ = .quoted d) (a : α) :
    (hooks parseF inj t).fromMeta m₁ = .ok a ↔ (hooks parseF inj t).fromMeta m₂ = .ok a := by
  rw [(scalar_conforms parseF inj t m₁).ok_iff, (scalar_conforms parseF inj t m₂).ok_iff, h₁, h₂]
  cases t with
  | int ty => rfl
  | float => rfl
  | bool => cases ht
  | char => cases ht
  | text => cases ht

/-- an integer literal is read through the float parser: a float target accepts it with exactly the
    value the parser gives — the value the quoted spelling and the float literal give -/
theorem float_from_integer_accepted (parseF : String → Option Nat) (inj : Scalar → α) (m : Meta)
    (d : String) (b : Nat) (hw : written m = .integer d) (hp : parseF d = some b) :
    (hooks parseF inj .float).fromMeta m = .ok (inj (.float b)) := by
  rw [(scalar_conforms parseF inj .float m).ok_iff, hw]
  simp only [expected, hp, Option.map]

/-- the suffix and the token text of an unquoted literal are not part of what is written -/
theorem suffix_and_tokens_irrelevant (d s₁ s₂ t₁ t₂ : String) (sp₁ sp₂ : Span) :
    writtenLit ⟨.int d s₁, t₁, sp₁⟩ = writtenLit ⟨.int d s₂, t₂, sp₂⟩ := rfl

/-! ## 7. The universe the driver executes

`hooks` is, entry by entry, what `hooksOf` installs for the scalar types, so every theorem above is
a theorem about the function the differential harness runs (rewrite with these equations). -/

def toVal : Scalar → Val
  | .int v => .int v
  | .float b => .float b
  | .bool b => .bool b
  | .char c => .char c
  | .text s => .str s

theorem hooksOf_int (o : Oracle) (r : String → Hooks Val) (w : Nat) (ty : IntSpec) :
    hooksOf o r (.int ty) = hooks (o.parseFloat w) toVal (.int ty) := rfl
theorem hooksOf_float (o : Oracle) (r : String → Hooks Val) (w : Nat) :
    hooksOf o r (.float w) = hooks (o.parseFloat w) toVal .float := rfl
theorem hooksOf_bool (o : Oracle) (r : String → Hooks Val) (w : Nat) :
    hooksOf o r .bool = hooks (o.parseFloat w) toVal .bool := rfl
theorem hooksOf_char (o : Oracle) (r : String → Hooks Val) (w : Nat) :
    hooksOf o r .char = hooks (o.parseFloat w) toVal .char := rfl
theorem hooksOf_string (o : Oracle) (r : String → Hooks Val) (w : Nat) :
    hooksOf o r .string = hooks (o.parseFloat w) toVal .text := rfl
theorem hooksOf_pathBuf (o : Oracle) (r : String → Hooks Val) (w : Nat) :
    hooksOf o r .pathBuf = hooks (o.parseFloat w) toVal .text := rfl

/-- the main theorem on the driver's own function, for the 24 integer targets (any `IntSpec`) -/
theorem universe_int_conforms (o : Oracle) (r : String → Hooks Val) (ty : IntSpec) (m : Meta) :
    Conforms ((hooksOf o r (.int ty)).fromMeta m)
      ((expected (o.parseFloat 64) (.int ty) (written m)).map toVal) (site m) := by
  rw [hooksOf_int o r 64 ty]
  exact scalar_conforms _ toVal (.int ty) m

/-! ## 8. Examples -/

namespace Ex
def u8 : IntSpec := ⟨"u8", false, 8, false⟩
def i8 : IntSpec := ⟨"i8", true, 8, false⟩
def nzi8 : IntSpec := ⟨"NonZeroI8", true, 8, true⟩
def u128 : IntSpec := ⟨"u128", false, 128, false⟩

/-! the specification itself, at the boundaries the property names -/
example : stdInt u8 "255" = some 255 := by decide
example : stdInt u8 "256" = none := by decide
example : stdInt u8 "+7" = some 7 := by decide
example : stdInt u8 "007" = some 7 := by decide
example : stdInt u8 "-0" = none := by decide
example : stdInt u8 "" = none := by decide
example : stdInt u8 "+" = none := by decide
example : stdInt u8 "1_0" = none := by decide
example : stdInt u8 "0x10" = none := by decide
example : stdInt i8 "-128" = some (-128) := by decide
example : stdInt i8 "-129" = none := by decide
example : stdInt i8 "128" = none := by decide
example : stdInt i8 "-" = none := by decide
example : stdInt i8 "+-1" = none := by decide
example : stdInt nzi8 "0" = none := by decide
example : stdInt nzi8 "-0" = none := by decide
example : stdInt nzi8 "-1" = some (-1) := by decide
-- the two literals are the decimal writings of `2 ^ 128 - 1` and `2 ^ 128`
example : stdInt u128 "340282366920938463463374607431768211455" = some (2 ^ 128 - 1) := by
  rw [← show toString (2 ^ 128 - 1 : Int) = "340282366920938463463374607431768211455" from by rfl,
    stdInt_toString]
  rfl
example : stdInt u128 "340282366920938463463374607431768211456" = none := by
  rw [← show toString (2 ^ 128 : Int) = "340282366920938463463374607431768211456" from by rfl,
    stdInt_toString]
  rfl
example : stdChar "a" = some 'a' := by decide
example : stdChar "ab" = none := by decide
example : stdChar "" = none := by decide

/-- a float parser for the examples: it knows `1`, `1.0` and `1e999` (the last as std does:
    accepted, infinity) -/
def pf : String → Option Nat := fun s =>
  if s = "1" then some 0x3FF0000000000000 else if s = "1.0" then some 0x3FF0000000000000
  else if s = "1e999" then some 0x7FF0000000000000 else none

def name : Path := ⟨false, ["f"], true, "f", ⟨0, 1⟩, ⟨0, 1⟩⟩
/-- `f = 1` -/
def fInt : Meta := .nameValue name (.lit ⟨.int "1" "", "1", ⟨4, 5⟩⟩) "f = 1" ⟨0, 5⟩
/-- `f = 1f64`, as syn reads it: an integer literal with suffix `f64` -/
def fIntF64 : Meta := .nameValue name (.lit ⟨.int "1" "f64", "1f64", ⟨4, 8⟩⟩) "f = 1f64" ⟨0, 8⟩
/-- `f = "1"` -/
def fStr : Meta := .nameValue name (.lit ⟨.str "1", "\"1\"", ⟨4, 7⟩⟩) "f = \"1\"" ⟨0, 7⟩
/-- `f = 1.0` -/
def fFrac : Meta := .nameValue name (.lit ⟨.float "1.0" "", "1.0", ⟨4, 7⟩⟩) "f = 1.0" ⟨0, 7⟩
/-- `f = 0x01u16` inside an invisible group -/
def fHex : Meta :=
  .nameValue name (.group (.lit ⟨.int "1" "u16", "0x01u16", ⟨4, 11⟩⟩) ⟨4, 11⟩) "f = 0x01u16" ⟨0, 11⟩
/-- `f = -1`, not last in its list: syn hands over a unary expression (finding F16) -/
def fNeg : Meta := .nameValue name (.other "unary" "- 1" ⟨4, 6⟩) "f = - 1" ⟨0, 6⟩

/-! ### an integer literal is read through the float parser: a plain decimal spelling means the
    same quoted and unquoted for a float target too -/
example : (hooks pf id .float).fromMeta fStr = .ok (.float 0x3FF0000000000000) := rfl
example : (hooks pf id .float).fromMeta fFrac = .ok (.float 0x3FF0000000000000) := rfl
example : (hooks pf id .float).fromMeta fInt = .ok (.float 0x3FF0000000000000) := rfl
example : (hooks pf id .float).fromMeta fInt = (hooks pf id .float).fromMeta fStr := rfl
/-- `1f64` is an integer literal with suffix `f64` to syn: accepted as well -/
example : (hooks pf id .float).fromMeta fIntF64 = .ok (.float 0x3FF0000000000000) := rfl
example : expected pf .float (written fInt) = some (.float 0x3FF0000000000000) := rfl
example : expected pf .float (written fInt) = expected pf .float (written fStr) := rfl
/-- an integer literal the float parser refuses is rejected at the literal (`f = 1` with a
    parser that knows nothing) -/
example : (hooks (fun _ => none) id .float).fromMeta fInt
    = .err (.leaf (.custom "invalid float literal") [] (some ⟨4, 5⟩)) := rfl
/-- the same literal is taken by an integer target, suffix `f64` and all -/
example : (hooks pf id (.int u8)).fromMeta fIntF64 = .ok (.int 1) := rfl

/-! ### non-vacuity of the hypotheses -/
/-- `float_from_integer_accepted`: both hypotheses hold of `f = 1` -/
example : written fInt = .integer "1" := rfl
example : pf "1" = some 0x3FF0000000000000 := rfl
/-- `quoted_unquoted_same`: `numeric` holds of the integer and float targets and of no other -/
example : (Target.int u8).numeric = true := rfl
example : Target.float.numeric = true := rfl
example : Target.bool.numeric = false := rfl
/-- `quoted_unquoted_same`: both hypotheses hold of `f = 0x01u16` (grouped) and `f = "1"` -/
example : written fHex = .integer "1" := rfl
example : written fStr = .quoted "1" := rfl
example : (hooks pf id (.int u8)).fromMeta fHex = .ok (.int 1) := rfl
example : (hooks pf id (.int u8)).fromMeta fStr = .ok (.int 1) := rfl
example : (hooks pf id .float).fromMeta fHex = (hooks pf id .float).fromMeta fStr := rfl
/-- `accepted_fits`: an accepting input exists; `plain_decimal_*`: both branches of the verdict -/
example : fits u8 255 = true := by decide
example : fits u8 256 = false := by decide
example : fits u8 (-1) = false := by decide
example : fits nzi8 0 = false := by decide
example : fits i8 (-128) = true := by decide
/-- `Routed` (hypothesis of `meta_conforms` / `nestedMeta_conforms`) holds of every target -/
example (t : Target) : Routed (hooks pf id t) (fun w => (expected pf t w).map id) := routed pf id t

/-! ### the other clauses, on instances -/
example : expected pf .bool .word = some (.bool true) := rfl
example : expected pf (.int u8) .word = none := rfl
example : expected pf .bool .list = none := rfl
example : expected pf .char (.quoted "x") = some (.char 'x') := by decide
example : expected pf .char (.quoted "xy") = none := by decide
example : expected pf .text (.integer "5") = none := rfl
example : expected pf (.int u8) (.fraction "1.0") = none := rfl
example : (hooks pf id (.int i8)).fromMeta fNeg
    = .err (.leaf (.unexpectedType "unary") [] (some ⟨4, 6⟩)) := rfl
/-- what the float clause cannot promise: the parser parameter may itself saturate,
    and std's does — `1e999` is accepted as infinity; the conversion adds nothing to that -/
example : expected pf .float (.fraction "1e999") = some (.float 0x7FF0000000000000) := rfl
end Ex

end C11
