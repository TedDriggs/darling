import Darling.Options
import Darling.Generated.Facts
import Darling.Props.C06
/-
  C10 — Derive-time validation accepts exactly the well-formed declarations.

  The rules one option at a time, on the option chains of the derive-time model.  The keyword
  tables are regenerated from the source on every run and must equal the model's.  That an impl is
  emitted exactly when no rule is violated is `C10.derive_ok_iff` in `C10Spec2.lean`.
-/
open Options

namespace C10

/-! ### the option vocabulary is the source's (T2) -/

def fieldKeywords : List String := ["rename", "default", "with", "skip", "map", "and_then", "multiple", "flatten"]
def variantKeywords : List String := ["rename", "skip", "word"]

theorem facts_match_field_keywords : Generated.fieldKeywords = fieldKeywords := rfl
theorem facts_match_variant_keywords : Generated.variantKeywords = variantKeywords := rfl
theorem facts_match_core_keywords :
    Generated.coreKeywords = ["default", "rename_all", "map", "and_then", "bound", "allow_unknown_fields"] := rfl
theorem facts_match_outer_keywords : Generated.outerKeywords = ["attributes", "forward_attrs", "from_ident"] := rfl
theorem facts_match_fromMeta_keywords : Generated.fromMetaKeywords = ["from_word", "from_none"] := rfl
theorem facts_match_supports :
    Generated.fromDeriveInputKeywords = ["supports"] ∧ Generated.fromVariantKeywords = ["supports"] := ⟨rfl, rfl⟩
theorem facts_match_forwarded : Generated.forwardedKeywords = ["with"] := rfl
theorem facts_match_magic :
    Generated.outerMagic = ["ident", "attrs"] ∧ Generated.fromDeriveInputMagic = ["vis", "data", "generics"]
      ∧ Generated.fromFieldMagic = ["vis", "ty"] ∧ Generated.fromVariantMagic = ["discriminant", "fields"]
      ∧ Generated.fromTypeParamMagic = ["bounds", "default"] := ⟨rfl, rfl, rfl, rfl, rfl⟩
theorem magicNames_match (t : Trait) :
    magicNames t = (match t with
      | .fromMeta => []
      | .fromDeriveInput => Generated.fromDeriveInputMagic ++ Generated.outerMagic
      | .fromField => Generated.fromFieldMagic ++ Generated.outerMagic
      | .fromVariant => Generated.fromVariantMagic ++ Generated.outerMagic
      | .fromTypeParam => Generated.fromTypeParamMagic ++ Generated.outerMagic
      | .fromAttributes => Generated.outerMagic) := by
  cases t <;> rfl

/-! ### `parse_nested`, one option at a time -/

theorem getIdent_of_isIdent {p : Path} {k : String} (h : p.isIdent k = true) : p.getIdent = some k := eq_of_beq h

theorem isIdent_false_of_ne (p : Path) (k : String) (h : p.getIdent ≠ some k) : p.isIdent k = false := by
  cases hi : p.isIdent k with
  | false => rfl
  | true => exact absurd (getIdent_of_isIdent hi) h

theorem fieldStep_rename (o : Oracle) (s : FieldOpts) (mi : Meta) (hg : mi.path'.getIdent = some "rename") :
    fieldStep o s mi =
      if s.attrName.isSome then .err s (dupErr mi) else
      withRead s (readOptString mi) fun v =>
        if s.flatten.isSome then .err { s with attrName := v } (conflictErr "flatten" "rename" mi)
        else .ok { s with attrName := v } := by
  simp [fieldStep, Path.isIdent, hg]

theorem fieldStep_default (o : Oracle) (s : FieldOpts) (mi : Meta) (hg : mi.path'.getIdent = some "default") :
    fieldStep o s mi =
      if s.dflt.isSome then .err s (dupErr mi) else
      withRead s (defaultFromMeta o mi) fun v => .ok { s with dflt := some v } := by
  simp [fieldStep, Path.isIdent, hg]

theorem fieldStep_with (o : Oracle) (s : FieldOpts) (mi : Meta) (hg : mi.path'.getIdent = some "with") :
    fieldStep o s mi =
      if s.with_.isSome then .err s (dupErr mi) else
      withRead s (readCallable mi) fun v =>
        if s.flatten.isSome then .err { s with with_ := some v } (conflictErr "flatten" "with" mi)
        else .ok { s with with_ := some v } := by
  simp [fieldStep, Path.isIdent, hg]

theorem fieldStep_skip (o : Oracle) (s : FieldOpts) (mi : Meta) (hg : mi.path'.getIdent = some "skip") :
    fieldStep o s mi =
      if s.skip.isSome then .err s (dupErr mi) else
      withRead s (readOptSpannedBool mi) fun v =>
        if skipTrue { s with skip := v } && s.flatten.isSome then .err { s with skip := v } (conflictErr "flatten" "skip" mi)
        else .ok { s with skip := v } := by
  simp [fieldStep, Path.isIdent, hg]

theorem fieldStep_post (o : Oracle) (s : FieldOpts) (mi : Meta) {t : String} (hg : mi.path'.getIdent = some t)
    (ht : t = "map" ∨ t = "and_then") :
    fieldStep o s mi =
      match s.post with
      | some pt => .err s (if t == pt.transformer then dupErr mi else exclusiveErr t pt.transformer mi)
      | none => withRead s (readPath o mi) fun f => .ok { s with post := some ⟨t, f⟩ } := by
  rcases ht with rfl | rfl <;> simp [fieldStep, Path.isIdent, hg] <;> rfl

theorem fieldStep_multiple (o : Oracle) (s : FieldOpts) (mi : Meta) (hg : mi.path'.getIdent = some "multiple") :
    fieldStep o s mi =
      if s.multiple.isSome then .err s (dupErr mi) else
      withRead s (readOptBool mi) fun v =>
        if v == some true && s.flatten.isSome then .err { s with multiple := v } (conflictErr "flatten" "multiple" mi)
        else .ok { s with multiple := v } := by
  simp [fieldStep, Path.isIdent, hg]

theorem fieldStep_flatten (o : Oracle) (s : FieldOpts) (mi : Meta) (hg : mi.path'.getIdent = some "flatten") :
    fieldStep o s mi =
      if s.flatten.isSome then .err s (dupErr mi) else
      withRead s (readFlag mi) fun v =>
        bundleStep { s with flatten := v }
          ((if s.multiple == some true then [conflictErr "flatten" "multiple" mi] else []) ++
           (if s.attrName.isSome then [conflictErr "flatten" "rename" mi] else []) ++
           (if s.with_.isSome then [conflictErr "flatten" "with" mi] else []) ++
           (if skipTrue s then [conflictErr "flatten" "skip" mi] else [])) := by
  simp [fieldStep, Path.isIdent, hg, skipTrue]
  rfl

/-- an option that is not a field keyword is rejected as unknown (never silently accepted) -/
theorem unknown_field_option_rejected (o : Oracle) (s : FieldOpts) (mi : Meta)
    (h : ∀ k ∈ fieldKeywords, mi.path'.getIdent ≠ some k) :
    fieldStep o s mi = .err s (unknownErr mi) := by
  have hk : ∀ k ∈ fieldKeywords, mi.path'.isIdent k = false := fun k hk => isIdent_false_of_ne _ k (h k hk)
  simp only [fieldKeywords, List.forall_mem_cons] at hk
  obtain ⟨h1, h2, h3, h4, h5, h6, h7, h8, -⟩ := hk
  simp [fieldStep, h1, h2, h3, h4, h5, h6, h7, h8]

theorem variantStep_rename (isUnit : Bool) (s : VariantOpts) (mi : Meta) (hg : mi.path'.getIdent = some "rename") :
    variantStep isUnit s mi =
      if s.attrName.isSome then .err s (dupErr mi) else
      withRead s (readOptString mi) fun v => .ok { s with attrName := v } := by
  simp [variantStep, Path.isIdent, hg]

theorem variantStep_skip (isUnit : Bool) (s : VariantOpts) (mi : Meta) (hg : mi.path'.getIdent = some "skip") :
    variantStep isUnit s mi =
      if s.skip.isSome then .err s (dupErr mi) else
      withRead s (readOptBool mi) fun v => .ok { s with skip := v } := by
  simp [variantStep, Path.isIdent, hg]

theorem variantStep_word (isUnit : Bool) (s : VariantOpts) (mi : Meta) (hg : mi.path'.getIdent = some "word") :
    variantStep isUnit s mi =
      if s.word.isSome then .err s (dupErr mi) else
      if isUnit = false then
        .err s ((Err.custom "Unexpected field: `word`. `#[darling(word)]` can only be applied to a unit variant").withSpan mi.span)
      else withRead s (readOptSpannedBool mi) fun v => .ok { s with word := v } := by
  simp [variantStep, Path.isIdent, hg]

theorem unknown_variant_option_rejected (isUnit : Bool) (s : VariantOpts) (mi : Meta)
    (h : ∀ k ∈ variantKeywords, mi.path'.getIdent ≠ some k) :
    variantStep isUnit s mi = .err s (unknownErr mi) := by
  have hk : ∀ k ∈ variantKeywords, mi.path'.isIdent k = false := fun k hk => isIdent_false_of_ne _ k (h k hk)
  simp only [variantKeywords, List.forall_mem_cons] at hk
  obtain ⟨h1, h2, h3, -⟩ := hk
  simp [variantStep, h1, h2, h3]

/-! ### each option at most once -/

theorem rename_twice (o : Oracle) (s : FieldOpts) (mi : Meta) (hi : mi.path'.isIdent "rename" = true) (hs : s.attrName.isSome = true) :
    fieldStep o s mi = .err s (dupErr mi) := by
  rw [fieldStep_rename o s mi (getIdent_of_isIdent hi), if_pos hs]

theorem flatten_twice (o : Oracle) (s : FieldOpts) (mi : Meta) (hi : mi.path'.isIdent "flatten" = true) (hs : s.flatten.isSome = true) :
    fieldStep o s mi = .err s (dupErr mi) := by
  rw [fieldStep_flatten o s mi (getIdent_of_isIdent hi), if_pos hs]

/-! ### the `flatten` conflicts with `rename` and `skip` are found in either textual order -/

/-- `flatten` after `rename` (in the same or a later attribute): the conflict is reported at `flatten` -/
theorem flatten_after_rename (o : Oracle) (s : FieldOpts) (mi : Meta) (sp : Span)
    (hi : mi.path'.isIdent "flatten" = true) (hfresh : s.flatten.isSome = false)
    (hread : readFlag mi = .ok (some sp)) (hren : s.attrName.isSome = true)
    (hm : s.multiple ≠ some true) (hw : s.with_.isSome = false) (hsk : skipTrue s = false) :
    fieldStep o s mi = .err { s with flatten := some sp } (conflictErr "flatten" "rename" mi) := by
  rw [fieldStep_flatten o s mi (getIdent_of_isIdent hi)]
  simp [hfresh, hread, withRead, hren, hw, hsk, hm, bundleStep]

/-- `rename` after `flatten`: the conflict is reported at `rename` -/
theorem rename_after_flatten (o : Oracle) (s : FieldOpts) (mi : Meta) (v : Option String)
    (hi : mi.path'.isIdent "rename" = true) (hfresh : s.attrName.isSome = false)
    (hread : readOptString mi = .ok v) (hfl : s.flatten.isSome = true) :
    fieldStep o s mi = .err { s with attrName := v } (conflictErr "flatten" "rename" mi) := by
  rw [fieldStep_rename o s mi (getIdent_of_isIdent hi)]
  simp [hfresh, hread, withRead, hfl]

theorem skip_after_flatten (o : Oracle) (s : FieldOpts) (mi : Meta) (sp : Option Span)
    (hi : mi.path'.isIdent "skip" = true) (hfresh : s.skip.isSome = false)
    (hread : readOptSpannedBool mi = .ok (some (true, sp))) (hfl : s.flatten.isSome = true) :
    fieldStep o s mi = .err { s with skip := some (true, sp) } (conflictErr "flatten" "skip" mi) := by
  rw [fieldStep_skip o s mi (getIdent_of_isIdent hi)]
  simp [hfresh, hread, withRead, hfl, skipTrue]

theorem skip_false_after_flatten_ok (o : Oracle) (s : FieldOpts) (mi : Meta) (sp : Option Span)
    (hi : mi.path'.isIdent "skip" = true) (hfresh : s.skip.isSome = false)
    (hread : readOptSpannedBool mi = .ok (some (false, sp))) :
    fieldStep o s mi = .ok { s with skip := some (false, sp) } := by
  rw [fieldStep_skip o s mi (getIdent_of_isIdent hi)]
  simp [hfresh, hread, withRead, skipTrue]

/-! ### rules across the fields of one struct / the variants of one enum -/

/-- more than one `flatten` field: one diagnostic per flatten field -/
theorem flatten_rule (fields : List RField) :
    (flattenErrs fields).length = (if (fields.filter (·.flatten)).length > 1 then (fields.filter (·.flatten)).length else 0) := by
  unfold flattenErrs
  by_cases h : (fields.filter (·.flatten)).length > 1
  · simp [h]
  · simp [h]

/-- more than one `flatten` field is the only thing `Core::validate_body` complains about -/
theorem flattenErrs_nil_iff (fields : List RField) : flattenErrs fields = [] ↔ (fields.filter (·.flatten)).length ≤ 1 := by
  unfold flattenErrs
  by_cases h : (fields.filter (·.flatten)).length > 1
  · simp only [h, if_true]
    constructor
    · intro hn
      have : (fields.filter (·.flatten)).length = 0 := by
        have := congrArg List.length hn
        simpa using this
      omega
    · intro
      omega
  · simp only [h]
    simp
    omega

theorem single_flatten_ok (fields : List RField) (h : (fields.filter (·.flatten)).length ≤ 1) : flattenErrs fields = [] :=
  (flattenErrs_nil_iff fields).mpr h

/-! ### an impl is emitted exactly when nothing was reported -/

/-- `finish_with`: `Ok(options)` iff the accumulated diagnostics are empty -/
theorem finishWith_ok_iff {σ : Type} (s : σ) (errs : List Err) :
    (∃ s', finishWith (.ok (s, errs)) = .ok s') ↔ errs = [] :=
  ⟨fun ⟨_, h⟩ => (Prod.mk.inj (Except.ok.inj (C06.finishWith_ok h))).2, fun h => h ▸ ⟨s, rfl⟩⟩

/-- a union is rejected by every derive -/
theorem union_rejected (t : Trait) (o : Oracle) (sim : String → Option (Nat × String)) (sp : DeclSpans) (d : DeclD)
    (h : d.body = .union) : derive t o sim sp d = .err (Err.custom "Unions are not supported") := by
  unfold derive
  split
  · simp [deriveFromMeta, h]
  · simp [deriveOuter, h]

theorem empty_enum_rejected (t : Trait) (ht : t ≠ .fromMeta) (o : Oracle) (sim : String → Option (Nat × String)) (sp : DeclSpans) (d : DeclD)
    (h : d.body = .enum []) : derive t o sim sp d = .err ((Err.new (.unsupportedShape "enum" none)).withSpan sp.ident) := by
  unfold derive
  have : (t == Trait.fromMeta) = false := by cases t <;> first | exact absurd rfl ht | rfl
  simp [this, deriveOuter, h]

end C10
