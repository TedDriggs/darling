import Darling.FromMeta.ParseList
/-
  C15(a) — splitting a token stream into nested meta items.

  For every token stream and every behaviour of syn's `Lit` / `Meta` parsers (parameters):
  `parse_meta_list` succeeds with `items` exactly when the stream is a comma-separated sequence of
  items (`Splits`: a single comma separates neighbours, one trailing comma is allowed, the empty stream
  is the empty list), and the decomposition is unique.  What syn's `Lit` parser reads is a literal item
  unless it is `true` / `false` followed by `=`, which is an item like a path starting with `::` or
  with any identifier — keywords and raw identifiers included; anything else is rejected with
  "expected identifier or literal" at that token.  The recursion bound of the model is never the reason
  for an answer (`fuel_irrelevant`).
-/
namespace C15a
open ParseList

variable (toks : List Tok) (o : SynOracle)

/-- the declarative reading of "a comma-separated sequence of items, optional trailing comma" -/
inductive Splits : Nat → List Item → Prop where
  | done {i : Nat} : i ≥ toks.length → Splits i []
  | last {i j : Nat} {it : Item} : i < toks.length → itemAt toks o i = .ok (it, j) → j ≥ toks.length → Splits i [it]
  | cons {i j : Nat} {it : Item} {rest : List Item} : i < toks.length → itemAt toks o i = .ok (it, j) → j < toks.length →
      isComma toks j = true → Splits (j + 1) rest → Splits i (it :: rest)

theorem branch_cases (p q : Bool) :
    ((if p = true then Branch.lit else if q = true then .item else .reject) = .lit ↔ p = true) ∧
    ((if p = true then Branch.lit else if q = true then .item else .reject) = .item ↔ p = false ∧ q = true) ∧
    ((if p = true then Branch.lit else if q = true then .item else .reject) = .reject ↔ p = false ∧ q = false) := by
  cases p <;> cases q <;> decide

theorem branch_lit_iff (i : Nat) :
    branch toks o i = .lit ↔ ((o.lit i).isSome && !(isBoolIdent toks i && isEq toks (i + 1))) = true :=
  (branch_cases _ _).1

theorem branch_item_iff (i : Nat) :
    branch toks o i = .item ↔ ((o.lit i).isSome && !(isBoolIdent toks i && isEq toks (i + 1))) = false ∧
      (isAnyIdent toks i || (isColon2 toks i && isAnyIdent toks (i + 2))) = true :=
  (branch_cases _ _).2.1

theorem branch_reject_iff (i : Nat) :
    branch toks o i = .reject ↔ ((o.lit i).isSome && !(isBoolIdent toks i && isEq toks (i + 1))) = false ∧
      (isAnyIdent toks i || (isColon2 toks i && isAnyIdent toks (i + 2))) = false :=
  (branch_cases _ _).2.2

theorem itemAt_ok {i j : Nat} {it : Item} (h : itemAt toks o i = .ok (it, j)) :
    ∃ len s, j = i + len ∧
      ((branch toks o i = .lit ∧ o.lit i = some (len, s) ∧ it = .lit s) ∨
       (branch toks o i = .item ∧ o.meta_ i = .ok (len, s) ∧ it = .item s)) := by
  unfold itemAt at h
  split at h
  · split at h
    · cases h; exact ⟨_, _, rfl, .inl ⟨‹_›, ‹_›, rfl⟩⟩
    · cases h
  · split at h
    · cases h; exact ⟨_, _, rfl, .inr ⟨‹_›, ‹_›, rfl⟩⟩
    · cases h
  · cases h

theorem itemAt_ge (i j : Nat) (it : Item) (h : itemAt toks o i = .ok (it, j)) : i ≤ j := by
  obtain ⟨len, s, rfl, _⟩ := itemAt_ok toks o h
  exact Nat.le_add_right i len

/-- soundness: an `Ok` answer is the accumulated prefix followed by a `Splits` decomposition -/
theorem parseFrom_sound (fuel i : Nat) (acc res : List Item)
    (h : parseFrom toks o fuel i acc = .ok res) : ∃ items, res = acc ++ items ∧ Splits toks o i items := by
  induction fuel generalizing i acc with
  | zero => cases h
  | succ fuel ih =>
      unfold parseFrom at h
      by_cases hi : i ≥ toks.length
      · simp only [hi, if_true] at h
        cases h
        exact ⟨[], by simp, .done hi⟩
      · simp only [hi, if_false] at h
        cases hit : itemAt toks o i with
        | error e => rw [hit] at h; cases h
        | ok p =>
            obtain ⟨it, j⟩ := p
            rw [hit] at h
            dsimp only at h
            by_cases hj : j ≥ toks.length
            · simp only [hj, if_true] at h
              cases h
              exact ⟨[it], rfl, .last (by omega) hit hj⟩
            · simp only [hj, if_false] at h
              by_cases hc : isComma toks j = true
              · simp only [hc, if_true] at h
                obtain ⟨items, hres, hs⟩ := ih (j + 1) (acc ++ [it]) h
                exact ⟨it :: items, by simp [hres], .cons (by omega) hit (by omega) hc hs⟩
              · simp only [hc] at h
                cases h

/-- completeness: every decomposition is found, whenever the fuel covers the remaining tokens -/
theorem parseFrom_complete (i : Nat) (items : List Item) (hs : Splits toks o i items) :
    ∀ (fuel : Nat) (acc : List Item), toks.length - i ≤ fuel →
      parseFrom toks o (fuel + 1) i acc = .ok (acc ++ items) := by
  induction hs with
  | done hi => intro fuel acc _; unfold parseFrom; simp [hi]
  | @last i j it hi hit hj => intro fuel acc _; unfold parseFrom; simp [Nat.not_le.mpr hi, hit, hj]
  | @cons i j it rest hi hit hj hc _ ih =>
      intro fuel acc hf
      have hge := itemAt_ge toks o i j it hit
      obtain ⟨fuel, rfl⟩ : ∃ n, fuel = n + 1 := ⟨fuel - 1, by omega⟩
      unfold parseFrom
      simp [Nat.not_le.mpr hi, hit, Nat.not_le.mpr hj, hc, ih fuel (acc ++ [it]) (by omega)]

/-- **`parse_meta_list` succeeds exactly for comma-separated sequences of items, and returns them in order** -/
theorem parse_ok_iff (items : List Item) : parseList toks o = .ok items ↔ Splits toks o 0 items := by
  constructor
  · intro h
    obtain ⟨its, hres, hs⟩ := parseFrom_sound toks o _ 0 [] items h
    exact (List.nil_append its ▸ hres) ▸ hs
  · intro hs
    exact parseFrom_complete toks o 0 items hs toks.length [] (Nat.le_refl _)

theorem splits_unique (a b : List Item) (ha : Splits toks o 0 a) (hb : Splits toks o 0 b) : a = b := by
  have h1 := (parse_ok_iff toks o a).mpr ha
  have h2 := (parse_ok_iff toks o b).mpr hb
  rw [h1] at h2; cases h2; rfl

theorem empty_stream : parseList [] o = .ok [] := rfl

/-- the model's recursion bound is never the reason for its answer: once it covers the remaining
    tokens, more fuel changes nothing -/
theorem fuel_irrelevant : ∀ (fuel i : Nat) (acc : List Item) (extra : Nat), i ≤ toks.length → fuel + i ≥ toks.length + 1 →
    parseFrom toks o (fuel + extra) i acc = parseFrom toks o fuel i acc := by
  intro fuel
  induction fuel with
  | zero => intro i acc extra h1 h2; omega
  | succ fuel ih =>
      intro i acc extra h1 h2
      rw [Nat.add_right_comm]
      unfold parseFrom
      by_cases hi : i ≥ toks.length
      · simp [hi]
      · simp only [hi, if_false]
        cases hit : itemAt toks o i with
        | error e => rfl
        | ok p =>
            obtain ⟨it, j⟩ := p
            dsimp only
            by_cases hj : j ≥ toks.length
            · simp [hj]
            · simp only [hj, if_false]
              by_cases hc : isComma toks j = true
              · simp only [hc, if_true]
                have hge := itemAt_ge toks o i j it hit
                exact ih (j + 1) (acc ++ [it]) extra (by omega) (by omega)
              · simp [hc]

/-! ### classification (the look-ahead) -/

theorem bool_alone_is_literal (i : Nat) (hl : (o.lit i).isSome = true) (hne : isEq toks (i + 1) = false) :
    branch toks o i = .lit := by
  simp [branch, hl, hne]

theorem literal_is_literal (i : Nat) (hl : (o.lit i).isSome = true) (hb : isBoolIdent toks i = false) :
    branch toks o i = .lit := by
  simp [branch, hl, hb]

theorem bool_eq_is_item (i : Nat) (hb : isBoolIdent toks i = true) (he : isEq toks (i + 1) = true) :
    branch toks o i = .item := by
  have hid : isAnyIdent toks i = true := by
    unfold isBoolIdent at hb
    unfold isAnyIdent
    split at hb <;> simp_all
  simp [branch, hb, he, hid]

/-- any identifier — keywords (`crate`, `self`, `type`, …) and raw identifiers included — starts an item -/
theorem ident_is_item (i : Nat) (hid : isAnyIdent toks i = true) (hl : o.lit i = none) : branch toks o i = .item := by
  simp [branch, hl, hid]

/-- `::` followed by any identifier (keywords included) starts an item -/
theorem global_path_is_item (i : Nat) (hc : isColon2 toks i = true) (hid : isAnyIdent toks (i + 2) = true)
    (hl : o.lit i = none) : branch toks o i = .item := by
  simp [branch, hl, hc, hid]

theorem reject_iff (i : Nat) : branch toks o i = .reject ↔
    ((o.lit i).isSome = false ∨ (isBoolIdent toks i = true ∧ isEq toks (i + 1) = true)) ∧
    isAnyIdent toks i = false ∧ (isColon2 toks i = false ∨ isAnyIdent toks (i + 2) = false) := by
  rw [branch_reject_iff]
  simp only [Bool.and_eq_false_iff, Bool.or_eq_false_iff, Bool.not_eq_false', Bool.and_eq_true]

theorem reject_error (i : Nat) (h : branch toks o i = .reject) :
    itemAt toks o i = .error ("expected identifier or literal", spanAt toks i) := by
  simp [itemAt, h]

/-- a literal item is exactly what syn's `Lit` parser read at that position -/
theorem lit_item (i len : Nat) (s : String) (h : branch toks o i = .lit) (hl : o.lit i = some (len, s)) :
    itemAt toks o i = .ok (.lit s, i + len) := by
  simp [itemAt, h, hl]

theorem meta_item_ok (i len : Nat) (s : String) (h : branch toks o i = .item) (hm : o.meta_ i = .ok (len, s)) :
    itemAt toks o i = .ok (.item s, i + len) := by
  simp [itemAt, h, hm]

theorem meta_item_err (i : Nat) (e : String × Option Span) (h : branch toks o i = .item) (hm : o.meta_ i = .error e) :
    itemAt toks o i = .error e := by
  simp [itemAt, h, hm]

/-! ### `a, true` splits into an item and a literal -/

private def t (k : TokKind) : Tok := ⟨k, ⟨0, 0⟩⟩
private def ex : List Tok := [t (.ident "a"), t (.punct ',' false), t (.ident "true")]
private def exO : SynOracle :=
  { lit := fun i => if i == 2 then some (1, "true") else none,
    meta_ := fun i => if i == 0 then .ok (1, "a") else .error ("no", none) }

example : Splits ex exO 0 [.item "a", .lit "true"] :=
  .cons (j := 1) (by decide) rfl (by decide) (by decide) (.last (j := 3) (by decide) rfl (by decide))

end C15a
