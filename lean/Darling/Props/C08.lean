import Darling.Derive.Outer
/-
  C08 — Attribute selection, merging across attributes, and forwarding.

  For every element-level receiver `r` (any field set, any attribute names, any forward filter,
  with or without an `attrs` field) and every attribute list:

    * `attrLoop_spec`  the attribute walk is a function of two projections of the list only: the
                       *atoms* contributed by the selected attributes (their items one by one, or
                       one parse error) concatenated in source order, and the sub-list of
                       forwarded attributes;
    * `partition_invariance`  hence two attribute lists with the same atoms and the same forwarded
                       sub-list give the identical extractor result (value or errors) — any split
                       of the same items over one or more attributes, with bare / empty / foreign
                       attributes interspersed;
    * `forwarded_exact` the `attrs` field receives exactly `attrs.filter (forwardedBy r)`:
                       unmodified (the very same `Attr` values) and in source order;
    * `foreign_inert`  an attribute that is neither selected nor forwarded has no effect, whatever
                       its body.
-/
open Derive Options

namespace C08
variable {ν : Type}

/-- the attribute's path is one of the declared `attributes(..)` names -/
def selected (r : SOuter ν) (a : Attr) : Bool := r.willParseAny && r.attrNames.contains a.path.toStr

/-- the attribute is handed to the `attrs` field -/
def forwardedBy (r : SOuter ν) (a : Attr) : Bool :=
  !selected r a && r.willFwdAny &&
    (match r.forward with
     | some .all => true
     | some (.only names) => names.contains a.path.toStr
     | none => false)

/-- what one selected attribute contributes to the shared parser state -/
inductive Atom where
  | item (i : NestedMeta)
  | bad (e : Err)

def atomsOf (r : SOuter ν) (a : Attr) : List Atom :=
  if selected r a then
    match attrItems a with
    | .items xs => xs.map .item
    | .err e => [.bad e]
  else []

def atoms (r : SOuter ν) (attrs : List Attr) : List Atom := attrs.flatMap (atomsOf r)

def stepAtom (s : SStruct ν) (p : PState ν) : Atom → Except String (PState ν)
  | .item i => stepItem s p i
  | .bad e => .ok (p.push e)

def runAtoms (s : SStruct ν) : PState ν → List Atom → Except String (PState ν)
  | p, [] => .ok p
  | p, a :: rest => match stepAtom s p a with
      | .ok p' => runAtoms s p' rest
      | .error m => .error m

theorem runAtoms_append (s : SStruct ν) (p : PState ν) (xs ys : List Atom) :
    runAtoms s p (xs ++ ys) = (match runAtoms s p xs with
      | .ok p' => runAtoms s p' ys
      | .error m => .error m) := by
  induction xs generalizing p with
  | nil => rfl
  | cons a rest ih =>
      simp only [List.cons_append, runAtoms]
      cases stepAtom s p a with
      | ok p' => exact ih p'
      | error m => rfl

theorem runAtoms_items (s : SStruct ν) (p : PState ν) (xs : List NestedMeta) :
    runAtoms s p (xs.map .item) = coreLoop s p xs := by
  induction xs generalizing p with
  | nil => rfl
  | cons x rest ih =>
      simp only [List.map_cons, runAtoms, coreLoop, stepAtom]
      cases stepItem s p x with
      | ok p' => exact ih p'
      | error m => rfl

theorem atoms_cons (r : SOuter ν) (a : Attr) (rest : List Attr) :
    atoms r (a :: rest) = atomsOf r a ++ atoms r rest :=
  List.flatMap_cons

theorem atomsOf_of_not_selected {r : SOuter ν} {a : Attr} (h : selected r a = false) : atomsOf r a = [] :=
  if_neg (ne_true_of_eq_false h)

theorem forwardedBy_of_selected {r : SOuter ν} {a : Attr} (h : selected r a = true) : forwardedBy r a = false := by
  simp only [forwardedBy, h, Bool.not_true, Bool.false_and]

theorem filter_forwarded_cons {r : SOuter ν} {a : Attr} (h : selected r a = true) (l : List Attr) :
    (a :: l).filter (forwardedBy r) = l.filter (forwardedBy r) :=
  List.filter_cons_of_neg (by rw [forwardedBy_of_selected h]; exact Bool.false_ne_true)

/-- one attribute: its atoms run on the parser state, and it joins the forwarded list iff
    `forwardedBy` -/
theorem stepAttr_spec (r : SOuter ν) (st : XState ν) (a : Attr) :
    stepAttr r st a = (match runAtoms r.fields st.p (atomsOf r a) with
      | .ok p => .ok ⟨p, if forwardedBy r a then st.fwd ++ [a] else st.fwd⟩
      | .error m => .error m) := by
  cases hs : selected r a with
  | true =>
      -- `stepAttr` and `atomsOf` both branch on `selected r a` first
      rw [show stepAttr r st a = _ from if_pos hs, show atomsOf r a = _ from if_pos hs,
        forwardedBy_of_selected hs]
      cases attrItems a with
      | items xs =>
          cases xs with
          | nil => rfl
          | cons x rest =>
              rw [runAtoms_items]
              show Except.map _ (coreLoop r.fields st.p (x :: rest)) = _
              cases coreLoop r.fields st.p (x :: rest) <;> rfl
      | err e => rfl
  | false =>
      rw [show stepAttr r st a = _ from if_neg (ne_true_of_eq_false hs), atomsOf_of_not_selected hs]
      unfold forwardedBy
      rw [hs]
      cases r.willFwdAny with
      | false => rfl
      | true =>
          cases r.forward with
          | none => rfl
          | some f =>
              cases f with
              | all => rfl
              | only names =>
                  cases h : names.contains a.path.toStr with
                  | true => simp only [h]; rfl
                  | false => simp only [h]; rfl

/-- the whole attribute walk -/
theorem attrLoop_spec (r : SOuter ν) (st : XState ν) (attrs : List Attr) :
    attrLoop r st attrs = (match runAtoms r.fields st.p (atoms r attrs) with
      | .ok p => .ok ⟨p, st.fwd ++ attrs.filter (forwardedBy r)⟩
      | .error m => .error m) := by
  induction attrs generalizing st with
  | nil => exact congrArg Except.ok (congrArg (XState.mk st.p) (List.append_nil _).symm)
  | cons a rest ih =>
      rw [attrLoop, stepAttr_spec, atoms_cons, runAtoms_append]
      cases runAtoms r.fields st.p (atomsOf r a) with
      | error m => rfl
      | ok p =>
          dsimp only
          rw [ih]
          cases runAtoms r.fields p (atoms r rest) with
          | error m => rfl
          | ok p' =>
              cases hf : forwardedBy r a with
              | true => simp only [List.filter_cons, hf, if_true, List.append_assoc, List.cons_append, List.nil_append]
              | false => simp only [List.filter_cons, hf, Bool.false_eq_true, if_false]

/-- a receiver that neither parses nor forwards contributes no atoms and forwards nothing -/
theorem idle_atoms (r : SOuter ν) (h : (r.willParseAny || r.willFwdAny) = false) (attrs : List Attr) :
    atoms r attrs = [] ∧ attrs.filter (forwardedBy r) = [] := by
  obtain ⟨hp, hw⟩ := Bool.or_eq_false_iff.mp h
  constructor
  · exact List.flatMap_eq_nil_iff.mpr fun a _ =>
      atomsOf_of_not_selected (by rw [selected, hp, Bool.false_and])
  · exact List.filter_eq_nil_iff.mpr fun a _ => by
      simp only [forwardedBy, hw, Bool.and_false, Bool.false_and, Bool.false_eq_true, not_false_eq_true]

/-- the extractor as a function of the two projections -/
def extractSpec (r : SOuter ν) (ats : List Atom) (fwd : List Attr) : Except String (PState ν × Option ν) :=
  match runAtoms r.fields {} ats with
  | .error m => .error m
  | .ok p => attrsValue r p fwd

theorem extract_spec (r : SOuter ν) (attrs : List Attr) :
    extract r attrs = extractSpec r (atoms r attrs) (attrs.filter (forwardedBy r)) := by
  unfold extract extractSpec
  cases h : (r.willParseAny || r.willFwdAny) with
  | true =>
      simp only [Bool.not_true, Bool.false_eq_true, if_false]
      rw [attrLoop_spec]
      cases runAtoms r.fields ({} : XState ν).p (atoms r attrs) with
      | error m => rfl
      | ok p => exact congrArg (attrsValue r p) (List.nil_append _)
  | false =>
      obtain ⟨ha, hf⟩ := idle_atoms r h attrs
      rw [ha, hf]
      rfl

/-- **Merging.**  Two attribute lists with the same atoms in the same order and the same
    forwarded attributes give the identical parser state, `attrs` value and errors. -/
theorem partition_invariance (r : SOuter ν) (a1 a2 : List Attr)
    (hat : atoms r a1 = atoms r a2) (hf : a1.filter (forwardedBy r) = a2.filter (forwardedBy r)) :
    extract r a1 = extract r a2 := by
  rw [extract_spec, extract_spec, hat, hf]

/-- **Forwarding.**  Whenever the walk completes, the forwarded list is exactly the sub-list of
    attributes picked by `forwardedBy`: the same values, in source order. -/
theorem forwarded_exact (r : SOuter ν) (attrs : List Attr) (st : XState ν)
    (h : attrLoop r {} attrs = .ok st) : st.fwd = attrs.filter (forwardedBy r) := by
  rw [attrLoop_spec] at h
  cases hr : runAtoms r.fields ({} : XState ν).p (atoms r attrs) with
  | error m => rw [hr] at h; cases h
  | ok p => rw [hr] at h; cases h; exact List.nil_append _

theorem forward_all (r : SOuter ν) (hfw : r.forward = some .all) (hattrs : r.attrsField.isSome) (a : Attr) :
    forwardedBy r a = !selected r a := by
  simp [forwardedBy, SOuter.willFwdAny, hfw, hattrs, FwdFilter.isEmpty]

theorem forward_only (r : SOuter ν) (names : List String) (hfw : r.forward = some (.only names)) (a : Attr) :
    forwardedBy r a = true → a.path.toStr ∈ names ∧ selected r a = false := by
  simp only [forwardedBy, hfw]
  intro h
  simp at h
  exact ⟨h.2, by simpa using h.1.1⟩

/-- splitting: the atoms of a list are the atoms of its parts -/
theorem atoms_append (r : SOuter ν) (xs ys : List Attr) : atoms r (xs ++ ys) = atoms r xs ++ atoms r ys := by
  simp [atoms, List.flatMap_append]

/-- a selected, well-formed list attribute contributes exactly its items -/
theorem atomsOf_items (r : SOuter ν) (a : Attr) (xs : List NestedMeta) (hs : selected r a = true)
    (hi : attrItems a = .items xs) : atomsOf r a = xs.map .item := by
  rw [atomsOf, if_pos hs, hi]

/-- **Splitting the same items.**  One selected attribute holding `xs ++ ys` is equivalent to two
    selected attributes (under any of the declared names) holding `xs` and `ys`. -/
theorem split_two (r : SOuter ν) (a a1 a2 : Attr) (xs ys : List NestedMeta)
    (hs : selected r a = true) (hs1 : selected r a1 = true) (hs2 : selected r a2 = true)
    (hi : attrItems a = .items (xs ++ ys)) (hi1 : attrItems a1 = .items xs) (hi2 : attrItems a2 = .items ys)
    (pre post : List Attr) :
    extract r (pre ++ a :: post) = extract r (pre ++ a1 :: a2 :: post) := by
  apply partition_invariance
  · rw [atoms_append, atoms_append, atoms_cons, atoms_cons, atoms_cons, atomsOf_items r a _ hs hi,
      atomsOf_items r a1 _ hs1 hi1, atomsOf_items r a2 _ hs2 hi2, List.map_append, List.append_assoc]
  · rw [List.filter_append, List.filter_append, filter_forwarded_cons hs, filter_forwarded_cons hs1,
      filter_forwarded_cons hs2]

/-- a bare (`#[name]`) or empty (`#[name()]`) attribute contributes nothing -/
theorem bare_or_empty_atoms (r : SOuter ν) (a : Attr) (h : attrItems a = .items []) : atomsOf r a = [] := by
  cases hs : selected r a with
  | true => exact atomsOf_items r a [] hs h
  | false => exact atomsOf_of_not_selected hs

/-- **Inertness.**  An attribute that contributes no atoms and is not forwarded can be inserted at
    or removed from any position without effect — in particular every attribute whose path is
    neither declared nor forwarded, whatever its body (the body is never inspected), and every
    bare or empty selected attribute. -/
theorem inert_anywhere (r : SOuter ν) (a : Attr) (ha : atomsOf r a = []) (hf : forwardedBy r a = false)
    (pre post : List Attr) : extract r (pre ++ a :: post) = extract r (pre ++ post) := by
  apply partition_invariance
  · rw [atoms_append, atoms_append, atoms_cons, ha, List.nil_append]
  · rw [List.filter_append, List.filter_append, List.filter_cons_of_neg (by rw [hf]; exact Bool.false_ne_true)]

theorem foreign_inert (r : SOuter ν) (a : Attr) (hs : selected r a = false) (hf : forwardedBy r a = false)
    (pre post : List Attr) : extract r (pre ++ a :: post) = extract r (pre ++ post) :=
  inert_anywhere r a (atomsOf_of_not_selected hs) hf pre post

theorem selection_by_path_only (r : SOuter ν) (a b : Attr) (h : a.path.toStr = b.path.toStr) :
    selected r a = selected r b ∧ forwardedBy r a = forwardedBy r b := by
  simp [selected, forwardedBy, h]

/-- a bare / empty selected attribute is not forwarded either: it is inert -/
theorem bare_selected_inert (r : SOuter ν) (a : Attr) (hs : selected r a = true) (h : attrItems a = .items [])
    (pre post : List Attr) : extract r (pre ++ a :: post) = extract r (pre ++ post) :=
  inert_anywhere r a (bare_or_empty_atoms r a h) (forwardedBy_of_selected hs) pre post

/-! ### several attributes are one list -/

/-- the items of the selected attributes, concatenated in source order -/
def selItems (r : SOuter ν) (attrs : List Attr) : List NestedMeta :=
  attrs.flatMap (fun a => if selected r a then (match attrItems a with
    | .items xs => xs
    | .err _ => []) else [])

/-- every selected attribute has a body that is a list of items (bare and empty ones included) -/
def AllParse (r : SOuter ν) (attrs : List Attr) : Prop :=
  ∀ a ∈ attrs, selected r a = true → ∃ xs, attrItems a = .items xs

theorem selItems_cons (r : SOuter ν) (a : Attr) (rest : List Attr) :
    selItems r (a :: rest) = (if selected r a then (match attrItems a with
      | .items xs => xs
      | .err _ => []) else []) ++ selItems r rest :=
  List.flatMap_cons

theorem atoms_of_allParse (r : SOuter ν) (attrs : List Attr) (h : AllParse r attrs) :
    atoms r attrs = (selItems r attrs).map .item := by
  induction attrs with
  | nil => rfl
  | cons a rest ih =>
      rw [atoms_cons, selItems_cons, List.map_append, ih fun b hb => h b (List.mem_cons_of_mem _ hb)]
      congr 1
      cases hs : selected r a with
      | false => rw [atomsOf_of_not_selected hs]; rfl
      | true =>
          obtain ⟨xs, hx⟩ := h a List.mem_cons_self hs
          rw [atomsOf_items r a xs hs hx, hx]
          rfl

/-- **Several declared attributes on one element are a single item list**: the parser state after
    the attribute walk is that of the struct parser's item loop (`FieldsGen::core_loop`, the loop of
    C01 / C02) run once over the concatenation of their items. -/
theorem walk_is_one_list (r : SOuter ν) (attrs : List Attr) (h : AllParse r attrs) :
    extract r attrs = (match coreLoop r.fields {} (selItems r attrs) with
      | .ok p => attrsValue r p (attrs.filter (forwardedBy r))
      | .error m => .error m) := by
  rw [extract_spec, extractSpec, atoms_of_allParse r attrs h, runAtoms_items]
  cases coreLoop r.fields {} (selItems r attrs) <;> rfl

/-! ### after the walk: which part decides the struct literal -/

theorem assemble_cases (r : SOuter ν) (st : PState ν) (av : Option ν) (late : List (String × Outcome ν))
    (early : List (String × ν)) (build : List (String × ν) → ν) :
    (∃ a l i, assemble r st av late early build = r.fields.post (build (early ++ a ++ l ++ i)))
    ∨ (∃ m, assemble r st av late early build = .panic m ∧
        (attrsPart r av = .panic m ∨ lateValues late = .panic m ∨ initFields r.fields st r.fields.fields = .panic m))
    ∨ (∃ e, assemble r st av late early build = .err e ∧
        (attrsPart r av = .err e ∨ lateValues late = .err e ∨ initFields r.fields st r.fields.fields = .err e)) := by
  unfold assemble
  generalize attrsPart r av = A
  generalize lateValues late = L
  generalize initFields r.fields st r.fields.fields = I
  cases A with
  | panic _ => exact Or.inr (Or.inl ⟨_, rfl, Or.inl rfl⟩)
  | ok a =>
      cases L with
      | panic _ => exact Or.inr (Or.inl ⟨_, rfl, Or.inr (Or.inl rfl)⟩)
      | ok l =>
          cases I with
          | panic _ => exact Or.inr (Or.inl ⟨_, rfl, Or.inr (Or.inr rfl)⟩)
          | ok i => exact Or.inl ⟨a, l, i, rfl⟩
          | err _ => exact Or.inr (Or.inr ⟨_, rfl, Or.inr (Or.inr rfl)⟩)
      | err _ =>
          cases I with
          | panic _ => exact Or.inr (Or.inl ⟨_, rfl, Or.inr (Or.inr rfl)⟩)
          | ok _ => exact Or.inr (Or.inr ⟨_, rfl, Or.inr (Or.inl rfl)⟩)
          | err _ => exact Or.inr (Or.inr ⟨_, rfl, Or.inr (Or.inl rfl)⟩)
  | err _ =>
      cases L with
      | panic _ => exact Or.inr (Or.inl ⟨_, rfl, Or.inr (Or.inl rfl)⟩)
      | ok _ =>
          cases I with
          | panic _ => exact Or.inr (Or.inl ⟨_, rfl, Or.inr (Or.inr rfl)⟩)
          | ok _ => exact Or.inr (Or.inr ⟨_, rfl, Or.inl rfl⟩)
          | err _ => exact Or.inr (Or.inr ⟨_, rfl, Or.inl rfl⟩)
      | err _ =>
          cases I with
          | panic _ => exact Or.inr (Or.inl ⟨_, rfl, Or.inr (Or.inr rfl)⟩)
          | ok _ => exact Or.inr (Or.inr ⟨_, rfl, Or.inl rfl⟩)
          | err _ => exact Or.inr (Or.inr ⟨_, rfl, Or.inl rfl⟩)

/-! ### non-vacuity -/

private def mkPath (name : String) : Path := { global := false, segs := [name], plain := true, toks := name, span := ⟨0, 0⟩ }
private def mkAttr (name : String) (items : List NestedMeta) : Attr :=
  { path := mkPath name, body := .list (mkPath name) items none none "" ⟨0, 0⟩, toks := "", span := ⟨0, 0⟩ }
private def word (name : String) : NestedMeta := .item (.path (mkPath name))
private def r0 : SOuter Nat :=
  { fields := { fields := [], allowUnknown := false, containerDefault := none, build := fun _ => 0, mkList := fun _ => 0,
                post := .ok, score := fun _ _ => 0, thr := 0 },
    attrNames := ["my", "conf"], forward := some .all, attrsField := some (fun as => .ok as.length) }

/-- the hypotheses of `split_two` are met by a concrete receiver and concrete attributes -/
example : selected r0 (mkAttr "my" [word "a", word "b"]) = true ∧ selected r0 (mkAttr "conf" [word "a"]) = true ∧
    attrItems (mkAttr "my" [word "a", word "b"]) = .items ([word "a"] ++ [word "b"]) ∧
    forwardedBy r0 (mkAttr "doc" []) = true ∧ selected r0 (mkAttr "doc" []) = false := by
  refine ⟨by decide, by decide, rfl, by decide, by decide⟩

end C08
