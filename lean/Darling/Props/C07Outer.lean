import Darling.Lemmas.NoPanic
import Darling.Lemmas.Struct
import Darling.Props.C08
/-
  C07, element-level receivers: the generated `from_derive_input` / `from_field` / `from_variant` /
  `from_type_param` / `from_attributes` never panics, for every attribute list (any bodies, any
  order, malformed or not) and every element, provided the field converters, the user-supplied
  `with` functions and the post-transform return.

  The walk over the generated code is done once, for an arbitrary predicate `P` on the messages the
  user-supplied pieces panic with (`PanicsIn`, `OkOr`): `P := fun _ => False` gives the statements
  above, `C07Spec` reads `P` as "a panic of one of these pieces".  The same walk serves the `FromMeta`
  struct receivers (`fromList_panic`, `struct_fromList_returns`).

  The two `expect`s of the generated code are dead:
    * `attrs.expect("Errors were already checked")` (attrs_field.rs): the value populator pushed an
      error whenever it left `attrs` empty, and `check_errors` returned before the literal;
    * `expect("Uninitialized fields without defaults were already checked")` (field.rs): a slot
      without value is either unseen — then `CheckMissing` filled it or pushed an error — or seen
      with a failed conversion — then the error was pushed when it was seen.
-/
open Derive Options

namespace C07
variable {ν : Type}

/-- what the model assumes of the parts darling does not generate -/
structure ConvsReturn (s : SStruct ν) : Prop where
  conv : ∀ f ∈ s.fields, ∀ m msg, f.conv m ≠ .panic msg
  list : ∀ f ∈ s.fields, ∀ items msg, f.fromList items ≠ .panic msg
  post : ∀ v msg, s.post v ≠ .panic msg
  /-- a field whose default is inherited has a container default to inherit from (derive-time check) -/
  dflt : ∀ f ∈ s.fields, f.dflt = some .inherit → s.containerDefault.isSome = true

/-- derive-time fact (`derive_linked`): a field that inherits its default has a container default
    to inherit from -/
def DefaultsHaveSource (s : SStruct ν) : Prop :=
  ∀ f ∈ s.fields, f.dflt = some .inherit → s.containerDefault.isSome = true

/-- a slot that was seen but holds no value has left an error behind -/
def Good (st : PState ν) : Prop :=
  st.errs ≠ [] ∨ ∀ id, (st.slot id).seen = true → (st.slot id).val ≠ none

theorem good_init : Good ({} : PState ν) := Or.inr (fun _ h => by cases h)

theorem good_push (st : PState ν) (e : Err) : Good (st.push e) := Or.inl (by simp [PState.push])

theorem good_set (st : PState ν) (id : String) (s : Slot ν) (h : Good st)
    (hs : (∀ j, (st.slot j).seen = true → (st.slot j).val ≠ none) → s.seen = true → s.val ≠ none) :
    Good (st.set id s) := by
  rcases h with h | h
  · exact Or.inl h
  · have hs := hs h
    right; intro j
    show ((if j == id then s else st.slot j).seen = true → (if j == id then s else st.slot j).val ≠ none)
    by_cases hj : (j == id) = true
    · simp only [hj, if_true]; exact hs
    · simp only [hj]; exact h j

/-! ### the walk, whatever the user-supplied pieces do

  Nothing is assumed of the converters, list hooks and post-transform; `P := fun _ => False` is
  `ConvsReturn`. -/

/-- the messages the user-supplied pieces of `s` panic with all satisfy `P` -/
structure PanicsIn (s : SStruct ν) (P : String → Prop) : Prop where
  conv : ∀ f ∈ s.fields, ∀ x m, f.conv x = .panic m → P m
  list : ∀ f ∈ s.fields, ∀ xs m, f.fromList xs = .panic m → P m
  post : ∀ v m, s.post v = .panic m → P m

theorem ConvsReturn.panicsIn {s : SStruct ν} (hc : ConvsReturn s) : PanicsIn s (fun _ => False) :=
  ⟨fun f hf x m => hc.conv f hf x m, fun f hf xs m => hc.list f hf xs m, fun v m => hc.post v m⟩

/-- a stage that may stop with a message: it went through with a result in `Q`, or its message is in `P` -/
def OkOr {σ : Type} (P : String → Prop) (Q : σ → Prop) : Except String σ → Prop
  | .ok a => Q a
  | .error m => P m

theorem OkOr.ok {σ : Type} {Q : σ → Prop} {r : Except String σ} (h : OkOr (fun _ => False) Q r) :
    ∃ a, r = .ok a ∧ Q a := by
  cases r with
  | ok a => exact ⟨a, rfl, h⟩
  | error m => exact h.elim

section Walk
variable {P : String → Prop}

theorem stepItem_okOr (s : SStruct ν) (hp : PanicsIn s P) (st : PState ν) (it : NestedMeta) (hg : Good st) :
    OkOr P Good (stepItem s st it) := by
  have hc := stepItem_case s st it
  generalize stepItem s st it = res at hc
  cases hc with
  | manyOk inner f v => exact good_set _ _ _ hg (fun h => h f.ident)
  | firstOk inner f v => exact good_set _ _ _ hg (fun _ _ => Option.some_ne_none v)
  | panic inner f m ha _ hcv => exact hp.conv f (SStruct.mem_of_arm ha) inner m hcv
  | buffered | ignored => exact hg
  | lit | manyErr | firstErr | repeated | unknown => exact good_push _ _

theorem coreLoop_okOr (s : SStruct ν) (hp : PanicsIn s P) (items : List NestedMeta) (st : PState ν) (hg : Good st) :
    OkOr P Good (coreLoop s st items) := by
  have step (st : PState ν) (it : NestedMeta) (hg : Good st) {res : Except String (PState ν)}
      (hs : stepItem s st it = res) : OkOr P Good res :=
    hs ▸ stepItem_okOr s hp st it hg
  have hind := coreLoop_induct (r := s) (I := fun _ st => Good st) (E := P) items
    (fun _ it st _ _ hg hs => step st it hg hs) (fun _ it st _ _ hg hs => step st it hg hs) [] st hg
  cases h : coreLoop s st items with
  | ok st' => exact hind.1 st' h
  | error m => exact hind.2 m h

theorem runAtoms_okOr (s : SStruct ν) (hp : PanicsIn s P) : ∀ (ats : List C08.Atom) (st : PState ν), Good st →
    OkOr P Good (C08.runAtoms s st ats)
  | [], _, hg => hg
  | .item i :: rest, st, hg => by
      have h1 := stepItem_okOr s hp st i hg
      simp only [C08.runAtoms, C08.stepAtom]
      cases hs : stepItem s st i with
      | ok st1 => rw [hs] at h1; exact runAtoms_okOr s hp rest st1 h1
      | error m => rw [hs] at h1; exact h1
  | .bad e :: rest, st, _ => runAtoms_okOr s hp rest _ (good_push st e)

/-- the value populator leaves `attrs` empty only after pushing an error -/
def AttrsGuard (r : SOuter ν) (st : PState ν) (av : Option ν) : Prop :=
  r.attrsField.isSome = true → av = none → st.errs ≠ []

theorem extract_okOr (r : SOuter ν) (hp : PanicsIn r.fields P)
    (hw : ∀ mk, r.attrsField = some mk → ∀ as m, mk as = .panic m → P m) (attrs : List Attr) :
    OkOr P (fun x => Good x.1 ∧ AttrsGuard r x.1 x.2) (extract r attrs) := by
  rw [C08.extract_spec]
  unfold C08.extractSpec
  have h1 := runAtoms_okOr r.fields hp (C08.atoms r attrs) {} good_init
  cases hs : C08.runAtoms r.fields {} (C08.atoms r attrs) with
  | error m => rw [hs] at h1; exact h1
  | ok st =>
      rw [hs] at h1
      simp only [attrsValue]
      cases ha : r.attrsField with
      | none => exact ⟨h1, by simp [AttrsGuard, ha]⟩
      | some mk =>
          simp only []
          cases hm : mk (attrs.filter (C08.forwardedBy r)) with
          | ok v => exact ⟨h1, by intro _ h; cases h⟩
          | err e => exact ⟨good_push _ _, by intro _ _; simp [PState.push]⟩
          | panic m => exact hw mk ha _ m hm

/-! ### after the walk -/

theorem flattenInit_okOr (s : SStruct ν) (hp : PanicsIn s P) (st : PState ν) (hg : Good st) :
    OkOr P (fun st' => Good st' ∧ (st.errs ≠ [] → st'.errs ≠ [])) (flattenInit s st) := by
  have hc := flattenInit_case s st
  generalize flattenInit s st = res at hc
  cases hc with
  | none => exact ⟨hg, id⟩
  | ok ff v => exact ⟨good_set _ _ _ hg (fun _ _ => Option.some_ne_none v), id⟩
  | err ff e => exact ⟨good_push _ _, fun _ => List.append_ne_nil_of_right_ne_nil _ (List.cons_ne_nil _ _)⟩
  | panic ff m h hl => exact hp.list ff (List.mem_of_find?_eq_some h) _ m hl

/-- after `CheckMissing`: a plain field without default has a value, or an error is on record
    (`checkMissing_checked` proves it field by field) -/
def Checked (fs : List (SField ν)) (st : PState ν) : Prop :=
  st.errs ≠ [] ∨ ∀ f ∈ fs, f.multiple = false → f.dflt = none → (st.slot f.ident).val ≠ none

theorem checkOne_good (f : SField ν) (st : PState ν) (hg : Good st) :
    Good (checkOne f st) ∧ (st.errs ≠ [] → (checkOne f st).errs ≠ []) := by
  have hc := checkOne_case f st
  generalize checkOne f st = st' at hc ⊢
  cases hc with
  | exempt | seen => exact ⟨hg, id⟩
  | fromNone v => exact ⟨good_set _ _ _ hg (fun _ _ => Option.some_ne_none v), id⟩
  | missing => exact ⟨good_push _ _, fun _ => List.append_ne_nil_of_right_ne_nil _ (List.cons_ne_nil _ _)⟩

theorem checkOne_keeps (f : SField ν) (st : PState ν) (j : String)
    (h : st.errs ≠ [] ∨ (st.slot j).val ≠ none) :
    (checkOne f st).errs ≠ [] ∨ ((checkOne f st).slot j).val ≠ none := by
  have hc := checkOne_case f st
  generalize checkOne f st = st' at hc ⊢
  cases hc with
  | exempt | seen => exact h
  | fromNone v =>
      refine h.imp_right (fun h => ?_)
      show (if j == f.ident then _ else st.slot j).val ≠ none
      exact ite_ind (P := fun s : Slot ν => s.val ≠ none) (Option.some_ne_none v) h
  | missing => exact Or.inl (List.append_ne_nil_of_right_ne_nil _ (List.cons_ne_nil _ _))

theorem checkOne_decides (f : SField ν) (st : PState ν) (hg : Good st) (hmul : f.multiple = false)
    (hd : f.dflt = none) : (checkOne f st).errs ≠ [] ∨ ((checkOne f st).slot f.ident).val ≠ none := by
  have hc := checkOne_case f st
  generalize checkOne f st = st' at hc ⊢
  cases hc with
  | exempt h => rw [hmul, hd] at h; cases h
  | seen _ hs => exact hg.imp_right (fun h => h f.ident hs)
  | fromNone v =>
      right
      show (if f.ident == f.ident then _ else st.slot f.ident).val ≠ none
      rw [if_pos (beq_self_eq_true _)]
      exact Option.some_ne_none v
  | missing => exact Or.inl (List.append_ne_nil_of_right_ne_nil _ (List.cons_ne_nil _ _))

theorem checkMissing_good (fs : List (SField ν)) (st : PState ν) (hg : Good st) :
    Good (checkMissing fs st) ∧ (st.errs ≠ [] → (checkMissing fs st).errs ≠ []) :=
  checkMissing_induct (I := fun st' => Good st' ∧ (st.errs ≠ [] → st'.errs ≠ [])) fs
    (fun f _ st1 h1 => ⟨(checkOne_good f st1 h1.1).1, fun h => (checkOne_good f st1 h1.1).2 (h1.2 h)⟩) st ⟨hg, id⟩

/-- values and errors only accumulate during `CheckMissing` -/
theorem checkMissing_keeps (fs : List (SField ν)) (st : PState ν) (id : String)
    (h : st.errs ≠ [] ∨ (st.slot id).val ≠ none) :
    (checkMissing fs st).errs ≠ [] ∨ ((checkMissing fs st).slot id).val ≠ none :=
  checkMissing_induct fs (fun f _ st1 => checkOne_keeps f st1 id) st h

theorem checkMissing_checked (fs : List (SField ν)) (st : PState ν) (hg : Good st) :
    ∀ f ∈ fs, f.multiple = false → f.dflt = none →
      (checkMissing fs st).errs ≠ [] ∨ ((checkMissing fs st).slot f.ident).val ≠ none := by
  induction fs generalizing st with
  | nil => intro f hf; cases hf
  | cons g rest ih =>
      intro f hf hmul hd
      rcases List.mem_cons.mp hf with rfl | hrest
      · -- the head field: decided now, kept afterwards
        exact checkMissing_keeps rest _ _ (checkOne_decides f st hg hmul hd)
      · exact ih _ (checkOne_good g st hg).1 f hrest hmul hd

theorem defaultValue_ne_panic (s : SStruct ν) (hd : DefaultsHaveSource s) (f : SField ν) (hf : f ∈ s.fields)
    (d : DefaultSrc ν) (hdf : f.dflt = some d) (msg : String) : defaultValue s f d ≠ .panic msg := by
  cases d with
  | value v => simp [defaultValue]
  | inherit =>
      have := hd f hf hdf
      cases hcd : s.containerDefault with
      | none => rw [hcd] at this; cases this
      | some cd => simp [defaultValue, hcd]

/-- the initialiser's `expect` is dead once `CheckMissing` has been through -/
theorem initField_ne_panic (s : SStruct ν) (hd : DefaultsHaveSource s) (st : PState ν) (f : SField ν)
    (hf : f ∈ s.fields) (hv : f.multiple = false → f.dflt = none → (st.slot f.ident).val ≠ none)
    (msg : String) : initField s st f ≠ .panic msg := by
  unfold initField
  cases hmul : f.multiple with
  | true =>
      rw [if_pos rfl]
      cases hdf : f.dflt with
      | none => exact fun h => nomatch h
      | some d =>
          exact ite_ind (P := fun o : Outcome ν => o ≠ .panic msg) (fun h => nomatch h)
            (defaultValue_ne_panic s hd f hf d hdf msg)
  | false =>
      rw [if_neg Bool.false_ne_true]
      cases hdf : f.dflt with
      | some d =>
          cases (st.slot f.ident).val with
          | some v => exact fun h => nomatch h
          | none => exact defaultValue_ne_panic s hd f hf d hdf msg
      | none =>
          cases hval : (st.slot f.ident).val with
          | some v => exact fun h => nomatch h
          | none => exact absurd hval (hv hmul hdf)

theorem initFields_ne_panic (s : SStruct ν) (hd : DefaultsHaveSource s) (st : PState ν)
    (fs : List (SField ν)) (hsub : ∀ f ∈ fs, f ∈ s.fields)
    (hv : ∀ f ∈ fs, f.multiple = false → f.dflt = none → (st.slot f.ident).val ≠ none) :
    ∀ msg, initFields s st fs ≠ .panic msg := by
  induction fs with
  | nil => simp [initFields]
  | cons f rest ih =>
      have h1 := initField_ne_panic s hd st f (hsub f List.mem_cons_self) (hv f List.mem_cons_self)
      have h2 := ih (fun g hg => hsub g (List.mem_cons_of_mem _ hg)) (fun g hg => hv g (List.mem_cons_of_mem _ hg))
      intro msg
      unfold initFields
      cases hi : initField s st f with
      | ok v =>
          simp only []
          cases hr : initFields s st rest with
          | ok l => simp [Outcome.map]
          | err e => simp [Outcome.map]
          | panic m => exact absurd hr (h2 m)
      | err e => simp
      | panic m => exact absurd hi (h1 m)

theorem initFields_checked_ne_panic (s : SStruct ν) (hd : DefaultsHaveSource s) (st : PState ν) (hg : Good st)
    (he : (checkMissing s.fields st).errs = []) (msg : String) :
    initFields s (checkMissing s.fields st) s.fields ≠ .panic msg :=
  initFields_ne_panic s hd _ s.fields (fun _ h => h)
    (fun f hf hm hdf => (checkMissing_checked s.fields st hg f hf hm hdf).resolve_left (fun h => h he)) msg

theorem lateValues_origin (parts : List (String × Outcome ν)) (m : String)
    (h : lateValues parts = .panic m) : ∃ p ∈ parts, p.2 = .panic m := by
  induction parts with
  | nil => cases h
  | cons p rest ih =>
      obtain ⟨k, o⟩ := p
      unfold lateValues at h
      cases o with
      | ok v =>
          simp only [] at h
          cases hr : lateValues rest with
          | ok l => rw [hr] at h; cases h
          | err e => rw [hr] at h; cases h
          | panic m' =>
              rw [hr] at h
              cases h
              obtain ⟨q, hq, hq2⟩ := ih hr
              exact ⟨q, List.mem_cons_of_mem _ hq, hq2⟩
      | err e => cases h
      | panic m' => cases h; exact ⟨_, List.mem_cons_self, rfl⟩

theorem bundleErr_returns (errs : List Err) (h : errs ≠ []) (msg : String) : (Err.bundleErr errs : Outcome ν) ≠ .panic msg :=
  Err.bundleErr_returns h msg

theorem assemble_panic (r : SOuter ν) (st : PState ν) (av : Option ν) (late : List (String × Outcome ν))
    (early : List (String × ν)) (build : List (String × ν) → ν) (m : String)
    (h : assemble r st av late early build = .panic m) :
    attrsPart r av = .panic m ∨ lateValues late = .panic m ∨
      initFields r.fields st r.fields.fields = .panic m ∨ ∃ v, r.fields.post v = .panic m := by
  rcases C08.assemble_cases r st av late early build with ⟨a, l, i, hb⟩ | ⟨m', hm, hparts⟩ | ⟨e, he, _⟩
  · exact Or.inr (Or.inr (Or.inr ⟨_, hb.symm.trans h⟩))
  · obtain rfl : m' = m := Outcome.panic.inj (hm.symm.trans h)
    rcases hparts with h1 | h1 | h1
    · exact Or.inl h1
    · exact Or.inr (Or.inl h1)
    · exact Or.inr (Or.inr (Or.inl h1))
  · rw [he] at h; cases h

/-- `attrs.expect("Errors were already checked")` is dead once the error check has been passed -/
theorem attrsPart_ne_panic (r : SOuter ν) (st : PState ν) (av : Option ν) (hav : AttrsGuard r st av)
    (he : st.errs = []) (m : String) : attrsPart r av ≠ .panic m := by
  unfold attrsPart
  cases haf : r.attrsField with
  | none => simp
  | some mk =>
      cases hav' : av with
      | some v => simp
      | none => exact absurd he (hav (by simp [haf]) hav')

section Finish
variable (r : SOuter ν) (hp : PanicsIn r.fields P)
  (hd : DefaultsHaveSource r.fields)
  (late : List (String × Outcome ν)) (hl : ∀ p ∈ late, ∀ m, p.2 = .panic m → P m)
  (early : List (String × ν)) (build : List (String × ν) → ν)
include hp hd hl

theorem finishChecked_panic (st : PState ν) (av : Option ν) (hg : Good st) (hav : AttrsGuard r st av) (m : String)
    (h : finishChecked r st av late early build = .panic m) : P m := by
  unfold finishChecked at h
  have h1 := flattenInit_okOr r.fields hp st hg
  cases hf : flattenInit r.fields st with
  | error m' => rw [hf] at h; cases h; rw [hf] at h1; exact h1
  | ok st1 =>
      rw [hf] at h h1
      obtain ⟨g1, m1⟩ := h1
      simp only [] at h
      cases he : (checkMissing r.fields.fields st1).errs with
      | cons e es => rw [he] at h; exact absurd h (bundleErr_returns _ (by simp) m)
      | nil =>
          rw [he] at h
          have hnoerr : st.errs = [] := by
            cases hs : st.errs with
            | nil => rfl
            | cons x xs => exact absurd he ((checkMissing_good r.fields.fields st1 g1).2 (m1 (by rw [hs]; simp)))
          rcases assemble_panic r _ av late early build m h with hA | hL | hI | ⟨v, hv⟩
          · exact absurd hA (attrsPart_ne_panic r st av hav hnoerr m)
          · obtain ⟨p, hpl, hp2⟩ := lateValues_origin late m hL
            exact hl p hpl m hp2
          · exact absurd hI (initFields_checked_ne_panic r.fields hd st1 g1 he m)
          · exact hp.post v m hv

/-- **what follows the attribute walk relies on no `expect` of its own**: a panic of shape validation,
    presence check, error check and struct literal together is a panic of a user-supplied piece, of the
    validator or of a pass-through member -/
theorem finishOuter_panic (st : PState ν) (av : Option ν) (hg : Good st) (hav : AttrsGuard r st av)
    (validate : Outcome Unit) (hv : ∀ m, validate = .panic m → P m) (m : String)
    (h : finishOuter r st av validate late early build = .panic m) : P m := by
  unfold finishOuter at h
  cases validate with
  | panic m' => cases h; exact hv m rfl
  | ok u => exact finishChecked_panic r hp hd late hl early build st av hg hav m h
  | err e =>
      exact finishChecked_panic r hp hd late hl early build (st.push e) av (good_push _ _)
        (fun _ _ => by simp [PState.push]) m h

end Finish

/-- **An element-level receiver returns**: attribute walk, shape validation, presence check, error
    check and struct literal together never panic — whatever the attributes and the element. -/
theorem outer_returns (r : SOuter ν) (hc : ConvsReturn r.fields)
    (hw : ∀ mk, r.attrsField = some mk → ∀ as msg, mk as ≠ .panic msg)
    (attrs : List Attr) (validate : Outcome Unit) (hv : ∀ msg, validate ≠ .panic msg)
    (lateParts : List (String × Outcome ν)) (hl : ∀ p ∈ lateParts, ∀ msg, p.2 ≠ .panic msg)
    (early : List (String × ν)) (build : List (String × ν) → ν) :
    ∃ st av, extract r attrs = .ok (st, av) ∧
      ∀ msg, finishOuter r st av validate lateParts early build ≠ .panic msg := by
  obtain ⟨⟨st, av⟩, he, hg, hav⟩ := (extract_okOr r hc.panicsIn hw attrs).ok
  exact ⟨st, av, he, fun msg =>
    finishOuter_panic r hc.panicsIn hc.dflt lateParts hl early build st av hg hav validate hv msg⟩

/-! ### the same argument for FromMeta struct receivers (no distinctness hypothesis needed) -/

theorem coreLoop_good (s : SStruct ν) (hc : ConvsReturn s) (items : List NestedMeta) (st : PState ν) (hg : Good st) :
    ∃ st', coreLoop s st items = .ok st' ∧ Good st' :=
  (coreLoop_okOr s hc.panicsIn items st hg).ok

/-- everything after the item walk (`require_fields`, `check_errors`, defaults, the struct literal
    with its `expect`s, the post-transform): from a state the walk can leave behind, a panic is a
    panic of a user-supplied piece -/
theorem finishStruct_panic (s : SStruct ν) (hp : PanicsIn s P) (hd : DefaultsHaveSource s) (flattenHere : Bool)
    (loc : Option String) (st : PState ν) (hg : Good st) (m : String)
    (h : finishStruct s flattenHere loc st = .panic m) : P m := by
  have h1 : OkOr P Good (if flattenHere then flattenInit s st else Except.ok st) := by
    cases flattenHere with
    | true =>
        have := flattenInit_okOr s hp st hg
        cases hf : flattenInit s st with
        | ok st1 => rw [hf] at this; exact this.1
        | error m' => rw [hf] at this; exact this
    | false => exact hg
  cases hf : (if flattenHere then flattenInit s st else Except.ok st) with
  | error m' => rw [finishStruct_error hf] at h; cases h; rw [hf] at h1; exact h1
  | ok st1 =>
      rw [hf] at h1
      cases he : (checkMissing s.fields st1).errs with
      | cons e es =>
          exfalso
          rw [finishStruct_errs hf he] at h
          have hb := bundleErr_returns (ν := ν) (e :: es) (List.cons_ne_nil _ _)
          cases loc with
          | none => exact hb m h
          | some l =>
              cases hbe : (Err.bundleErr (e :: es) : Outcome ν) with
              | ok v => rw [hbe] at h; cases h
              | err e' => rw [hbe] at h; cases h
              | panic m' => exact hb m' hbe
      | nil =>
          rw [finishStruct_clean hf he] at h
          cases hI : initFields s (checkMissing s.fields st1) s.fields with
          | ok kvs => rw [hI] at h; exact hp.post _ m h
          | err e => rw [hI] at h; cases h
          | panic m' => exact absurd hI (initFields_checked_ne_panic s hd st1 h1 he m')

/-- `require_fields` … `Ok(Self { .. })` of a struct parser returns from every good state -/
theorem finishStruct_returns (s : SStruct ν) (hc : ConvsReturn s) (flattenHere : Bool) (loc : Option String)
    (st : PState ν) (hg : Good st) : ∀ msg, finishStruct s flattenHere loc st ≠ .panic msg :=
  finishStruct_panic s hc.panicsIn hc.dflt flattenHere loc st hg

/-- **a derived struct parser relies on no `expect` of its own**: whatever the item list and whatever
    the user-supplied pieces do, a panic of the emitted `from_list` is a panic of one of them -/
theorem fromList_panic (s : SStruct ν) (hp : PanicsIn s P) (hd : DefaultsHaveSource s) (items : List NestedMeta)
    (m : String) (h : Derive.fromList s items = .panic m) : P m := by
  unfold Derive.fromList at h
  have h1 := coreLoop_okOr s hp items {} good_init
  cases hl : coreLoop s {} items with
  | ok st => rw [hl] at h h1; exact finishStruct_panic s hp hd true none st h1 m h
  | error m' => rw [hl] at h h1; cases h; exact h1

end Walk

/-- **A derived struct `FromMeta` receiver returns on every item list**, given only that its
    converters, list hooks and post-transform return and inherited defaults have a source -/
theorem struct_fromList_returns (s : SStruct ν) (hc : ConvsReturn s) (items : List NestedMeta) :
    (Derive.fromList s items).Returns :=
  fromList_panic s hc.panicsIn hc.dflt items

end C07
