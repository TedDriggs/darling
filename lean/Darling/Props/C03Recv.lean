import Darling.Lemmas.Struct
import Darling.FromMeta.SpanWF
import Darling.Props.C03
/-
  C03, receiver level — where the derived struct parser puts its spans.

  For every struct receiver and every item list, every error the item loop records
  (`FieldsGen::core_loop`: bare literal, unknown name, repeated field, failed conversion) carries
  an explicit span lying inside the item at fault, provided the field converters honour the same
  contract (an error they return is unspanned or spanned inside the item they were given — true of
  every built-in conversion and of nested derived receivers by this very theorem).
  Absences (`Missing field`) are recorded unspanned by `CheckMissing`; the default `from_meta`
  then spans the whole result with the enclosing item (`mapErr_withSpan_spanned`), which flattening
  hands down to every unspanned leaf (`C03.flatten_spans`).

  The case analysis of one iteration of the loop is done once, for an arbitrary predicate on the
  recorded errors (`stepItem_errs`, `coreLoop_errs`); the span invariants of this file, of
  C03Recv2 and of C03Spec are instances.
-/
open Derive

namespace C03
variable {ν : Type}

theorem _root_.Err.Unspanned.span_none {e : Err} (h : e.Unspanned) : e.span = none := by
  cases e with
  | leaf k ls s => cases s with
    | none => rfl
    | some s => cases h
  | multi cs ls s => cases s with
    | none => rfl
    | some s => cases h

/-- `e` carries a span inside `sp` -/
def SpannedWithin (sp : Span) (e : Err) : Prop := ∃ s, e.span = some s ∧ s.within sp = true

/-- the converter contract: a returned error is unspanned, or spanned inside the given item -/
def ConvSpans (s : SStruct ν) : Prop :=
  ∀ f ∈ s.fields, ∀ (m : Meta) (e : Err), f.conv m = .err e → ∀ sp, e.span = some sp → sp.within m.span = true

theorem within_refl (s : Span) : s.within s = true := by simp [Span.within]

theorem withSpan_within (e : Err) (sp : Span) (h : ∀ s, e.span = some s → s.within sp = true) :
    SpannedWithin sp (e.withSpan sp) := by
  cases hs : e.span with
  | none => exact ⟨sp, withSpan_sets e sp hs, within_refl sp⟩
  | some s => exact ⟨s, by rw [withSpan_keeps e s sp hs]; exact hs, h s hs⟩

theorem unspanned_withSpan_within {u : Err} (h : u.Unspanned) (sp : Span) : SpannedWithin sp (u.withSpan sp) :=
  withSpan_within u sp (fun s hs => by rw [h.span_none] at hs; cases hs)

theorem at_within (sp : Span) (e : Err) (l : String) (h : SpannedWithin sp e) : SpannedWithin sp (e.at l) := by
  obtain ⟨s, h1, h2⟩ := h
  exact ⟨s, by rw [at_span]; exact h1, h2⟩

/-- every recorded error is spanned inside one of the items seen so far -/
def ErrsPlaced (items : List NestedMeta) (st : PState ν) : Prop :=
  ∀ e ∈ st.errs, ∃ it ∈ items, SpannedWithin it.span e

theorem placed_mono (xs : List NestedMeta) (x : NestedMeta) (st : PState ν) (h : ErrsPlaced xs st) :
    ErrsPlaced (xs ++ [x]) st := by
  intro e he
  obtain ⟨it, hit, hw⟩ := h e he
  exact ⟨it, List.mem_append_left _ hit, hw⟩

theorem placed_push (xs : List NestedMeta) (x : NestedMeta) (st : PState ν) (e : Err) (h : ErrsPlaced xs st)
    (he : SpannedWithin x.span e) : ErrsPlaced (xs ++ [x]) (st.push e) := by
  intro e' he'
  simp only [PState.push, List.mem_append, List.mem_singleton] at he'
  rcases he' with h1 | rfl
  · obtain ⟨it, hit, hw⟩ := h e' h1
    exact ⟨it, List.mem_append_left _ hit, hw⟩
  · exact ⟨x, List.mem_append_right _ (List.mem_singleton.mpr rfl), he⟩

/-- **one iteration of the item loop.**  What it records is one of its own complaints (made without
    a span, then spanned with the item) or the error of a field's converter, spanned with the item
    and located; so a predicate `Q` that holds of these holds of every error recorded afterwards. -/
theorem stepItem_errs {s : SStruct ν} {Q : Err → Prop} {it : NestedMeta}
    (hown : ∀ u : Err, u.Unspanned → Q (u.withSpan it.span))
    (hconv : ∀ m, it = .item m → ∀ f ∈ s.fields, ∀ c loc, f.conv m = .err c →
      Q ((c.withSpan m.span).at loc))
    {st st' : PState ν} (hp : ∀ e ∈ st.errs, Q e) (h : stepItem s st it = .ok st') :
    (∀ e ∈ st'.errs, Q e) ∧ ∀ n ∈ st'.flat, n ∈ st.flat ∨ n = it := by
  have same : ∀ n ∈ st.flat, n ∈ st.flat ∨ n = it := fun n hn => Or.inl hn
  have push : ∀ e : Err, Q e → (∀ x ∈ (st.errs ++ [e]), Q x) := by
    intro e hq x hx
    rcases List.mem_append.mp hx with hx | hx
    · exact hp x hx
    · rw [List.mem_singleton.mp hx]; exact hq
  have hc := stepItem_case s st it
  rw [h] at hc
  -- the slots play no part: `set` leaves the errors and the buffer alone
  cases hc with
  | manyOk | firstOk | ignored => exact ⟨hp, same⟩
  | buffered => exact ⟨hp, fun n hn => (List.mem_append.mp hn).imp_right List.mem_singleton.mp⟩
  | lit | repeated | unknown => exact ⟨push _ (hown _ rfl), same⟩
  | manyErr m f c ha _ hcv => exact ⟨push _ (hconv m rfl f (SStruct.mem_of_arm ha) c _ hcv), same⟩
  | firstErr m f c ha _ _ hcv => exact ⟨push _ (hconv m rfl f (SStruct.mem_of_arm ha) c _ hcv), same⟩

theorem coreLoop_errs {s : SStruct ν} {Q : Err → Prop} (items : List NestedMeta)
    (hown : ∀ it ∈ items, ∀ u : Err, u.Unspanned → Q (u.withSpan it.span))
    (hconv : ∀ m, .item m ∈ items → ∀ f ∈ s.fields, ∀ c loc, f.conv m = .err c →
      Q ((c.withSpan m.span).at loc))
    {st st' : PState ν} (hp : ∀ e ∈ st.errs, Q e) (h : coreLoop s st items = .ok st') :
    (∀ e ∈ st'.errs, Q e) ∧ ∀ n ∈ st'.flat, n ∈ st.flat ∨ n ∈ items := by
  refine (coreLoop_induct (E := fun _ => True)
    (I := fun _ st1 => (∀ e ∈ st1.errs, Q e) ∧ ∀ n ∈ st1.flat, n ∈ st.flat ∨ n ∈ items) items
    (fun _ it st1 st2 hit h1 hs => ?_) (fun _ _ _ _ _ _ _ => trivial) [] st ⟨hp, fun n hn => Or.inl hn⟩).1 st' h
  have h2 := stepItem_errs (hown it hit) (fun m hm => hconv m (hm ▸ hit)) h1.1 hs
  exact ⟨h2.1, fun n hn => (h2.2 n hn).elim (h1.2 n) (fun hni => Or.inr (hni ▸ hit))⟩

theorem stepItem_placed (s : SStruct ν) (hc : ConvSpans s) (xs : List NestedMeta) (st st' : PState ν) (it : NestedMeta)
    (hp : ErrsPlaced xs st) (h : stepItem s st it = .ok st') : ErrsPlaced (xs ++ [it]) st' :=
  (stepItem_errs (Q := fun e => ∃ x ∈ xs ++ [it], SpannedWithin x.span e)
    (fun _ hu => ⟨it, List.mem_append_right _ List.mem_cons_self, unspanned_withSpan_within hu _⟩)
    (fun m hm f hf c _ hcv => ⟨it, List.mem_append_right _ List.mem_cons_self,
      hm ▸ at_within _ _ _ (withSpan_within c m.span (hc f hf m c hcv))⟩)
    (placed_mono xs it st hp) h).1

/-- the contract is needed of the converters on the items of the list only -/
theorem coreLoop_placed_of {s : SStruct ν} (items : List NestedMeta)
    (hc : ∀ m, .item m ∈ items → ∀ f ∈ s.fields, ∀ e, f.conv m = .err e →
      ∀ sp, e.span = some sp → sp.within m.span = true)
    (pre : List NestedMeta) (st st' : PState ν) (hp : ErrsPlaced pre st) (h : coreLoop s st items = .ok st') :
    ErrsPlaced (pre ++ items) st' := by
  refine (coreLoop_errs (Q := fun e => ∃ x ∈ pre ++ items, SpannedWithin x.span e) items
    (fun it hit u hu => ⟨it, List.mem_append_right _ hit, unspanned_withSpan_within hu _⟩)
    (fun m hm f hf c loc hcv => ⟨.item m, List.mem_append_right _ hm,
      at_within _ _ _ (withSpan_within c m.span (hc m hm f hf c hcv))⟩)
    (fun e he => ?_) h).1
  obtain ⟨x, hx, hw⟩ := hp e he
  exact ⟨x, List.mem_append_left _ hx, hw⟩

/-- **Every mistake the item loop reports is spanned inside the item at fault.** -/
theorem coreLoop_placed (s : SStruct ν) (hc : ConvSpans s) (items : List NestedMeta) :
    ∀ (pre : List NestedMeta) (st st' : PState ν), ErrsPlaced pre st → coreLoop s st items = .ok st' →
      ErrsPlaced (pre ++ items) st' :=
  coreLoop_placed_of items (fun m _ f hf e he => hc f hf m e he)

theorem coreLoop_placed_from_start (s : SStruct ν) (hc : ConvSpans s) (items : List NestedMeta) (st' : PState ν)
    (h : coreLoop s {} items = .ok st') : ErrsPlaced items st' :=
  List.nil_append items ▸ coreLoop_placed s hc items [] {} st' (fun _ he => nomatch he) h

theorem mapErr_withSpan_spanned (o : Outcome ν) (sp : Span) (e : Err) (h : o.mapErr (·.withSpan sp) = .err e) :
    ∃ s, e.span = some s :=
  Option.ne_none_iff_exists'.1 (Outcome.spanned_of_mapErr_withSpan h)

/-! ### non-vacuity: a converter that errs without a span satisfies the contract -/
private def fEx : SField Nat :=
  { ident := "a", name := "a", conv := fun _ => .err (Err.new (.custom "x")), fromNone := none,
    fromList := fun _ => .panic "", dflt := none, skip := false, multiple := false, flatten := false }
private def sEx : SStruct Nat :=
  { fields := [fEx], allowUnknown := false, containerDefault := none, build := fun _ => 0, mkList := fun _ => 0,
    post := .ok, score := fun _ _ => 0, thr := 0 }

example : ConvSpans sEx := by
  intro f hf m e he sp hsp
  simp [sEx] at hf; subst hf
  simp [fEx] at he; subst he
  simp [Err.new, Err.span] at hsp

end C03
