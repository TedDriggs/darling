import Darling.Accum
import Darling.Spec.C05
/-
  C05 — Accumulator: Ok iff nothing was recorded; nothing recorded is ever lost.
  All theorems are for every finite history (any length, any mix of operations).
-/
open Spec.C05 Accum

namespace C05

/-- which errors an operation records -/
def records : AOp → List Err
  | .push e => [e]
  | .handleErr e => [e]
  | .handleInErr e => [e]
  | .extend es => es
  | _ => []

/-- what the caller sees from a borrowing operation (independent of the accumulator's content) -/
def opOut : AOp → AOut
  | .push _ => .unit
  | .handleOk v => .some v
  | .handleErr _ => .none
  | .handleInOk v => .some v
  | .handleInErr _ => .none
  | .extend _ => .unit
  | .checkpoint => .fresh

def isCheckpoint : AOp → Bool
  | .checkpoint => true
  | _ => false

abbrev recorded := recordedBy records

@[simp] theorem recorded_nil : recorded [] = [] := rfl
@[simp] theorem recorded_cons (op ops) : recorded (op :: ops) = records op ++ recorded ops := by
  simp [recorded, recordedBy]

theorem eq_checkpoint_of_isCheckpoint {op : AOp} (h : isCheckpoint op = true) : op = .checkpoint := by
  cases op with
  | checkpoint => rfl
  | _ => cases h

theorem opOut_ne_panic (op : AOp) (m : String) : opOut op ≠ .panic m := by
  intro h; cases op <;> cases h

/-! ### `handle` returns the value exactly when given Ok, and records exactly the error otherwise -/

theorem handle_ok (errs v) : Accum.handle errs (.ok v) = (errs, .some v) := rfl
theorem handle_err (errs e) : Accum.handle errs (.error e) = (errs ++ [e], .none) := rfl
theorem handle_some_iff (errs) (r : Except Err Nat) (v : Nat) :
    (Accum.handle errs r).2 = .some v ↔ r = .ok v := by
  cases r <;> simp [Accum.handle]

/-! ### finishing -/

theorem finishWith_nil (out) : finishWith [] out = out := rfl

/-- a non-empty accumulator finishes with an error that bundles exactly its content, in order;
    in particular `Error::multiple` is never reached with an empty vector (no panic) -/
theorem finishWith_bundles (errs : List Err) (h : errs ≠ []) (out) :
    ∃ e, finishWith errs out = .err e ∧ Bundles e errs := by
  cases errs with
  | nil => exact absurd rfl h
  | cons x r =>
      cases r with
      | nil => exact ⟨x, rfl, h, Or.inl rfl⟩
      | cons y r => exact ⟨.multi (x :: y :: r) [] none, rfl, h, Or.inr ⟨Nat.le_add_left 2 r.length, rfl⟩⟩

theorem finishWith_eq_self_iff (errs : List Err) (out : AOut) (hout : ∀ e, out ≠ .err e) :
    finishWith errs out = out ↔ errs = [] := by
  refine ⟨fun h => ?_, fun h => h ▸ rfl⟩
  by_cases hne : errs = []
  · exact hne
  · obtain ⟨e, he, _⟩ := finishWith_bundles errs hne out
    exact absurd (h.symm.trans he) (hout e)

theorem finishWith_ok_eq_iff (errs : List Err) (v : Nat) : finishWith errs (.ok v) = .ok v ↔ errs = [] :=
  finishWith_eq_self_iff errs _ nofun

theorem finish_okUnit_iff (errs : List Err) : finishWith errs .okUnit = .okUnit ↔ errs = [] :=
  finishWith_eq_self_iff errs _ nofun

theorem finishWith_ne_panic (errs : List Err) (out : AOut) (m : String) (hout : out ≠ .panic m) :
    finishWith errs out ≠ .panic m := by
  cases errs with
  | nil => exact hout
  | cons x xs =>
      obtain ⟨e, he, _⟩ := finishWith_bundles (x :: xs) (List.cons_ne_nil x xs) out
      rw [he]
      intro h; cases h

theorem finishOp_ne_panic (errs : List Err) (e : AEnd) (m : String)
    (he : e = .finish ∨ (∃ v, e = .finishWith v) ∨ e = .intoInner) : finishOp errs e ≠ .panic m := by
  rcases he with rfl | ⟨v, rfl⟩ | rfl
  · exact finishWith_ne_panic errs _ m (fun h => by cases h)
  · exact finishWith_ne_panic errs _ m (fun h => by cases h)
  · intro h; cases h

/-! ### one step of a history -/

theorem run_cons (errs : List Err) {op : AOp} (ops : List AOp) (e : AEnd)
    (h : isCheckpoint op = false) :
    run errs (op :: ops) e = opOut op :: run (errs ++ records op) ops e := by
  cases op with
  | checkpoint => cases h
  -- a handled `Ok` records nothing: `errs ++ [] = errs`
  | handleOk v => exact congrArg (fun r => AOut.some v :: run r ops e) (List.append_nil errs).symm
  | handleInOk v => exact congrArg (fun r => AOut.some v :: run r ops e) (List.append_nil errs).symm
  | _ => rfl

theorem run_checkpoint_nil (ops : List AOp) (e : AEnd) :
    run [] (.checkpoint :: ops) e = .fresh :: run [] ops e := rfl

theorem run_checkpoint_of_ne_nil (errs : List Err) (ops : List AOp) (e : AEnd) (h : errs ≠ []) :
    run errs (.checkpoint :: ops) e = [finishWith errs .okUnit] := by
  obtain ⟨b, hb, _⟩ := finishWith_bundles errs h .okUnit
  simp only [run, hb]

/-! ### segments without a checkpoint -/

theorem run_append_segment (errs : List Err) (pre post : List AOp) (e : AEnd)
    (h : ∀ op ∈ pre, isCheckpoint op = false) :
    run errs (pre ++ post) e = pre.map opOut ++ run (errs ++ recorded pre) post e := by
  induction pre generalizing errs with
  | nil => rw [recorded_nil, List.append_nil]; rfl
  | cons op pre ih =>
      rw [List.cons_append, run_cons errs _ e (h op List.mem_cons_self),
        ih _ (fun o ho => h o (List.mem_cons_of_mem op ho)), recorded_cons, List.append_assoc]
      rfl

/-- a history without checkpoints: every borrowing operation answers independently of what was
    recorded, and the end sees exactly everything recorded, in recording order -/
theorem run_segment (errs : List Err) (ops : List AOp) (e : AEnd)
    (h : ∀ op ∈ ops, isCheckpoint op = false) :
    run errs ops e = ops.map opOut ++ [finishOp (errs ++ recorded ops) e] := by
  have := run_append_segment errs ops [] e h
  rwa [List.append_nil] at this

/-- `checkpoint`: either fails with everything recorded so far (and that ends the history), or
    hands back a fresh armed accumulator (the rest runs from empty) -/
theorem run_checkpoint (errs : List Err) (pre post : List AOp) (e : AEnd)
    (h : ∀ op ∈ pre, isCheckpoint op = false) :
    run errs (pre ++ .checkpoint :: post) e =
      if errs ++ recorded pre = [] then pre.map opOut ++ .fresh :: run [] post e
      else pre.map opOut ++ [finishWith (errs ++ recorded pre) .okUnit] := by
  rw [run_append_segment errs pre _ e h]
  by_cases hnil : errs ++ recorded pre = []
  · rw [if_pos hnil, hnil, run_checkpoint_nil]
  · rw [if_neg hnil, run_checkpoint_of_ne_nil _ _ _ hnil]

/-! ### the headline: Ok iff nothing was ever recorded, over whole histories (checkpoints included) -/

theorem run_ne_nil (errs ops e) : run errs ops e ≠ [] := by
  cases ops with
  | nil => exact List.cons_ne_nil _ _
  | cons op ops =>
      cases op with
      | checkpoint =>
          cases errs with
          | nil => exact List.cons_ne_nil _ _
          | cons x xs =>
              rw [run_checkpoint_of_ne_nil _ _ _ (List.cons_ne_nil x xs)]
              exact List.cons_ne_nil _ _
      | _ => exact List.cons_ne_nil _ _

theorem getLast_cons_run (x : AOut) (errs ops e) :
    (x :: run errs ops e).getLast? = (run errs ops e).getLast? :=
  List.getLast?_cons_of_ne_nil (run_ne_nil errs ops e)

/-- finishing a history with `finish_with(v)` yields `Ok(v)` if and only if no error was ever
    pushed, handled or extended into the accumulator -/
theorem finish_with_ok_iff (errs : List Err) (ops : List AOp) (v : Nat) :
    (run errs ops (.finishWith v)).getLast? = some (.ok v) ↔ errs ++ recorded ops = [] := by
  induction ops generalizing errs with
  | nil =>
      rw [recorded_nil, List.append_nil, ← finishWith_ok_eq_iff errs v]
      exact Option.some_inj
  | cons op ops ih =>
      cases hop : isCheckpoint op with
      | false => rw [run_cons errs ops _ hop, getLast_cons_run, ih, recorded_cons, List.append_assoc]
      | true =>
          cases eq_checkpoint_of_isCheckpoint hop
          cases errs with
          | nil => rw [run_checkpoint_nil, getLast_cons_run, ih]; rfl
          | cons x xs =>
              -- the history ends here, with an error
              obtain ⟨b, hb, _⟩ := finishWith_bundles (x :: xs) (List.cons_ne_nil x xs) .okUnit
              rw [run_checkpoint_of_ne_nil _ _ _ (List.cons_ne_nil x xs), hb]
              exact ⟨fun h => (by cases h), fun h => (by cases h)⟩

theorem finish_with_ok_iff' (ops : List AOp) (v : Nat) :
    (run [] ops (.finishWith v)).getLast? = some (.ok v) ↔ recorded ops = [] :=
  finish_with_ok_iff [] ops v

/-- the trace of any history ending in `finish`/`finish_with` never contains a panic:
    `Error::multiple` is only ever called on a non-empty vector -/
theorem no_panic_when_finished (errs : List Err) (ops : List AOp) (e : AEnd)
    (he : e = .finish ∨ (∃ v, e = .finishWith v) ∨ e = .intoInner) :
    ∀ o ∈ run errs ops e, ∀ m, o ≠ .panic m := by
  induction ops generalizing errs with
  | nil =>
      intro o ho m
      rw [List.mem_singleton.1 ho]
      exact finishOp_ne_panic errs e m he
  | cons op ops ih =>
      intro o ho m
      cases hop : isCheckpoint op with
      | false =>
          rw [run_cons errs ops e hop] at ho
          rcases List.mem_cons.1 ho with rfl | h
          · exact opOut_ne_panic op m
          · exact ih _ o h m
      | true =>
          cases eq_checkpoint_of_isCheckpoint hop
          cases errs with
          | nil =>
              rcases List.mem_cons.1 ho with rfl | h
              · intro h; cases h
              · exact ih [] o h m
          | cons x xs =>
              rw [run_checkpoint_of_ne_nil _ _ _ (List.cons_ne_nil x xs)] at ho
              rw [List.mem_singleton.1 ho]
              exact finishOp_ne_panic _ .finish m (Or.inl rfl)

/-! ### `into_inner` and the drop bomb -/

theorem intoInner_returns_recorded (ops : List AOp) (h : ∀ op ∈ ops, isCheckpoint op = false) :
    (run [] ops .intoInner).getLast? = some (.errs (recorded ops)) := by
  rw [run_segment [] ops _ h, List.getLast?_concat]; rfl

/-- an armed accumulator that goes out of scope panics unless the thread is already unwinding —
    even when empty — and the message states the number of lost errors when there are any -/
theorem drop_panics (errs : List Err) :
    ∃ m, dropOut (some errs) false = .panic m
      ∧ (errs = [] → m = "darling::error::Accumulator dropped without being finished")
      ∧ (errs ≠ [] → m = "darling::error::Accumulator dropped without being finished. "
            ++ toString errs.length ++ " errors were lost.") := by
  cases errs with
  | nil => exact ⟨_, rfl, fun _ => rfl, fun h => absurd rfl h⟩
  | cons x xs => exact ⟨_, rfl, fun h => by simp at h, fun _ => rfl⟩

theorem drop_unwinding_quiet (st : Option (List Err)) : dropOut st true = .quiet := rfl
theorem drop_defused_quiet (u : Bool) : dropOut none u = .quiet := by cases u <;> rfl

/-! ### non-vacuity -/
def e1 : Err := .leaf (.custom "a") [] none
def e2 : Err := .leaf (.missingField "b") [] none

example : run [] [.push e1, .handleOk 3, .handleErr e2] (.finishWith 7)
    = [.unit, .some 3, .none, .err (.multi [e1, e2] [] none)] := rfl
example : run [] [.handleOk 3, .checkpoint, .extend []] (.finishWith 7) = [.some 3, .fresh, .unit, .ok 7] := rfl
example : run [] [.push e1, .checkpoint, .handleOk 1] .finish = [.unit, .err e1] := rfl

end C05
