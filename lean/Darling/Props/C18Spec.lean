import Darling.Props.C18
import Darling.Derive.Env
/-
  C18 — an independent, declarative specification written from the property text, and the
  end-to-end theorems `model ⟺ specification`.

  The specification below never mentions the model's booleans, `DataShape`, `ShapeSet`, the
  `is_empty` tests or the variant loop.  It is phrased with membership, `∃` and `∀` only:

    * a shape word is `any`, or a family (`struct_` / `enum_`) followed by `any` or a shape name;
    * a word *declares* a (family, shape) cell;  a tuple word also declares the newtype cell;
    * a body is accepted iff `any` is among the words, or (struct) its cell is declared, or
      (enum) some enum word is present and the cell of every variant is declared;
      a union is accepted by `any` only;
    * a rejected enum (under at least one enum word) carries one leaf error per non-conforming
      variant, in source order, each naming that variant's shape.

  The end-to-end object is the real pipeline: `DISS.fromList` (= `impl FromMeta for
  DeriveInputShapeSet`, run at derive time on the `supports(...)` list) followed by
  `DISS.validateBody` (= the emitted `__validate_body`, run on the input's body).

  A name ending in `_partial` marks a side condition; `derived_struct_eq_api` and
  `derived_enum_eq_api` carry one too (`HasFamily ws f`).
-/

namespace C18

/-! ## 1. The specification (from the property text) -/

/-- the two families of shape words -/
inductive Family where
  | struct | enum
  deriving Repr, DecidableEq, Inhabited

/-- one of the eleven shape words: `any`, or `<family>_<cell>` where the cell is `any`
    (`none`) or one of the four shape names -/
inductive SWord where
  | any
  | fam (f : Family) (cell : Option Shape)
  deriving Repr, DecidableEq, Inhabited

def Family.pre : Family → String
  | .struct => "struct_"
  | .enum => "enum_"

def shapeName : Shape → String
  | .named => "named" | .tuple => "tuple" | .unit => "unit" | .newtype => "newtype"

def cellName : Option Shape → String
  | none => "any"
  | some s => shapeName s

/-- the identifier written inside `supports(...)` -/
def SWord.text : SWord → String
  | .any => "any"
  | .fam f c => f.pre ++ cellName c

/-- the eleven words -/
def SWord.all : List SWord :=
  .any :: ([Family.struct, Family.enum].flatMap fun f =>
    [none, some Shape.named, some Shape.tuple, some Shape.newtype, some Shape.unit].map (SWord.fam f))

/-- the documented table of one cell: `any` admits every shape, a shape name admits itself, and
    "a tuple word also admits newtypes but not the reverse" -/
def cellAdmits : Option Shape → Shape → Prop
  | none, _ => True
  | some c, s => c = s ∨ (c = .tuple ∧ s = .newtype)

instance (c : Option Shape) (s : Shape) : Decidable (cellAdmits c s) := by
  cases c <;> unfold cellAdmits <;> infer_instance

/-- what one word declares.  The bare `any` is not a struct or enum word: it is handled on its
    own ("`any` accepts everything"), so that a union can tell the difference. -/
def SWord.declares : SWord → Family → Shape → Prop
  | .any, _, _ => False
  | .fam f' c, f, s => f' = f ∧ cellAdmits c s

instance (w : SWord) (f : Family) (s : Shape) : Decidable (w.declares f s) := by
  cases w <;> unfold SWord.declares <;> infer_instance

/-- words are additive: a cell is declared as soon as one word declares it -/
def Declared (ws : List SWord) (f : Family) (s : Shape) : Prop := ∃ w ∈ ws, w.declares f s

instance (ws : List SWord) (f : Family) (s : Shape) : Decidable (Declared ws f s) := by
  unfold Declared; infer_instance

/-- some word of the family is present ("a struct is rejected when only enum words are given and
    vice versa") -/
def HasFamily (ws : List SWord) (f : Family) : Prop := ∃ c, SWord.fam f c ∈ ws

instance (ws : List SWord) (f : Family) : Decidable (HasFamily ws f) :=
  decidable_of_iff
    (∃ c ∈ [none, some Shape.named, some Shape.tuple, some Shape.newtype, some Shape.unit],
      SWord.fam f c ∈ ws)
    ⟨fun ⟨c, _, h⟩ => ⟨c, h⟩,
     fun ⟨c, h⟩ => ⟨c, by cases c with
                          | none => decide
                          | some s => cases s <;> decide, h⟩⟩

/-- **the verdict demanded by the property text** -/
def Accepts (ws : List SWord) : BodyShape → Prop
  | .struct s => SWord.any ∈ ws ∨ Declared ws .struct s
  | .enum vs => SWord.any ∈ ws ∨ (HasFamily ws .enum ∧ ∀ v ∈ vs, Declared ws .enum v)
  | .union => SWord.any ∈ ws

instance (ws : List SWord) (b : BodyShape) : Decidable (Accepts ws b) := by
  cases b <;> unfold Accepts <;> infer_instance

/-- the variants that do not conform, in source order -/
def offenders (ws : List SWord) (vs : List Shape) : List Shape :=
  vs.filter (fun v => decide (¬ Declared ws .enum v))

/-- the error is made of exactly these leaves: one per entry of `shapes`, in order, each an
    "unsupported shape" leaf that names the observed shape (and a common expectation text) -/
def OneErrorPer (shapes : List Shape) (e : Err) : Prop :=
  ∃ expected : String,
    e.intoVec = shapes.map (fun v => Err.new (.unsupportedShape v.description (some expected)))

/-- a `supports(...)` entry that spells the word `w` (whatever its spans and token text) -/
def IsWordItem (n : NestedMeta) (w : SWord) : Prop :=
  ∃ p : Path, n = .item (.path p) ∧ p.getIdent = some w.text

/-- `items` spells the words `ws`, one entry per word, in order -/
inductive Spells : List NestedMeta → List SWord → Prop where
  | nil : Spells [] []
  | cons {n w items ws} : IsWordItem n w → Spells items ws → Spells (n :: items) (w :: ws)

/-- the canonical entry for a word -/
def SWord.item (w : SWord) (sp : Span := ⟨0, 0⟩) : NestedMeta :=
  .item (.path { global := false, segs := [w.text], plain := true, toks := w.text, span := sp })

/-! ### the derived pipeline, and the word tables of the stand-alone API -/

/-- the pipeline of the derived code: the declaration is read at derive time, the emitted
    validator runs on the body -/
def derived (items : List NestedMeta) (b : BodyShape) : Outcome Unit :=
  match DISS.fromList items with
  | .ok d => d.validateBody b
  | .err e => .err e
  | .panic m => .panic m

/-- the shapes a family's words list for the stand-alone `ShapeSet::new(vec![..])` -/
def wordShapes (f : Family) : SWord → List Shape
  | .any => []
  | .fam f' none => if f' = f then [.named, .tuple, .newtype, .unit] else []
  | .fam f' (some c) => if f' = f then [c] else []

def familyShapes (ws : List SWord) (f : Family) : List Shape := ws.flatMap (wordShapes f)

/-! ## 2. Facts about the specification alone -/

theorem SWord.mem_all (w : SWord) : w ∈ SWord.all := by
  cases w with
  | any => exact List.mem_cons_self
  | fam f c =>
      refine List.mem_cons_of_mem _ (List.mem_flatMap.mpr ⟨f, ?_, List.mem_map.mpr ⟨c, ?_, rfl⟩⟩)
      · cases f <;> decide
      · cases c with
        | none => decide
        | some s => cases s <;> decide

theorem SWord.all_length : SWord.all.length = 11 := by decide

/-- the eleven spellings are pairwise different -/
theorem SWord.text_injective (a b : SWord) (h : a.text = b.text) : a = b := by
  -- each unordered pair of the list is compared once
  have key : SWord.all.Pairwise (fun x y => x.text = y.text → x = y) := by decide
  exact List.Pairwise.forall_of_forall_of_flip (fun _ _ _ => rfl) key
    (key.imp fun hxy e => (hxy e.symm).symm) (SWord.mem_all a) (SWord.mem_all b) h

theorem declared_mono {ws ws' : List SWord} (h : ∀ w, w ∈ ws → w ∈ ws') (f : Family) (s : Shape) :
    Declared ws f s → Declared ws' f s := fun ⟨w, hw, hd⟩ => ⟨w, h w hw, hd⟩

/-- additivity: the declared cells of a concatenation are the union of the declared cells -/
theorem declared_append (ws₁ ws₂ : List SWord) (f : Family) (s : Shape) :
    Declared (ws₁ ++ ws₂) f s ↔ Declared ws₁ f s ∨ Declared ws₂ f s := by
  simp only [Declared, List.mem_append, or_and_right, exists_or]

theorem declared_hasFamily {ws : List SWord} {f : Family} {s : Shape} (h : Declared ws f s) :
    HasFamily ws f := by
  obtain ⟨w, hw, hd⟩ := h
  cases w with
  | any => exact hd.elim
  | fam f' c => obtain ⟨rfl, _⟩ := hd; exact ⟨c, hw⟩

/-- adding words never turns an accepted body into a rejected one -/
theorem accepts_mono {ws ws' : List SWord} (h : ∀ w, w ∈ ws → w ∈ ws') (b : BodyShape) :
    Accepts ws b → Accepts ws' b := by
  cases b with
  | struct s =>
      rintro (ha | hd)
      · exact .inl (h _ ha)
      · exact .inr (declared_mono h _ _ hd)
  | «enum» vs =>
      rintro (ha | ⟨⟨c, hc⟩, hall⟩)
      · exact .inl (h _ ha)
      · exact .inr ⟨⟨c, h _ hc⟩, fun v hv => declared_mono h _ _ (hall v hv)⟩
  | union => exact fun ha => h _ ha

theorem accepts_congr {ws ws' : List SWord} (h : ∀ w, w ∈ ws ↔ w ∈ ws') (b : BodyShape) :
    Accepts ws b ↔ Accepts ws' b :=
  ⟨accepts_mono (fun w => (h w).mp) b, accepts_mono (fun w => (h w).mpr) b⟩

/-- `any` accepts everything -/
theorem any_accepts_everything {ws : List SWord} (h : SWord.any ∈ ws) (b : BodyShape) : Accepts ws b := by
  cases b with
  | struct s => exact .inl h
  | «enum» vs => exact .inl h
  | union => exact h

/-- struct words are additive (for a struct body the verdict of a concatenation is the
    disjunction of the verdicts) -/
theorem accepts_struct_append (ws₁ ws₂ : List SWord) (s : Shape) :
    Accepts (ws₁ ++ ws₂) (.struct s) ↔ Accepts ws₁ (.struct s) ∨ Accepts ws₂ (.struct s) := by
  simp only [Accepts, declared_append, List.mem_append]
  exact or_or_or_comm

/-- a tuple word also admits newtypes … -/
theorem tuple_word_admits_newtype {ws : List SWord} {f : Family} (h : SWord.fam f (some .tuple) ∈ ws) :
    Declared ws f .newtype := ⟨_, h, rfl, .inr ⟨rfl, rfl⟩⟩

/-- … but not the reverse: without a tuple word (and without the family's `any`) a tuple is not
    declared, whatever else is -/
theorem tuple_needs_tuple_word {ws : List SWord} {f : Family}
    (h : Declared ws f .tuple) : SWord.fam f (some .tuple) ∈ ws ∨ SWord.fam f none ∈ ws := by
  obtain ⟨w, hw, hd⟩ := h
  cases w with
  | any => exact hd.elim
  | fam f' c =>
      obtain ⟨rfl, hc⟩ := hd
      cases c with
      | none => exact .inr hw
      | some c =>
          rcases hc with rfl | ⟨_, h2⟩
          · exact .inl hw
          · cases h2

/-- a struct is rejected when only enum words are given … -/
theorem struct_rejected_without_struct_word {ws : List SWord} (hany : SWord.any ∉ ws)
    (h : ¬ HasFamily ws .struct) (s : Shape) : ¬ Accepts ws (.struct s) := by
  rintro (ha | hd)
  · exact hany ha
  · exact h (declared_hasFamily hd)

/-- … and vice versa -/
theorem enum_rejected_without_enum_word {ws : List SWord} (hany : SWord.any ∉ ws)
    (h : ¬ HasFamily ws .enum) (vs : List Shape) : ¬ Accepts ws (.enum vs) := by
  rintro (ha | ⟨hf, _⟩)
  · exact hany ha
  · exact h hf

/-- a union satisfies no struct or enum word -/
theorem union_only_any {ws : List SWord} : Accepts ws .union ↔ SWord.any ∈ ws := Iff.rfl

/-! ## 3. The model against the specification

  Proof device only: the eleven words are translated to the enumeration used by the lemmas
  of `C18.lean` about the model (`applyWord_spec`, `validate_iff`, `validateEnum_eq`); the statements
  below mention the model (`DISS.fromList`, `DISS.validateBody`, `ShapeSet`) and the
  specification of section 1 only. -/

open Spec.C18 in
def SWord.toWord : SWord → Spec.C18.Word
  | .any => .any
  | .fam .struct none => .structAny
  | .fam .struct (some .named) => .structNamed
  | .fam .struct (some .tuple) => .structTuple
  | .fam .struct (some .newtype) => .structNewtype
  | .fam .struct (some .unit) => .structUnit
  | .fam .enum none => .enumAny
  | .fam .enum (some .named) => .enumNamed
  | .fam .enum (some .tuple) => .enumTuple
  | .fam .enum (some .newtype) => .enumNewtype
  | .fam .enum (some .unit) => .enumUnit

theorem toWord_text (w : SWord) : w.toWord.text = w.text := by
  cases w with
  | any => rfl
  | fam f c =>
      cases f <;> cases c with
      | none =>
          simp only [SWord.toWord, Spec.C18.Word.text, SWord.text, Family.pre, cellName,
            String.reduceAppend]
      | some s =>
          cases s <;>
            simp only [SWord.toWord, Spec.C18.Word.text, SWord.text, Family.pre, cellName,
              shapeName, String.reduceAppend]

theorem toWord_injective {a b : SWord} (h : a.toWord = b.toWord) : a = b :=
  SWord.text_injective a b (by rw [← toWord_text, h, toWord_text])

theorem contains_toWord (ws : List SWord) (w : SWord) :
    (ws.map SWord.toWord).contains w.toWord = ws.contains w := by
  rw [Bool.eq_iff_iff, List.contains_iff_mem, List.contains_iff_mem, List.mem_map]
  exact ⟨fun ⟨v, hv, e⟩ => toWord_injective e ▸ hv, fun h => ⟨w, h, rfl⟩⟩

theorem toWord_admits (w : SWord) (s : Shape) :
    (w.toWord.admitsStruct s = true ↔ w.declares .struct s) ∧
    (w.toWord.admitsVariant s = true ↔ w.declares .enum s) := by
  have key : ∀ x ∈ SWord.all, ∀ t ∈ [Shape.named, .tuple, .unit, .newtype],
      (x.toWord.admitsStruct t = true ↔ x.declares .struct t) ∧
      (x.toWord.admitsVariant t = true ↔ x.declares .enum t) := by decide
  exact key w (SWord.mem_all w) s (by cases s <;> decide)

theorem toWord_isEnumWord (w : SWord) : w.toWord.isEnumWord = true ↔ ∃ c, w = .fam .enum c := by
  cases w with
  | any => simp [SWord.toWord, Spec.C18.Word.isEnumWord]
  | fam f c =>
      cases f <;> cases c with
      | none => simp [SWord.toWord, Spec.C18.Word.isEnumWord]
      | some s => cases s <;> simp [SWord.toWord, Spec.C18.Word.isEnumWord]

theorem contains_any_iff (ws : List SWord) :
    (ws.map SWord.toWord).contains Spec.C18.Word.any = true ↔ SWord.any ∈ ws := by
  rw [← List.contains_iff_mem, ← contains_toWord]
  rfl

theorem any_toWord_iff {p : Spec.C18.Word → Bool} {P : SWord → Prop}
    (h : ∀ w, p w.toWord = true ↔ P w) (ws : List SWord) :
    (ws.map SWord.toWord).any p = true ↔ ∃ w ∈ ws, P w := by
  simp only [List.any_map, List.any_eq_true, Function.comp, h]

theorem any_admitsStruct_iff (ws : List SWord) (s : Shape) :
    (ws.map SWord.toWord).any (·.admitsStruct s) = true ↔ Declared ws .struct s :=
  any_toWord_iff (fun w => (toWord_admits w s).1) ws

theorem conforms_iff (ws : List SWord) (s : Shape) :
    Spec.C18.conforms (ws.map SWord.toWord) s = true ↔ Declared ws .enum s :=
  any_toWord_iff (fun w => (toWord_admits w s).2) ws

theorem any_isEnumWord_iff (ws : List SWord) :
    (ws.map SWord.toWord).any (·.isEnumWord) = true ↔ HasFamily ws .enum :=
  (any_toWord_iff toWord_isEnumWord ws).trans
    ⟨fun ⟨_, hw, c, hc⟩ => ⟨c, hc ▸ hw⟩, fun ⟨c, hc⟩ => ⟨_, hc, c, rfl⟩⟩

theorem table_iff (ws : List SWord) (b : BodyShape) :
    Spec.C18.accepts (ws.map SWord.toWord) b = true ↔ Accepts ws b := by
  cases b with
  | struct s =>
      simp only [Spec.C18.accepts, Accepts, Bool.or_eq_true, contains_any_iff, any_admitsStruct_iff]
  | «enum» vs =>
      simp only [Spec.C18.accepts, Accepts, Bool.or_eq_true, Bool.and_eq_true, contains_any_iff,
        any_isEnumWord_iff, List.all_eq_true, conforms_iff]
  | union =>
      simp only [Spec.C18.accepts, Accepts, Bool.or_false, contains_any_iff]

theorem offenders_eq (ws : List SWord) (vs : List Shape) :
    Spec.C18.nonConforming (ws.map SWord.toWord) vs = offenders ws vs := by
  unfold Spec.C18.nonConforming offenders
  congr 1
  funext v
  rw [Bool.eq_iff_iff, Bool.not_eq_true', decide_eq_true_eq, ← conforms_iff, Bool.not_eq_true]

/-! ### derive time: reading `supports(w₁, …, wₙ)` -/

theorem fromListLoop_append (pre : List Spec.C18.Word) {items : List NestedMeta} {ws : List SWord}
    (h : Spells items ws) (tail : List NestedMeta) :
    DISS.fromListLoop (dissOf pre) (items ++ tail)
      = DISS.fromListLoop (dissOf (pre ++ ws.map SWord.toWord)) tail := by
  induction h generalizing pre with
  | nil => simp only [List.nil_append, List.map_nil, List.append_nil]
  | @cons n w items ws hw _ ih =>
      obtain ⟨p, rfl, hp⟩ := hw
      simp only [List.cons_append, DISS.fromListLoop, hp, ← toWord_text, applyWord_spec]
      rw [ih (pre ++ [w.toWord])]
      simp only [List.map_cons, List.append_assoc, List.singleton_append]

/-- **derive time.**  A `supports(...)` list made of shape words (any number, any order,
    repetitions allowed, arbitrary spans) is always read successfully. -/
theorem supports_parses {items : List NestedMeta} {ws : List SWord}
    (h : Spells items ws) :
    DISS.fromList items = .ok (dissOf (ws.map SWord.toWord)) := by
  have := fromListLoop_append [] h []
  rwa [List.append_nil, dissOf_nil] at this

theorem derived_eq {items : List NestedMeta} {ws : List SWord}
    (h : Spells items ws) (b : BodyShape) :
    derived items b = (dissOf (ws.map SWord.toWord)).validateBody b := by
  simp only [derived, supports_parses h]

/-- every word list is spelled by some entry list: `Spells` is satisfiable for every `ws` -/
theorem spells_items (ws : List SWord) : Spells (ws.map (fun w => SWord.item w)) ws := by
  induction ws with
  | nil => exact .nil
  | cons w ws ih => exact .cons ⟨_, rfl, rfl⟩ ih

/-- on the canonical entries: the test vectors below are evaluated through this, so that no
    string has to be parsed to check them -/
theorem derived_items (ws : List SWord) (b : BodyShape) :
    derived (ws.map (fun w => SWord.item w)) b = (dissOf (ws.map SWord.toWord)).validateBody b :=
  derived_eq (spells_items ws) b

/-! ### exactly the eleven words: every other identifier is refused at derive time -/

theorem stripPrefix_eq_lit (pre word lit : String) (hp : pre.toList.isPrefixOf word.toList = true)
    (h : DataShape.stripPrefix pre word = lit) : word = pre ++ lit := by
  unfold DataShape.stripPrefix at h
  rw [if_pos hp] at h
  have h1 := List.prefix_iff_eq_append.mp (List.isPrefixOf_iff_prefix.mp hp)
  rw [String.length_toList] at h1
  have h2 : (word.toList.drop pre.length) = lit.toList := by
    rw [← h, String.toList_ofList]
  apply String.toList_inj.mp
  rw [String.toList_append, ← h2, h1]

theorem setWord_error (d : DataShape) (word : String)
    (h : ∀ c, DataShape.stripPrefix d.pre word ≠ cellName c) :
    d.setWord word = .error (Err.unknownValue word) := by
  unfold DataShape.setWord
  split
  · exact absurd ‹_› (h (some .newtype))
  · exact absurd ‹_› (h (some .named))
  · exact absurd ‹_› (h (some .tuple))
  · exact absurd ‹_› (h (some .unit))
  · exact absurd ‹_› (h none)
  · rfl

theorem setWord_non_word (d : DataShape) (f : Family) (hpre : d.pre = f.pre) (word : String)
    (hp : f.pre.toList.isPrefixOf word.toList = true) (h : ∀ w : SWord, w.text ≠ word) :
    d.setWord word = .error (Err.unknownValue word) :=
  setWord_error d word fun c hs =>
    h (.fam f c) (stripPrefix_eq_lit _ _ _ hp (hpre ▸ hs)).symm

theorem applyWord_non_word (d : DISS) (he : d.enumValues.pre = "enum_")
    (hs : d.structValues.pre = "struct_") (word : String) (h : ∀ w : SWord, w.text ≠ word) :
    d.applyWord word = .error (Err.unknownValue word) := by
  unfold DISS.applyWord
  rw [if_neg (fun hc : (word == "any") = true => h .any (beq_iff_eq.mp hc).symm)]
  by_cases hp : "enum_".toList.isPrefixOf word.toList = true
  · rw [if_pos hp, setWord_non_word d.enumValues .enum he word hp h]
  · rw [if_neg hp]
    by_cases hq : "struct_".toList.isPrefixOf word.toList = true
    · rw [if_pos hq, setWord_non_word d.structValues .struct hs word hq h]
    · rw [if_neg hq]

/-- **derive time, converse.**  After any number of shape words, an identifier that is not one
    of the eleven spellings stops the reader with "unknown value", spanned at that identifier:
    there is no twelfth word. -/
theorem supports_rejects_non_word {items : List NestedMeta} {ws : List SWord}
    (h : Spells items ws) (p : Path) (word : String) (hp : p.getIdent = some word)
    (hw : ∀ w : SWord, w.text ≠ word) (rest : List NestedMeta) :
    DISS.fromList (items ++ .item (.path p) :: rest)
      = .err ((Err.unknownValue word).withSpan p.first) := by
  have := fromListLoop_append [] h (.item (.path p) :: rest)
  rw [dissOf_nil] at this
  rw [DISS.fromList, this]
  simp only [DISS.fromListLoop, hp]
  rw [applyWord_non_word _ rfl rfl word hw]

/-! ### the end-to-end theorems -/

/-- **C18, verdict.**  For every list of shape words and every body (enums of any length), the
    derived code accepts the body exactly when the property text says so. -/
theorem derived_accepts_iff {items : List NestedMeta} {ws : List SWord}
    (h : Spells items ws) (b : BodyShape) :
    (derived items b).isOk = true ↔ Accepts ws b := by
  rw [derived_eq h, validate_iff, table_iff]

/-- the derived code never panics (in particular not on a union) -/
theorem derived_never_panics {items : List NestedMeta} {ws : List SWord}
    (h : Spells items ws) (b : BodyShape) (m : String) :
    derived items b ≠ .panic m := by
  rw [derived_eq h]; exact validate_never_panics _ _ _

theorem not_any_contains {ws : List SWord} (hany : SWord.any ∉ ws) :
    (ws.map SWord.toWord).contains Spec.C18.Word.any = false := by
  rw [Bool.eq_false_iff]
  exact fun hc => hany ((contains_any_iff ws).mp hc)

/-- **C18, union.**  Unless the bare `any` is declared a union is an error — one leaf, naming
    the union — whatever struct and enum words are given. -/
theorem derived_union {items : List NestedMeta} {ws : List SWord}
    (h : Spells items ws) (hany : SWord.any ∉ ws) :
    derived items .union = .err (Err.new (.unsupportedShape "union" none)) := by
  rw [derived_eq h]
  exact union_is_error _ (not_any_contains hany)

/-! ### one error per non-conforming variant -/

theorem enum_word_nonempty {ws : List SWord} (hf : HasFamily ws .enum) :
    (dissOf (ws.map SWord.toWord)).enumValues.toShapeSet.isEmpty = false :=
  enum_nonempty ((any_isEnumWord_iff ws).mpr hf)

/-- what the derived code returns on an enum when the bare `any` is absent and at least one
    enum word is declared -/
theorem derived_enum_eq {items : List NestedMeta} {ws : List SWord}
    (h : Spells items ws) (hany : SWord.any ∉ ws) (hf : HasFamily ws .enum) (vs : List Shape) :
    ∃ expected : String,
      derived items (.enum vs) =
        match (offenders ws vs).map
            (fun v => Err.new (.unsupportedShape v.description (some expected))) with
        | [] => .ok ()
        | errs => Err.bundleErr errs := by
  obtain ⟨d, hd⟩ := variantErr_eq (dissOf (ws.map SWord.toWord)).enumValues.toShapeSet
  refine ⟨d, ?_⟩
  rw [derived_eq h, validateBody_enum (not_any_contains hany),
    validateEnum_eq _ vs ((any_isEnumWord_iff ws).mpr hf), offenders_eq,
    List.map_congr_left (fun v _ => hd v)]
  generalize (offenders ws vs).map
    (fun v => Err.new (.unsupportedShape v.description (some d))) = l
  cases l <;> rfl

/-- **C18, error count — under the side condition that some enum word is declared.**
    The enum is accepted when no variant offends; otherwise the result is an error whose leaves
    are exactly one "unsupported shape" leaf per non-conforming variant, in source order. -/
theorem derived_enum_errors_partial {items : List NestedMeta} {ws : List SWord}
    (h : Spells items ws) (hany : SWord.any ∉ ws) (hf : HasFamily ws .enum) (vs : List Shape) :
    (offenders ws vs = [] ∧ derived items (.enum vs) = .ok ()) ∨
    (offenders ws vs ≠ [] ∧ ∃ e, derived items (.enum vs) = .err e ∧
        OneErrorPer (offenders ws vs) e ∧ e.len = (offenders ws vs).length) := by
  obtain ⟨d, hd⟩ := variantErr_eq (dissOf (ws.map SWord.toWord)).enumValues.toShapeSet
  rw [derived_eq h, validateBody_enum (not_any_contains hany)]
  rcases validateEnum_cases (enum_word_nonempty hf) _ vs
      ((filter_eq_nonConforming _ vs).trans (offenders_eq ws vs))
    with hok | ⟨hne, e, he, hv, hl⟩
  · exact .inl hok
  · exact .inr ⟨hne, e, he, ⟨d, hv.trans (List.map_congr_left fun v _ => hd v)⟩, hl⟩

/-- the count alone, in the form of the property text: the number of errors is the number of
    non-conforming variants -/
theorem derived_enum_error_count_partial {items : List NestedMeta} {ws : List SWord}
    (h : Spells items ws) (hany : SWord.any ∉ ws) (hf : HasFamily ws .enum) (vs : List Shape)
    (e : Err) (he : derived items (.enum vs) = .err e) :
    e.len = (offenders ws vs).length := by
  rcases derived_enum_errors_partial h hany hf vs with ⟨_, hok⟩ | ⟨_, e', he', _, hlen⟩
  · rw [hok] at he; cases he
  · rw [he'] at he; cases he; exact hlen

/-- without an enum word the enum is refused as a whole: one leaf that names the enum, however
    many variants there are (this is the "vice versa" clause; see D3 in section 4 for how it
    sits with "one error per non-conforming variant") -/
theorem derived_enum_without_enum_word {items : List NestedMeta} {ws : List SWord}
    (h : Spells items ws) (hany : SWord.any ∉ ws) (hf : ¬ HasFamily ws .enum) (vs : List Shape) :
    ∃ expected : String,
      derived items (.enum vs) = .err (Err.new (.unsupportedShape "enum" (some expected))) := by
  rw [derived_eq h, validateBody_enum (not_any_contains hany)]
  have he : (ws.map SWord.toWord).any (·.isEnumWord) = false := by
    rw [Bool.eq_false_iff]; exact fun hc => hf ((any_isEnumWord_iff ws).mp hc)
  exact validateEnum_of_isEmpty (by rw [enum_isEmpty, he]; rfl) _ vs

/-! ### the stand-alone shape-set API (`ShapeSet::new`, `contains`, `check`) -/

theorem foldl_insert_eq (l : List Shape) (acc : ShapeSet) :
    l.foldl ShapeSet.insert acc =
      ⟨acc.newtype || l.contains .newtype, acc.named || l.contains .named,
       acc.tuple || l.contains .tuple, acc.unit || l.contains .unit⟩ := by
  induction l generalizing acc with
  | nil => simp only [List.foldl_nil, List.contains_nil, Bool.or_false]
  | cons x xs ih =>
      rw [List.foldl_cons, ih]
      cases x <;>
        simp only [ShapeSet.insert, List.contains_cons, Bool.true_or, Bool.or_true,
          beq_self_eq_true] <;>
        rfl

/-- `ShapeSet::new(items)` remembers exactly which shapes were listed (order and repetitions
    are irrelevant) -/
theorem ofList_eq (l : List Shape) :
    ShapeSet.ofList l =
      ⟨l.contains .newtype, l.contains .named, l.contains .tuple, l.contains .unit⟩ := by
  unfold ShapeSet.ofList
  rw [foldl_insert_eq]
  simp only [Bool.false_or]

/-- **C18, run-time API.**  `contains`: a shape is in the set iff it was listed, or it is the
    newtype shape and the tuple shape was listed (and not the other way round) -/
theorem api_contains_iff (l : List Shape) (s : Shape) :
    (ShapeSet.ofList l).containsShape s = true ↔ s ∈ l ∨ (s = .newtype ∧ Shape.tuple ∈ l) := by
  rw [ofList_eq]
  cases s <;> simp [ShapeSet.containsShape]

/-- `check` agrees with `contains`, its error names the observed shape, and it never panics -/
theorem api_check (l : List Shape) (s : Shape) :
    (s ∈ l ∨ (s = .newtype ∧ Shape.tuple ∈ l)) ∧ (ShapeSet.ofList l).check s = .ok () ∨
    ¬ (s ∈ l ∨ (s = .newtype ∧ Shape.tuple ∈ l)) ∧
      ∃ expected, (ShapeSet.ofList l).check s
        = .err (Err.new (.unsupportedShape s.description (some expected))) := by
  obtain ⟨d, hd⟩ := display_ok (ShapeSet.ofList l)
  by_cases h : (ShapeSet.ofList l).containsShape s = true
  · exact .inl ⟨(api_contains_iff l s).mp h, by simp only [ShapeSet.check, h, if_true]⟩
  · refine .inr ⟨fun hc => h ((api_contains_iff l s).mpr hc), d, ?_⟩
    simp only [ShapeSet.check, h, hd, Bool.false_eq_true, if_false]

theorem api_check_isOk (l : List Shape) (s : Shape) :
    ((ShapeSet.ofList l).check s).isOk = true ↔ s ∈ l ∨ (s = .newtype ∧ Shape.tuple ∈ l) := by
  rw [check_ok_iff, api_contains_iff]

/-! ### the stand-alone API against the derived code -/

theorem wordShapes_contains (f : Family) (w : SWord) (x : Shape) :
    (wordShapes f w).contains x = ((SWord.fam f none == w) || (SWord.fam f (some x) == w)) := by
  have key : ∀ w ∈ SWord.all, ∀ f ∈ [Family.struct, Family.enum],
      ∀ x ∈ [Shape.named, .tuple, .unit, .newtype],
      (wordShapes f w).contains x = ((SWord.fam f none == w) || (SWord.fam f (some x) == w)) := by
    decide
  exact key w (SWord.mem_all w) f (by cases f <;> decide) x (by cases x <;> decide)

/-- the family's shape list contains a shape iff the family's `any` or that very word occurs -/
theorem familyShapes_contains (ws : List SWord) (f : Family) (x : Shape) :
    (familyShapes ws f).contains x
      = (ws.contains (.fam f none) || ws.contains (.fam f (some x))) := by
  induction ws with
  | nil => rfl
  | cons w ws ih =>
      have : familyShapes (w :: ws) f = wordShapes f w ++ familyShapes ws f := by
        simp only [familyShapes, List.flatMap_cons]
      rw [this, List.contains_append, ih, wordShapes_contains, List.contains_cons, List.contains_cons]
      ac_rfl

/-- **C18, same sets.**  The set the emitted validator builds for struct bodies is the set the
    stand-alone API builds from the shapes listed by the struct words … -/
theorem emitted_struct_set (ws : List SWord) :
    (dissOf (ws.map SWord.toWord)).structValues.toShapeSet
      = ShapeSet.ofList (familyShapes ws .struct) := by
  simp only [ofList_eq, dissOf, toShapeSet_fields, familyShapes_contains, ← contains_toWord,
    SWord.toWord]

/-- … and likewise for enum variants -/
theorem emitted_enum_set (ws : List SWord) :
    (dissOf (ws.map SWord.toWord)).enumValues.toShapeSet
      = ShapeSet.ofList (familyShapes ws .enum) := by
  simp only [ofList_eq, dissOf, toShapeSet_fields, familyShapes_contains, ← contains_toWord,
    SWord.toWord]

/-- the specification's "declared" is the API's `contains` on the listed shapes -/
theorem declared_iff_api (ws : List SWord) (f : Family) (s : Shape) :
    Declared ws f s ↔ (ShapeSet.ofList (familyShapes ws f)).containsShape s = true := by
  cases f with
  | struct => rw [← emitted_struct_set, struct_contains, any_admitsStruct_iff]
  | «enum» => rw [← emitted_enum_set, enum_contains, conforms_iff]

/-- **C18, same verdicts (struct).**  With a struct word declared (and no bare `any`) the
    derived code returns, on a struct body, literally what `ShapeSet::check` returns — the same
    verdict and the same error. -/
theorem derived_struct_eq_api {items : List NestedMeta} {ws : List SWord}
    (h : Spells items ws) (hany : SWord.any ∉ ws) (hf : HasFamily ws .struct) (s : Shape) :
    derived items (.struct s) = (ShapeSet.ofList (familyShapes ws .struct)).check s := by
  have hs : (ws.map SWord.toWord).any (·.isStructWord) = true := by
    obtain ⟨c, hc⟩ := hf
    refine List.any_eq_true.mpr ⟨_, List.mem_map.mpr ⟨_, hc, rfl⟩, ?_⟩
    cases c with
    | none => rfl
    | some c => cases c <;> rfl
  rw [derived_eq h, validateBody_struct (not_any_contains hany),
    validateStruct_of_nonempty (by rw [struct_isEmpty, hs]; rfl), emitted_struct_set]

/-- the verdict alone needs no side condition: without a struct word both refuse -/
theorem derived_struct_verdict_eq_api {items : List NestedMeta} {ws : List SWord}
    (h : Spells items ws) (hany : SWord.any ∉ ws) (s : Shape) :
    (derived items (.struct s)).isOk
      = ((ShapeSet.ofList (familyShapes ws .struct)).check s).isOk := by
  rw [Bool.eq_iff_iff, derived_accepts_iff h, check_ok_iff, ← declared_iff_api]
  exact ⟨fun hh => hh.resolve_left hany, .inr⟩

/-- **C18, same verdicts (enum).**  An enum is accepted by the derived code iff some enum word
    is declared and `ShapeSet::check` accepts every variant. -/
theorem derived_enum_verdict_eq_api {items : List NestedMeta} {ws : List SWord}
    (h : Spells items ws) (hany : SWord.any ∉ ws) (vs : List Shape) :
    (derived items (.enum vs)).isOk = true ↔
      HasFamily ws .enum ∧
        ∀ v ∈ vs, ((ShapeSet.ofList (familyShapes ws .enum)).check v).isOk = true := by
  rw [derived_accepts_iff h]
  simp only [check_ok_iff, ← declared_iff_api]
  exact ⟨fun hh => hh.resolve_left hany, .inr⟩

/-- the errors `ShapeSet::check` itself reports on the variants, in source order -/
def apiErrors (S : ShapeSet) (vs : List Shape) : List Err :=
  vs.filterMap fun v => match S.check v with
    | .err e => some e
    | _ => none

theorem apiErrors_eq (S : ShapeSet) (vs : List Shape) :
    apiErrors S vs = (vs.filter (fun v => !S.containsShape v)).map (variantErr S) := by
  induction vs with
  | nil => rfl
  | cons v vs ih =>
      simp only [apiErrors, List.filterMap_cons, List.filter_cons, check_eq] at ih ⊢
      cases S.containsShape v with
      | true => exact ih
      | false => exact congrArg _ ih

/-- **C18, same verdicts (enum), with the errors.**  With an enum word declared (and no bare
    `any`) the derived code returns the bundle of exactly the errors `ShapeSet::check` reports
    on the variants. -/
theorem derived_enum_eq_api {items : List NestedMeta} {ws : List SWord}
    (h : Spells items ws) (hany : SWord.any ∉ ws) (hf : HasFamily ws .enum) (vs : List Shape) :
    derived items (.enum vs) =
      match apiErrors (ShapeSet.ofList (familyShapes ws .enum)) vs with
      | [] => .ok ()
      | errs => Err.bundleErr errs := by
  rw [derived_eq h, validateBody_enum (not_any_contains hany),
    validateEnum_eq _ vs ((any_isEnumWord_iff ws).mpr hf), ← filter_eq_nonConforming,
    emitted_enum_set, ← apiErrors_eq]
  generalize apiErrors _ vs = l
  cases l <;> rfl

/-! ### variant-level `supports(...)` (`FromVariant` receivers: the five bare words) -/

/-- a `supports(...)` entry of a `FromVariant` receiver: a bare cell name -/
def IsCellItem (n : NestedMeta) (c : Option Shape) : Prop :=
  ∃ p : Path, n = .item (.path p) ∧ p.getIdent = some (cellName c)

/-- the canonical entry for a bare cell name -/
def cellItem (c : Option Shape) (sp : Span := ⟨0, 0⟩) : NestedMeta :=
  .item (.path { global := false, segs := [cellName c], plain := true, toks := cellName c, span := sp })

inductive SpellsCells : List NestedMeta → List (Option Shape) → Prop where
  | nil : SpellsCells [] []
  | cons {n c items cs} : IsCellItem n c → SpellsCells items cs → SpellsCells (n :: items) (c :: cs)

/-- the verdict the text demands of a variant-level declaration -/
def AcceptsVariant (cs : List (Option Shape)) (s : Shape) : Prop := ∃ c ∈ cs, cellAdmits c s

/-- the derived `from_variant` check: declaration read at derive time, `ShapeSet::check` on the variant -/
def derivedVariant (items : List NestedMeta) (s : Shape) : Outcome Unit :=
  match DataShape.fromList items with
  | .ok d => d.toShapeSet.check s
  | .err e => .err e
  | .panic m => .panic m

/-- proof device: the state after the words `cs` -/
def dsOf (cs : List (Option Shape)) : DataShape :=
  { pre := "", any := cs.contains none, named := cs.contains (some .named),
    tuple := cs.contains (some .tuple), newtype := cs.contains (some .newtype),
    unit := cs.contains (some .unit) }

theorem dsOf_setWord (cs : List (Option Shape)) (c : Option Shape) :
    (dsOf cs).setWord (cellName c) = .ok (dsOf (cs ++ [c])) := by
  -- the prefix of a `FromVariant` declaration is empty
  have hp : ∀ s, (dsOf cs).pre ++ s = s := fun _ => String.empty_append
  have h1 := setWord_any (dsOf cs)
  have h2 := setWord_named (dsOf cs)
  have h3 := setWord_tuple (dsOf cs)
  have h4 := setWord_newtype (dsOf cs)
  have h5 := setWord_unit (dsOf cs)
  rw [hp] at h1 h2 h3 h4 h5
  simp only [dsOf, List.contains_snoc]
  cases c with
  | none => exact h1
  | some s =>
      cases s with
      | named => exact h2
      | tuple => exact h3
      | newtype => exact h4
      | unit => exact h5

theorem ds_fromListLoop (pre : List (Option Shape)) {items : List NestedMeta}
    {cs : List (Option Shape)} (h : SpellsCells items cs) (errs : List Err) :
    DataShape.fromListLoop (dsOf pre) errs items = (dsOf (pre ++ cs), errs) := by
  induction h generalizing pre with
  | nil => simp only [DataShape.fromListLoop, List.append_nil]
  | @cons n c items cs hc _ ih =>
      obtain ⟨p, rfl, hp⟩ := hc
      simp only [DataShape.fromListLoop, hp, dsOf_setWord]
      rw [ih (pre ++ [c])]
      simp only [List.append_assoc, List.singleton_append]

theorem variant_supports_parses {items : List NestedMeta} {cs : List (Option Shape)}
    (h : SpellsCells items cs) : DataShape.fromList items = .ok (dsOf cs) := by
  have h0 : (dsOf []) = {} := by decide
  have := ds_fromListLoop [] h []
  rw [h0] at this
  simp only [DataShape.fromList, this, List.nil_append]

theorem acceptsVariant_iff (cs : List (Option Shape)) (s : Shape) :
    AcceptsVariant cs s ↔ none ∈ cs ∨ (s = .newtype ∧ some .tuple ∈ cs) ∨ some s ∈ cs := by
  constructor
  · rintro ⟨c, hc, ha⟩
    cases c with
    | none => exact .inl hc
    | some c =>
        rcases ha with rfl | ⟨rfl, rfl⟩
        · exact .inr (.inr hc)
        · exact .inr (.inl ⟨rfl, hc⟩)
  · rintro (h | ⟨rfl, h⟩ | h)
    · exact ⟨none, h, trivial⟩
    · exact ⟨_, h, .inr ⟨rfl, rfl⟩⟩
    · exact ⟨_, h, .inl rfl⟩

theorem dsOf_contains (cs : List (Option Shape)) (s : Shape) :
    (dsOf cs).toShapeSet.containsShape s = true ↔ AcceptsVariant cs s := by
  rw [acceptsVariant_iff, dsOf, containsShape_toShapeSet]
  cases s <;>
    simp only [Bool.or_eq_true, List.contains_iff_mem, reduceCtorEq, false_and, true_and, false_or]

theorem derivedVariant_eq {items : List NestedMeta} {cs : List (Option Shape)}
    (h : SpellsCells items cs) (s : Shape) :
    derivedVariant items s = (dsOf cs).toShapeSet.check s := by
  simp only [derivedVariant, variant_supports_parses h]

/-- **C18, variant level.**  A `FromVariant` receiver declaring `supports(c₁, …, cₙ)` accepts a
    variant exactly when one of the words admits its shape; never a panic. -/
theorem derivedVariant_accepts_iff {items : List NestedMeta} {cs : List (Option Shape)}
    (h : SpellsCells items cs) (s : Shape) :
    (derivedVariant items s).isOk = true ↔ AcceptsVariant cs s := by
  rw [derivedVariant_eq h, check_ok_iff, dsOf_contains]

theorem derivedVariant_never_panics {items : List NestedMeta} {cs : List (Option Shape)}
    (h : SpellsCells items cs) (s : Shape) (m : String) : derivedVariant items s ≠ .panic m := by
  rw [derivedVariant_eq h]
  exact check_never_panics _ _ _

/-! ## 4. Where the property text and the behaviour part ways -/

/-!
  D1 — newtype receivers (`struct W(Inner);`) fall under "A receiver declaring `supports(...)`
  accepts an input exactly when …" like every other receiver: in their arm of
  `FromDeriveInputImpl::to_tokens` the receiver's own validator runs before the inner receiver
  is asked, and `Env.runOuter` mirrors that (finding F21 of DESIGN II.6). -/

/-- what a newtype receiver does once its own shape check has passed: the inner receiver is
    asked, and its value is wrapped -/
def newtypeDelegation (run : String → Derive.Elem → Outcome Val) (r : Options.ROuter)
    (f : Options.RField) (el : Derive.Elem) : Outcome Val :=
  match f.ty with
  | .recv inner => (run inner el).map (fun v => .record r.base.ident [("0", v)])
  | _ => .err (Err.custom "unsupported newtype inner")

/-- **C18, newtype receivers.**  A newtype `FromDeriveInput` receiver declaring `supports(..)`
    runs its own validator on the body first; an error of the validator is the result, and
    only after `Ok(())` is the inner receiver asked. -/
theorem newtype_receiver_validates (env : Env.T) (run conv) (r : Options.ROuter)
    (f : Options.RField) (d : DeclD) (diss : DISS)
    (h : r.base.data = .struct .tuple [f]) (ht : r.trait_ = .fromDeriveInput)
    (hs : r.supports = some diss) :
    Env.runOuter env run conv r (.deriveInput d) =
      match diss.validateBody d.body.shape with
      | .ok () => newtypeDelegation run r f (.deriveInput d)
      | .err e => .err e
      | .panic m => .panic m := by
  unfold Env.runOuter newtypeDelegation
  simp only [h, ht, hs]
  cases diss.validateBody d.body.shape <;> rfl

/-- a body the declaration refuses is refused by the receiver, with the validator's error -/
theorem newtype_receiver_rejects (env : Env.T) (run conv) (r : Options.ROuter)
    (f : Options.RField) (d : DeclD) (diss : DISS) (e : Err)
    (h : r.base.data = .struct .tuple [f]) (ht : r.trait_ = .fromDeriveInput)
    (hs : r.supports = some diss) (hv : diss.validateBody d.body.shape = .err e) :
    Env.runOuter env run conv r (.deriveInput d) = .err e := by
  rw [newtype_receiver_validates env run conv r f d diss h ht hs, hv]

theorem newtype_receiver_delegates (env : Env.T) (run conv) (r : Options.ROuter)
    (f : Options.RField) (d : DeclD) (diss : DISS)
    (h : r.base.data = .struct .tuple [f]) (ht : r.trait_ = .fromDeriveInput)
    (hs : r.supports = some diss) (hv : diss.validateBody d.body.shape = .ok ()) :
    Env.runOuter env run conv r (.deriveInput d) = newtypeDelegation run r f (.deriveInput d) := by
  rw [newtype_receiver_validates env run conv r f d diss h ht hs, hv]

/-- the shape check adds no panic: a newtype receiver panics only if the delegation does -/
theorem newtype_receiver_panics_only_inside (env : Env.T) (run conv) (r : Options.ROuter)
    (f : Options.RField) (d : DeclD) (diss : DISS) (m : String)
    (h : r.base.data = .struct .tuple [f]) (ht : r.trait_ = .fromDeriveInput)
    (hs : r.supports = some diss)
    (hp : Env.runOuter env run conv r (.deriveInput d) = .panic m) :
    newtypeDelegation run r f (.deriveInput d) = .panic m := by
  rw [newtype_receiver_validates env run conv r f d diss h ht hs] at hp
  cases hv : diss.validateBody d.body.shape with
  | ok u => rw [hv] at hp; exact hp
  | err e => rw [hv] at hp; cases hp
  | panic m' => exact absurd hv (validateBody_never_panics _ _ _)

/-- **C18, newtype receivers, end to end.**  With the declaration `supports(w₁, …, wₙ)` read at
    derive time, a newtype receiver accepts an input exactly when the body's shape is in the
    declared set AND the inner receiver accepts the input. -/
theorem newtype_receiver_accepts_iff (env : Env.T) (run conv) (r : Options.ROuter)
    (f : Options.RField) (d : DeclD) (diss : DISS) {items : List NestedMeta} {ws : List SWord}
    (hsp : Spells items ws) (hd : DISS.fromList items = .ok diss)
    (h : r.base.data = .struct .tuple [f]) (ht : r.trait_ = .fromDeriveInput)
    (hs : r.supports = some diss) :
    (Env.runOuter env run conv r (.deriveInput d)).isOk = true ↔
      Accepts ws d.body.shape ∧ (newtypeDelegation run r f (.deriveInput d)).isOk = true := by
  have hacc := derived_accepts_iff hsp d.body.shape
  simp only [derived, hd] at hacc
  rw [newtype_receiver_validates env run conv r f d diss h ht hs, ← hacc]
  cases diss.validateBody d.body.shape with
  | ok u => simp only [Outcome.isOk, true_and]
  | err e => simp only [Outcome.isOk, Bool.false_eq_true, false_and]
  | panic m => simp only [Outcome.isOk, Bool.false_eq_true, false_and]

/-- in particular: whatever the inner receiver would say, only declared shapes get through -/
theorem newtype_receiver_accepts_only_declared (env : Env.T) (run conv) (r : Options.ROuter)
    (f : Options.RField) (d : DeclD) (diss : DISS) {items : List NestedMeta} {ws : List SWord}
    (hsp : Spells items ws) (hd : DISS.fromList items = .ok diss)
    (h : r.base.data = .struct .tuple [f]) (ht : r.trait_ = .fromDeriveInput)
    (hs : r.supports = some diss)
    (hok : (Env.runOuter env run conv r (.deriveInput d)).isOk = true) :
    Accepts ws d.body.shape :=
  ((newtype_receiver_accepts_iff env run conv r f d diss hsp hd h ht hs).mp hok).1

/-- a newtype receiver `struct W(Inner);` declaring `supports(struct_named)` -/
def wrapperReceiver : Options.ROuter :=
  { (default : Options.ROuter) with
    trait_ := .fromDeriveInput
    base := { (default : Options.RCore) with
              ident := "W"
              data := .struct .tuple [{ (default : Options.RField) with ty := .recv "Inner" }] }
    supports := some { structValues := { pre := "struct_", named := true } } }

/-- D1, concrete: the union is rejected by the wrapper, with the validator's error, even though
    the inner receiver would accept it; a named struct goes through -/
example (env : Env.T) (conv) :
    Env.runOuter env (fun _ _ => .ok .unit) conv wrapperReceiver
        (.deriveInput { ident := "U", attrs := [], body := .union })
      = .err (Err.new (.unsupportedShape "union" none)) ∧
    Env.runOuter env (fun _ _ => .ok .unit) conv wrapperReceiver
        (.deriveInput { ident := "A", attrs := [], body := .struct .named [] })
      = .ok (.record "W" [("0", .unit)]) :=
  ⟨rfl, rfl⟩

/-- the hypotheses of the newtype theorems hold for `wrapperReceiver` and the parsed declaration
    `supports(struct_named)` -/
example :
    wrapperReceiver.base.data = .struct .tuple [{ (default : Options.RField) with ty := .recv "Inner" }] ∧
    wrapperReceiver.trait_ = .fromDeriveInput ∧
    (∃ diss, wrapperReceiver.supports = some diss ∧
      DISS.fromList [SWord.item (.fam .struct (some .named))] = .ok diss) :=
  ⟨rfl, rfl, _, rfl, supports_parses (spells_items [_])⟩

/-!
  D2 — "`struct_*` / `enum_*` words are additive" holds inside ONE `supports(...)` list only.
  A second `supports(...)` on the same receiver replaces the first (no duplicate-option error,
  no union of the two lists): `FdiOptions::parse_nested` assigns `self.supports`. -/

/-- D2: reading a `supports(...)` option overwrites whatever was declared before -/
theorem supports_last_wins (o : Oracle) (s : Options.OuterOpts) (mi : Meta)
    (hp : mi.path'.isIdent "supports" = true) (v : Option DISS)
    (hr : Options.readOptDISS mi = .ok v) :
    Options.outerTraitStep .fromDeriveInput o s mi = .ok { s with supports := v } := by
  simp only [Options.outerTraitStep, hp, hr, Options.withRead, Bool.true_and, beq_self_eq_true,
    if_true]

/-- the option `supports(items…)` as the derive macro sees it -/
def supportsMeta (items : List NestedMeta) : Meta :=
  .list { global := false, segs := ["supports"], plain := true, toks := "supports", span := ⟨0, 8⟩ }
    items none none "supports(..)" ⟨0, 20⟩

theorem supportsMeta_isIdent (items : List NestedMeta) :
    (supportsMeta items).path'.isIdent "supports" = true := rfl

theorem readOptDISS_supportsMeta {items : List NestedMeta} {d : DISS}
    (h : DISS.fromList items = .ok d) :
    Options.readOptDISS (supportsMeta items) = .ok (some d) := by
  show ((DISS.fromList items).mapErr _).map some = _
  rw [h]
  rfl

/-- D2, concrete: `supports(struct_named)` then `supports(enum_unit)` on one receiver — after the
    first a named struct is accepted, after the second it is refused -/
example (o : Oracle) :
    ∃ d1 d2 s1 s2,
      Options.outerTraitStep .fromDeriveInput o {}
          (supportsMeta [SWord.item (.fam .struct (some .named))]) = .ok s1 ∧
      s1.supports = some d1 ∧ (d1.validateBody (.struct .named)).isOk = true ∧
      Options.outerTraitStep .fromDeriveInput o s1
          (supportsMeta [SWord.item (.fam .enum (some .unit))]) = .ok s2 ∧
      s2.supports = some d2 ∧ (d2.validateBody (.struct .named)).isOk = false ∧
      Accepts [.fam .struct (some .named), .fam .enum (some .unit)] (.struct .named) :=
  ⟨_, _, _, _,
    supports_last_wins o _ _ (supportsMeta_isIdent _) _
      (readOptDISS_supportsMeta (supports_parses (spells_items [_]))),
    rfl, rfl,
    supports_last_wins o _ _ (supportsMeta_isIdent _) _
      (readOptDISS_supportsMeta (supports_parses (spells_items [_]))),
    rfl, rfl, by decide⟩

/-!
  D3 — "one error per non-conforming variant" needs the side condition `HasFamily ws .enum` of
  `derived_enum_errors_partial`: under struct words only, every variant is non-conforming, yet
  the enum is refused with ONE error (the "vice versa" clause wins). -/

/-- the expectation text of the two examples below, put together once, so that their `rfl` compares
    two literals -/
theorem struct_with_named : "struct with " ++ "named fields" = "struct with named fields" := by
  simp only [String.reduceAppend]

/-- D3, concrete: three non-conforming variants, one error -/
example :
    offenders [.fam .struct (some .named)] [.unit, .tuple, .named] = [.unit, .tuple, .named] ∧
    derived [SWord.item (.fam .struct (some .named))] (.enum [.unit, .tuple, .named])
      = .err (Err.new (.unsupportedShape "enum" (some "struct with named fields"))) ∧
    (Err.new (.unsupportedShape "enum" (some "struct with named fields"))).len = 1 :=
  ⟨by decide, (derived_items [_] _).trans (struct_with_named ▸ rfl), rfl⟩

/-- D3, the empty enum: no variant offends, and still it is an error under struct words only -/
example :
    offenders [.fam .struct (some .named)] [] = [] ∧
    derived [SWord.item (.fam .struct (some .named))] (.enum [])
      = .err (Err.new (.unsupportedShape "enum" (some "struct with named fields"))) :=
  ⟨rfl, (derived_items [_] _).trans (struct_with_named ▸ rfl)⟩

/-! ## 5. Non-vacuity -/

/-- the spans and the token text of an entry are free -/
example : IsWordItem
    (.item (.path { global := false, segs := ["enum_unit"], plain := true, toks := "enum_unit",
                    span := ⟨17, 26⟩ })) (.fam .enum (some .unit)) := ⟨_, rfl, rfl⟩

-- `SWord.any ∉ ws`, `HasFamily ws .enum` (hypotheses of `derived_enum_errors_partial`,
-- `derived_enum_eq`, `derived_enum_eq_api`) hold together, with both outcomes reachable
example : SWord.any ∉ [SWord.fam .enum (some .unit), .fam .struct none] := by decide
example : HasFamily [SWord.fam .enum (some .unit), .fam .struct none] .enum := ⟨_, List.mem_cons_self⟩
example : offenders [.fam .enum (some .unit), .fam .struct none] [.unit, .unit] = [] := by decide
example : offenders [.fam .enum (some .unit), .fam .struct none] [.unit, .tuple, .unit, .named]
    = [.tuple, .named] := by decide
example :
    derived [SWord.item (.fam .enum (some .unit)), SWord.item (.fam .struct none)]
      (.enum [.unit, .tuple, .unit, .named])
    = .err (.multi [Err.new (.unsupportedShape "unnamed fields" (some "no fields")),
                    Err.new (.unsupportedShape "named fields" (some "no fields"))] [] none) :=
  (derived_items [_, _] _).trans rfl
example :
    derived [SWord.item (.fam .enum (some .unit)), SWord.item (.fam .struct none)]
      (.enum [.unit, .unit]) = .ok () := (derived_items [_, _] _).trans rfl
-- `¬ HasFamily ws .enum` (hypothesis of `derived_enum_without_enum_word`)
example : ¬ HasFamily [SWord.fam .struct none] .enum := by decide
-- `HasFamily ws .struct` (hypothesis of `derived_struct_eq_api`), both outcomes
example : HasFamily [SWord.fam .struct (some .tuple)] .struct := ⟨_, List.mem_cons_self⟩
example : derived [SWord.item (.fam .struct (some .tuple))] (.struct .newtype) = .ok () :=
  (derived_items [_] _).trans rfl
example : derived [SWord.item (.fam .struct (some .newtype))] (.struct .tuple)
    = .err (Err.new (.unsupportedShape "unnamed fields" (some "one unnamed field"))) :=
  (derived_items [_] _).trans rfl
-- the verdict theorem has both verdicts, for every kind of body
example : Accepts [.fam .struct (some .tuple), .fam .enum (some .unit)] (.struct .newtype) := by decide
example : ¬ Accepts [.fam .struct (some .newtype)] (.struct .tuple) := by decide
example : ¬ Accepts [.fam .enum (some .unit)] (.struct .unit) := by decide
example : ¬ Accepts [.fam .struct none, .fam .enum none] .union := by decide
example : Accepts [.any] .union := by decide
example : derived [SWord.item .any] .union = .ok () := (derived_items [_] _).trans rfl
example : derived [SWord.item (.fam .struct none), SWord.item (.fam .enum none)] .union
    = .err (Err.new (.unsupportedShape "union" none)) := (derived_items [_, _] _).trans rfl
-- `supports_rejects_non_word`: the hypotheses hold for, e.g., `struct_struct_named`
theorem struct_struct_named_not_word : ∀ w : SWord, w.text ≠ "struct_struct_named" := by
  intro w
  rw [← toWord_text]
  cases w.toWord <;> simp only [Spec.C18.Word.text, ne_eq, String.reduceEq, not_false_eq_true]
example : ∀ w : SWord, w.text ≠ "struct_struct_named" := struct_struct_named_not_word
example : DISS.fromList [SWord.item (.fam .enum none),
      .item (.path { global := false, segs := ["struct_struct_named"], plain := true,
                     toks := "struct_struct_named", span := ⟨9, 28⟩ })]
    = .err ((Err.unknownValue "struct_struct_named").withSpan ⟨9, 28⟩) :=
  supports_rejects_non_word (spells_items [_]) _ _ rfl struct_struct_named_not_word []
-- variant level
example : SpellsCells [cellItem none, cellItem (some .tuple) ⟨5, 10⟩] [none, some .tuple] :=
  .cons ⟨_, rfl, rfl⟩ (.cons ⟨_, rfl, rfl⟩ .nil)
example : derivedVariant [cellItem (some .tuple)] .newtype = .ok () :=
  (derivedVariant_eq (cs := [some .tuple]) (.cons ⟨_, rfl, rfl⟩ .nil) _).trans rfl
example : derivedVariant [cellItem (some .newtype), cellItem (some .unit)] .tuple
    = .err (Err.new (.unsupportedShape "unnamed fields" (some "one unnamed field or no fields"))) :=
  have h : "one unnamed field" ++ " or " ++ "no fields" = "one unnamed field or no fields" := by
    simp only [String.reduceAppend]
  (derivedVariant_eq (cs := [some .newtype, some .unit])
    (.cons ⟨_, rfl, rfl⟩ (.cons ⟨_, rfl, rfl⟩ .nil)) _).trans (h ▸ rfl)
example : AcceptsVariant [some .tuple] .newtype := ⟨_, List.mem_cons_self, .inr ⟨rfl, rfl⟩⟩
example : ¬ AcceptsVariant [some .newtype, some .unit] .tuple := by
  rw [acceptsVariant_iff]
  decide
-- D2 hypotheses (those of the newtype theorems are exhibited next to `wrapperReceiver`)
example : (supportsMeta [SWord.item (.fam .enum (some .unit))]).path'.isIdent "supports" = true :=
  supportsMeta_isIdent _
example : ∃ v, Options.readOptDISS (supportsMeta [SWord.item (.fam .enum (some .unit))]) = .ok v :=
  ⟨_, readOptDISS_supportsMeta (supports_parses (spells_items [_]))⟩

end C18
