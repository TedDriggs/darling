import Darling.Derive.Env
import Darling.Lemmas.NoPanic
import Darling.Props.C06Derive
import Darling.Props.C07Universe
import Darling.Props.C07Outer
/-
  C07, `FromMeta` receivers end to end: every receiver the derive model accepts, in any corpus,
  returns (never panics) on every input, at every nesting depth.
-/
open Derive Options

namespace C07

/-! ### 1. the harness's custom functions return -/

theorem customWith_returns (o : Oracle) (rh : String → Hooks Val) (w : String) (f : Meta → Outcome Val)
    (h : Env.customWith o rh w = some f) (hr : ∀ n, (rh n).NP) : ∀ m, (f m).Returns := by
  unfold Env.customWith at h
  simp only [] at h
  split at h
  · cases h
    intro m
    exact ((hooksOf_np o rh hr _).fromMeta m).map _
  · cases h
    intro m
    exact ((hooksOf_np o rh hr _).fromMeta m).map _
  · cases h
    intro m
    exact ((hooksOf_np o rh hr _).fromMeta m).map _
  · cases h
    intro m
    exact Outcome.returns_err _
  · cases h

theorem customPost_returns (p : Post) (t : Ty) (g : Val → Outcome Val)
    (h : Env.customPost p = some (t, g)) : ∀ v, (g v).Returns := by
  unfold Env.customPost at h
  split at h
  · cases h
    intro v
    simp only []
    split <;> exact Outcome.returns_ok _
  · cases h
    intro v
    simp only []
    split <;> exact Outcome.returns_ok _
  · cases h
    intro v
    simp only []
    split <;> first | exact Outcome.returns_ok _ | exact Outcome.returns_err _
  · cases h
  · cases h

/-! ### 2. the fields of a derived receiver -/

theorem semField_base_returns (o : Oracle) (rh : String → Hooks Val) (hr : ∀ n, (rh n).NP)
    (w : Option String) (ty : Ty) (m : Meta) :
    ((match w.bind (Env.customWith o rh) with
      | some w => w
      | none => (hooksOf o rh ty).fromMeta) m).Returns := by
  cases hw : w.bind (Env.customWith o rh) with
  | none => exact (hooksOf_np o rh hr ty).fromMeta m
  | some f =>
      cases w with
      | none => cases hw
      | some s => exact customWith_returns o rh s f hw hr m

theorem semField_conv_returns (env : Env.T) (rh : String → Hooks Val) (hr : ∀ n, (rh n).NP) (f : RField)
    (m : Meta) : ((Env.semField env rh f).conv m).Returns := by
  simp only [Env.semField]
  cases hp : f.post with
  | none => exact semField_base_returns _ rh hr _ _ m
  | some p =>
      cases hq : Env.customPost p with
      | none => simp only [Option.bind_some, hq]; exact semField_base_returns _ rh hr _ _ m
      | some tg =>
          obtain ⟨t, g⟩ := tg
          simp only [Option.bind_some, hq]
          split <;> exact (semField_base_returns _ rh hr _ _ m).bind g (customPost_returns p t g hq)

theorem semField_fromList_returns (env : Env.T) (rh : String → Hooks Val) (hr : ∀ n, (rh n).NP) (f : RField)
    (items : List NestedMeta) : ((Env.semField env rh f).fromList items).Returns :=
  (hooksOf_np env.oracle rh hr f.ty).fromList items

theorem semField_conv_ne_panic (env : Env.T) (rh : String → Hooks Val) (hr : ∀ n, (rh n).NP) (f : RField) :
    ∀ m msg, (Env.semField env rh f).conv m ≠ .panic msg :=
  fun m => semField_conv_returns env rh hr f m

theorem semField_fromList_ne_panic (env : Env.T) (rh : String → Hooks Val) (hr : ∀ n, (rh n).NP) (f : RField) :
    ∀ items msg, (Env.semField env rh f).fromList items ≠ .panic msg :=
  fun items => semField_fromList_returns env rh hr f items

/-- an inherited default of the semantic field comes from an inherited default of the resolved field -/
theorem semField_dflt_inherit (env : Env.T) (rh : String → Hooks Val) (f : RField)
    (h : (Env.semField env rh f).dflt = some .inherit) : f.dflt = some .inherit := by
  simp only [Env.semField] at h
  cases hd : f.dflt with
  | none => rw [hd] at h; cases h
  | some d =>
      rw [hd] at h
      cases d with
      | inherit => rfl
      | explicit p => simp at h
      | trait_ sp => simp at h

/-! ### 3. the struct parser of a derived receiver -/

/-- derive-time link: a field that inherits its default has a container default to inherit from -/
def DefaultsLinked (core : RCore) (fields : List RField) : Prop :=
  ∀ f ∈ fields, f.dflt = some .inherit → core.dflt.isSome = true

/-- the derive-time link of a whole receiver: every field list that becomes a struct parser is
    linked to the container default -/
def Linked (r : RFromMeta) : Prop :=
  match r.base.data with
  | .struct _ fs => DefaultsLinked r.base fs
  | .enum vs => ∀ v ∈ vs, DefaultsLinked r.base v.fields

/-- the link of one field to the container default `cd`, as the derive-time walk establishes it (§5) -/
def FieldLinked (cd : Option DefaultExpr) (f : RField) : Prop :=
  f.dflt = some .inherit → cd.isSome = true

def FieldsLinked (cd : Option DefaultExpr) (st : BodySt) : Prop := ∀ f ∈ st.fields, FieldLinked cd f

def VariantsLinked (cd : Option DefaultExpr) (st : BodySt) : Prop :=
  ∀ v ∈ st.variants, ∀ f ∈ v.fields, FieldLinked cd f

theorem DefaultsLinked.of_fields {core : RCore} {fields : List RField} {cd : Option DefaultExpr}
    (hcd : core.dflt = cd) (h : ∀ f ∈ fields, FieldLinked cd f) : DefaultsLinked core fields := by
  subst hcd
  exact h

theorem DefaultsLinked.congr {core core' : RCore} {fields : List RField} (h : DefaultsLinked core fields)
    (hd : core'.dflt = core.dflt) : DefaultsLinked core' fields := by
  intro f hf hi; rw [hd]; exact h f hf hi

/-- the derive-time link is what the struct parser needs of its inherited defaults; nothing is
    assumed about the nested implementors `rh` -/
theorem semStruct_dflt_source (env : Env.T) (rh : String → Hooks Val) (core : RCore) (fields : List RField)
    (build : List (String × Val) → Val) (hl : DefaultsLinked core fields) :
    DefaultsHaveSource (Env.semStruct env rh core fields build) := by
  intro sf hsf hd
  simp only [Env.semStruct, List.mem_map] at hsf
  obtain ⟨f, hf, rfl⟩ := hsf
  have := hl f hf (semField_dflt_inherit env rh f hd)
  simp only [Env.semStruct, Option.isSome_map]
  exact this

theorem semStruct_convsReturn (env : Env.T) (rh : String → Hooks Val) (hr : ∀ n, (rh n).NP)
    (core : RCore) (fields : List RField) (build : List (String × Val) → Val)
    (hl : DefaultsLinked core fields) : ConvsReturn (Env.semStruct env rh core fields build) := by
  refine ⟨?_, ?_, ?_, semStruct_dflt_source env rh core fields build hl⟩
  · intro sf hsf
    simp only [Env.semStruct, List.mem_map] at hsf
    obtain ⟨f, _, rfl⟩ := hsf
    exact semField_conv_ne_panic env rh hr f
  · intro sf hsf
    simp only [Env.semStruct, List.mem_map] at hsf
    obtain ⟨f, _, rfl⟩ := hsf
    exact semField_fromList_ne_panic env rh hr f
  · intro v
    show (Outcome.Returns _)
    simp only [Env.semStruct]
    cases hp : core.post.bind Env.customPost with
    | none => exact Outcome.returns_ok _
    | some tg =>
        obtain ⟨t, g⟩ := tg
        cases hcp : core.post with
        | none => rw [hcp] at hp; cases hp
        | some p => rw [hcp] at hp; exact customPost_returns p t g hp v

/-! ### 4. the assembled hooks -/

section Assembled
variable {ν : Type}

theorem structHooks_np_unit (v : ν) (fw : Option (Outcome ν)) (fn : Option ν) :
    (structHooks (.unit v) fw fn).NP :=
  .of_overrides { word := Outcome.returns_ok _ }

theorem structHooks_np_newtype (inner : Hooks ν) (wrap : ν → ν) (hi : inner.NP)
    (fw : Option (Outcome ν)) (fn : Option ν) : (structHooks (.newtype inner wrap) fw fn).NP :=
  .of_overrides { meta_ := fun m => ((hi.fromMeta m).mapErr _).map _ }

theorem structHooks_np_named (s : SStruct ν) (hc : ConvsReturn s)
    (fw : Option (Outcome ν)) (hfw : ∀ r, fw = some r → r.Returns) (fn : Option ν) :
    (structHooks (.named s) fw fn).NP :=
  .of_overrides { word := .of_forall hfw, list := struct_fromList_returns s hc }

/-- what `enumHooks_np` needs of a variant: the converter of a newtype variant returns, the field
    parser of a struct variant satisfies `ConvsReturn` -/
def VariantReturns (v : SVariant ν) : Prop :=
  match v.kind with
  | .unit _ => True
  | .newtype fromMeta _ _ => ∀ m, (fromMeta m).Returns
  | .struct s => ConvsReturn s

/-- where a panic of a variant's arm comes from: the converter of a newtype variant on the item, or
    (whatever class `P` their messages lie in) a user-supplied piece of a struct variant's field parser -/
theorem dataArm_panic (v : SVariant ν) (nested : Meta) (m : String)
    (h : dataArm v nested = .panic m) :
    (∃ fm fn wrap, v.kind = .newtype fm fn wrap ∧ fm nested = .panic m) ∨
    (∃ s, v.kind = .struct s ∧ ∀ P : String → Prop, PanicsIn s P → DefaultsHaveSource s → P m) := by
  unfold dataArm at h
  cases hk : v.kind with
  | unit val =>
      rw [hk] at h
      simp only [] at h
      cases nested <;> cases h
  | newtype fm fn wrap =>
      rw [hk] at h
      simp only [] at h
      cases hfm : fm nested with
      | ok x => rw [hfm] at h; cases h
      | err e => rw [hfm] at h; cases h
      | panic m' => rw [hfm] at h; cases h; exact .inl ⟨fm, fn, wrap, rfl, hfm⟩
  | struct s =>
      rw [hk] at h
      simp only [] at h
      refine .inr ⟨s, rfl, fun P hp hd => ?_⟩
      cases nested with
      | path _ => cases h
      | nameValue _ _ _ _ => cases h
      | list p items bad ts t sp =>
          cases bad with
          | some b => cases h
          | none =>
              simp only [] at h
              have h1 := coreLoop_okOr s hp items {} good_init
              cases hl : coreLoop s {} items with
              | ok st => rw [hl] at h h1; exact finishStruct_panic s hp hd true (some v.name) st h1 m h
              | error m' => rw [hl] at h h1; cases h; exact h1

theorem dataArm_returns (v : SVariant ν) (hv : VariantReturns v) (nested : Meta) : (dataArm v nested).Returns := by
  intro m h
  unfold VariantReturns at hv
  rcases dataArm_panic v nested m h with ⟨fm, fn, wrap, hk, hp⟩ | ⟨s, hk, hs⟩
  · rw [hk] at hv
    exact hv nested m hp
  · rw [hk] at hv
    exact hs _ hv.panicsIn hv.dflt

theorem enumFromList_returns (e : SEnum ν) (hv : ∀ v ∈ e.variants, VariantReturns v)
    (outer : List NestedMeta) : (enumFromList e outer).Returns := by
  unfold enumFromList
  split
  · exact Outcome.returns_err _
  · rename_i nested
    simp only []
    cases ha : e.arm nested.path'.toStr with
    | none => exact Outcome.returns_err _
    | some v => exact (dataArm_returns v (hv v (List.mem_of_find?_eq_some ha)) nested).mapErr _
  · exact Outcome.returns_err _
  · exact Outcome.returns_err _

theorem enumFromString_returns (e : SEnum ν) (lit : String) : (enumFromString e lit).Returns := by
  unfold enumFromString
  cases e.arm lit with
  | none => exact Outcome.returns_err _
  | some v =>
      simp only []
      cases v.kind with
      | unit val => exact Outcome.returns_ok _
      | newtype fm fn wrap =>
          cases fn with
          | some x => exact Outcome.returns_ok _
          | none => exact Outcome.returns_err _
      | struct s => exact Outcome.returns_err _

theorem enumHooks_np (e : SEnum ν) (hv : ∀ v ∈ e.variants, VariantReturns v)
    (hw : ∀ r, e.fromWord = some r → r.Returns) : (enumHooks e).NP :=
  .of_overrides { word := .of_forall hw, list := enumFromList_returns e hv, string := enumFromString_returns e }

end Assembled

theorem fromMetaHooks_np (env : Env.T) (rh : String → Hooks Val) (hr : ∀ n, (rh n).NP) (r : RFromMeta)
    (hl : Linked r) : (Env.fromMetaHooks env rh r).NP := by
  unfold Linked at hl
  unfold Env.fromMetaHooks
  simp only []
  -- the receiver's `from_word` (the `let fromWord` of the definition), if it has one, returns
  generalize hfw : Option.map _ r.fromWord = fw
  have hfw : ∀ x, fw = some x → x.Returns := by
    subst hfw
    refine Outcome.optionMap_returns _ _ fun a => ?_
    cases a with
    | inl c =>
        dsimp only
        split
        · exact Outcome.returns_ok _
        · exact Outcome.returns_err _
    | inr v => exact Outcome.returns_ok _
  cases hd : r.base.data with
  | struct style fields =>
      rw [hd] at hl
      simp only [] at hl
      have named := structHooks_np_named _
        (semStruct_convsReturn env rh hr r.base fields (fun kvs => .record r.base.ident kvs) hl)
        _ hfw (r.fromNone.bind (fun c => env.oracle.val? ("fn:" ++ c)))
      cases style with
      | unit => exact structHooks_np_unit _ _ _
      | named => exact named
      | tuple =>
          cases fields with
          | nil => exact named
          | cons f rest =>
              cases rest with
              | nil => exact structHooks_np_newtype _ _ (hooksOf_np _ rh hr _) _ _
              | cons g rest => exact named
  | enum variants =>
      rw [hd] at hl
      simp only [] at hl
      refine enumHooks_np _ ?_ hfw
      intro sv hsv
      simp only [List.mem_map] at hsv
      obtain ⟨rv, hrv, rfl⟩ := hsv
      have hl' := hl rv hrv
      have strct : ∀ fs, DefaultsLinked r.base fs → ∀ (c : RCore) (b : List (String × Val) → Val),
          c.dflt = r.base.dflt → ConvsReturn (Env.semStruct env rh c fs b) :=
        fun fs h c b hc => semStruct_convsReturn env rh hr c fs b (h.congr hc)
      unfold VariantReturns
      simp only []
      cases hs : rv.style with
      | unit => trivial
      | named => exact strct _ hl' _ _ rfl
      | tuple =>
          cases hf : rv.fields with
          | nil => rw [hf] at hl'; exact strct _ hl' _ _ rfl
          | cons f rest =>
              cases rest with
              | nil => intro m; exact (hooksOf_np _ rh hr _).fromMeta m
              | cons g rest => rw [hf] at hl'; exact strct _ hl' _ _ rfl

/-! ### 5. the derive link: inherited defaults have a source -/

theorem fieldDefault_inherit (own container : Option DefaultExpr) (skip : Option (Bool × Option Span))
    (h : fieldDefault own container skip = some .inherit) : own = some .inherit ∨ container.isSome = true := by
  unfold fieldDefault at h
  cases own with
  | some d => left; simpa using h
  | none =>
      cases container with
      | some c => right; rfl
      | none =>
          simp only [] at h
          split at h
          · cases h
          · cases h

theorem defaultFromMeta_not_inherit (o : Oracle) (m : Meta) (v : DefaultExpr)
    (h : defaultFromMeta o m = .ok v) : v ≠ .inherit := by
  unfold defaultFromMeta at h
  cases m with
  | path _ => cases h; intro h'; cases h'
  | list _ _ _ _ _ _ => cases h
  | nameValue _ e _ _ =>
      simp only [] at h
      cases hp : SynTypes.pathFromExpr (o.parseSyn "Path") id e with
      | ok p => rw [hp] at h; cases h; intro h'; cases h'
      | err e => rw [hp] at h; cases h
      | panic m => rw [hp] at h; cases h

/-- the field options never hold an inherited default: `inherit` is not a value of `default = ..` -/
def NoInherit (s : FieldOpts) : Prop := s.dflt ≠ some .inherit

/-- only the `default` arm writes the slot, and its reader never yields `inherit` -/
theorem fieldStep_noInherit (o : Oracle) (s : FieldOpts) (mi : Meta) (hs : NoInherit s) :
    C06.StepR.Holds NoInherit True (fieldStep o s mi) := by
  unfold fieldStep
  refine ite_ind (C06.once_holds _ _ _ _ hs (fun _ _ => ite_ind hs hs) fun _ _ => trivial) ?_
  refine ite_ind (C06.once_holds _ _ _ _ hs (fun v hv h => defaultFromMeta_not_inherit o mi v hv (Option.some.inj h))
    fun _ _ => trivial) ?_
  refine ite_ind (C06.once_holds _ _ _ _ hs (fun _ _ => ite_ind hs hs) fun _ _ => trivial) ?_
  refine ite_ind (C06.once_holds _ _ _ _ hs (fun _ _ => ite_ind hs hs) fun _ _ => trivial) ?_
  refine ite_ind ?_ ?_
  · cases s.post
    · exact C06.withRead_holds _ _ _ hs (fun _ _ => hs) fun _ _ => trivial
    · exact hs
  refine ite_ind (C06.once_holds _ _ _ _ hs (fun _ _ => ite_ind hs hs) fun _ _ => trivial) ?_
  exact ite_ind (C06.once_holds _ _ _ _ hs (fun v _ => C06.bundleStep_holds { s with flatten := v } hs _) fun _ _ => trivial) hs

theorem fieldFromDecl_linked (o : Oracle) (core : CoreOpts) (f : FieldD) (rf : RField)
    (h : fieldFromDecl o core f = .ok rf) : FieldLinked core.dflt rf := by
  obtain ⟨s, hs, hrf⟩ := C06.fieldFromDecl_eq_ok h
  obtain ⟨name, rfl⟩ := C06.resolveField_eq_ok hrf
  have hni := C06.parseAttributes_holds (fieldStep o) NoInherit True (fieldStep_noInherit o) f.attrs {} []
    (fun h' => nomatch h')
  rw [C06.finishWith_ok hs] at hni
  intro hd
  exact (fieldDefault_inherit _ _ _ hd).resolve_left hni

theorem parseFieldStep_fields (t : Trait) (o : Oracle) (sim : String → Option (Nat × String)) (core : CoreOpts)
    (st : BodySt) (f : FieldD) (st' : BodySt) (h : parseFieldStep t o sim core st f = .ok st') :
    st'.fields = st.fields ∨ ∃ rf, fieldFromDecl o core f = .ok rf ∧ st'.fields = st.fields ++ [rf] := by
  -- the statement as a property `P` of the step's result, for `ite_ind` to take through the tests of the step
  let P : Except String BodySt → Prop := fun r => r = .ok st' →
    st'.fields = st.fields ∨ ∃ rf, fieldFromDecl o core f = .ok rf ∧ st'.fields = st.fields ++ [rf]
  refine (?_ : P (parseFieldStep t o sim core st f)) h
  unfold parseFieldStep
  refine ite_ind (P := P) (ite_ind (P := P) ?_ ?_) ?_
  · cases forwardedFromField o sim f with
    | ok fw => intro h; cases h; exact Or.inl (ite_ind (P := fun s : BodySt => s.fields = st.fields) rfl rfl)
    | err e => intro h; cases h; exact Or.inl rfl
    | panic m => intro h; cases h
  · intro h; cases h; exact Or.inl rfl
  · cases hrf : fieldFromDecl o core f with
    | ok rf => intro h; cases h; exact Or.inr ⟨rf, hrf, rfl⟩
    | err e => intro h; cases h; exact Or.inl rfl
    | panic m => intro h; cases h

theorem parseFieldStep_linked (t : Trait) (o : Oracle) (sim : String → Option (Nat × String)) (core : CoreOpts)
    (st : BodySt) (f : FieldD) (st' : BodySt) (hst : FieldsLinked core.dflt st)
    (h : parseFieldStep t o sim core st f = .ok st') : FieldsLinked core.dflt st' := by
  intro g hg
  rcases parseFieldStep_fields t o sim core st f st' h with hf | ⟨rf, hrf, hf⟩
  · exact hst g (hf ▸ hg)
  · rw [hf] at hg
    rcases List.mem_append.1 hg with hg | hg
    · exact hst g hg
    · cases List.mem_singleton.1 hg
      exact fieldFromDecl_linked o core f g hrf

theorem parseFields_linked (t : Trait) (o : Oracle) (sim : String → Option (Nat × String)) (core : CoreOpts) :
    ∀ (fs : List FieldD) (st st' : BodySt), FieldsLinked core.dflt st →
      parseFields t o sim core st fs = .ok st' → FieldsLinked core.dflt st'
  | [], st, st', hst, h => by simp only [parseFields] at h; cases h; exact hst
  | f :: rest, st, st', hst, h => by
      simp only [parseFields] at h
      cases hs : parseFieldStep t o sim core st f with
      | error m => rw [hs] at h; cases h
      | ok st1 =>
          rw [hs] at h
          exact parseFields_linked t o sim core rest st1 st'
            (parseFieldStep_linked t o sim core st f st1 hst hs) h

theorem variantFields_mem (o : Oracle) (core : CoreOpts) :
    ∀ (fs : List FieldD) (rfs : List RField), variantFields o core fs = .ok rfs →
      ∀ rf ∈ rfs, ∃ f ∈ fs, fieldFromDecl o core f = .ok rf
  | [], rfs, h => by cases h; intro rf hrf; cases hrf
  | f :: rest, rfs, h => by
      unfold variantFields at h
      cases hr : fieldFromDecl o core f with
      | err e => rw [hr] at h; cases h
      | panic m => rw [hr] at h; cases h
      | ok rf =>
          rw [hr] at h
          cases hl : variantFields o core rest with
          | err e => rw [hl] at h; cases h
          | panic m => rw [hl] at h; cases h
          | ok l =>
              rw [hl] at h
              cases h
              intro g hg
              rcases List.mem_cons.mp hg with rfl | hg
              · exact ⟨f, List.mem_cons_self, hr⟩
              · obtain ⟨f', hf', hg'⟩ := variantFields_mem o core rest l hl g hg
                exact ⟨f', List.mem_cons_of_mem _ hf', hg'⟩

theorem variantFromDecl_fields (o : Oracle) (core : CoreOpts) (v : VariantD) (rv : RVariant)
    (h : variantFromDecl o core v = .ok rv) : variantFields o core v.fields = .ok rv.fields := by
  unfold variantFromDecl at h
  cases hs : finishWith (parseAttributes (variantStep (v.style == .unit)) {} [] v.attrs) with
  | err e => rw [hs] at h; cases h
  | panic m => rw [hs] at h; cases h
  | ok s =>
      rw [hs] at h
      cases hfs : variantFields o core v.fields with
      | err e => rw [hfs] at h; cases h
      | panic m => rw [hfs] at h; cases h
      | ok fs =>
          rw [hfs] at h
          -- whichever way the name is found, the fields are `fs`
          obtain ⟨name, _, hrv⟩ := Outcome.bind_eq_ok h
          cases hrv
          rfl

theorem variantFromDecl_linked (o : Oracle) (core : CoreOpts) (v : VariantD) (rv : RVariant)
    (h : variantFromDecl o core v = .ok rv) : ∀ f ∈ rv.fields, FieldLinked core.dflt f := by
  intro rf hrf
  obtain ⟨f, _, hf⟩ := variantFields_mem o core v.fields rv.fields (variantFromDecl_fields o core v rv h) rf hrf
  exact fieldFromDecl_linked o core f rf hf

/-- the variant walk keeps every property of the state that recording a variant it resolved and
    recording an error keep -/
theorem parseVariants_inv (t : Trait) (o : Oracle) (core : CoreOpts) (I : BodySt → Prop)
    (hv : ∀ (st : BodySt) (v : VariantD) (rv : RVariant), variantFromDecl o core v = .ok rv → I st →
      I { st with variants := st.variants ++ [rv] })
    (he : ∀ (st : BodySt) (e : Err), I st → I { st with errs := st.errs ++ [e] }) :
    ∀ (vs : List VariantD) (st st' : BodySt), I st → parseVariants t o core st vs = .ok st' → I st'
  | [], st, st', hst, h => by simp only [parseVariants] at h; cases h; exact hst
  | v :: rest, st, st', hst, h => by
      simp only [parseVariants] at h
      split at h
      · cases hr : variantFromDecl o core v with
        | ok rv =>
            rw [hr] at h
            exact parseVariants_inv t o core I hv he rest _ st' (hv st v rv hr hst) h
        | err e =>
            rw [hr] at h
            exact parseVariants_inv t o core I hv he rest _ st' (he st e hst) h
        | panic m =>
            rw [hr] at h
            cases h
      · exact parseVariants_inv t o core I hv he rest _ st' (he st _ hst) h

theorem parseVariants_linked (t : Trait) (o : Oracle) (core : CoreOpts) :
    ∀ (vs : List VariantD) (st st' : BodySt), VariantsLinked core.dflt st →
      parseVariants t o core st vs = .ok st' → VariantsLinked core.dflt st' := by
  refine parseVariants_inv t o core (VariantsLinked core.dflt) ?_ (fun _ _ hst => hst)
  intro st v rv hr hst w hw
  rcases List.mem_append.1 hw with hw | hw
  · exact hst w hw
  · cases List.mem_singleton.1 hw
    exact variantFromDecl_linked o core v _ hr

theorem deriveFromMeta_linked (o : Oracle) (sp : DeclSpans) (d : DeclD) (r : RFromMeta)
    (h : deriveFromMeta o sp d = .ok (.fromMeta r)) : Linked r := by
  obtain ⟨fm, st, r', hr, hd, hdata⟩ := C06.deriveFromMeta_ok o sp d _ h
  cases hr
  unfold Linked
  rcases hdata with ⟨s, fs, _, hst, hdat⟩ | ⟨vs, _, hst, hdat⟩
  · rw [hdat]
    exact DefaultsLinked.of_fields hd
      (parseFields_linked .fromMeta o _ fm.core fs {} st (fun _ hf => nomatch hf) hst)
  · rw [hdat]
    intro v hv
    exact DefaultsLinked.of_fields hd
      (parseVariants_linked .fromMeta o fm.core vs {} st (fun _ hv => nomatch hv) hst v hv)

/-- **the derive link**: every `FromMeta` receiver the derive model accepts has its inherited
    defaults linked to a container default -/
theorem derive_linked (t : Trait) (o : Oracle) (sim : String → Option (Nat × String)) (sp : DeclSpans)
    (d : DeclD) (r : RFromMeta) (h : Options.derive t o sim sp d = .ok (.fromMeta r)) : Linked r := by
  unfold Options.derive at h
  split at h
  · exact deriveFromMeta_linked o sp d r h
  · exact absurd h (C06.deriveOuter_not_fromMeta t o sim sp d r)

/-! ### 6. every receiver of every corpus returns, at every nesting depth -/

theorem recvHooksF_np (env : Env.T) : ∀ (fuel : Nat) (name : String), (Env.recvHooksF fuel env name).NP
  | 0, _ => by simp only [Env.recvHooksF]; exact empty_np
  | fuel + 1, name => by
      simp only [Env.recvHooksF]
      cases hf : env.decls.find? (·.1 == name) with
      | none => exact empty_np
      | some x =>
          obtain ⟨n, t, d, sp⟩ := x
          simp only []
          cases hd : Options.derive t env.oracle (fun _ => none) sp d with
          | err e => exact empty_np
          | panic m => exact empty_np
          | ok dv =>
              cases dv with
              | outer r => exact empty_np
              | fromMeta r =>
                  exact fromMetaHooks_np env _ (fun n => recvHooksF_np env fuel n) r
                    (derive_linked t env.oracle _ sp d r hd)

theorem recvHooks_np (env : Env.T) (name : String) : (Env.recvHooks env name).NP :=
  recvHooksF_np env _ name

/-- **C07 for `FromMeta` receivers**: the generated `from_meta` of every receiver of every corpus
    returns on every item -/
theorem recv_returns (env : Env.T) (name : String) (m : Meta) :
    ((Env.recvHooks env name).fromMeta m).Returns :=
  (recvHooks_np env name).fromMeta m

theorem recv_nested_returns (env : Env.T) (name : String) (n : NestedMeta) :
    ((Env.recvHooks env name).fromNestedMeta n).Returns :=
  (recvHooks_np env name).fromNestedMeta n

/-! ### non-vacuity -/

/-- the corpus `#[derive(FromMeta)] struct R { a: bool }` -/
def exampleEnv : Env.T :=
  { decls := [("R", .fromMeta,
      { ident := "R", attrs := [],
        body := .struct .named [ { ident := some "a", ty := .bool, tyToks := "bool", vis := "", attrs := [] } ] },
      {})],
    oracle := {}, thr := 0 }

/-- its receiver is assembled (not the empty hooks): `from_list` is overridden -/
example : (Env.recvHooks exampleEnv "R").fromList?.isSome = true := by decide

end C07
