import Darling.FromMeta.Universe
import Darling.Props.C13
/-
  C13 — an independent, declarative reading of the property text, and `model ⊨ text` end to end.

  The text is rendered as a *table*: for every syntax-valued target
    * `grammar`   the grammar that re-parses the contents of a quoted value (none: no quoted spelling),
    * `keepsLit`  the literal kinds the target takes as they are written,
    * `takesBare` the bare (non-literal) expressions it takes as they are written,
  and one reading rule (`Scalar.read`): strip the invisible groups (they are not tokens the user
  wrote); a quoted value is the contents re-parsed by the grammar; an accepted literal / bare
  expression is itself, token for token; everything else is rejected with an error whose span is
  the written value (for the forms `name` and `name(..)`: the item).  Vectors, numeric arrays and
  path lists read their elements one by one (`readAll`: all values in order, or the first
  rejection).  Nothing here calls a step function of `Darling/FromMeta/SynTypes.lean`; numeric
  elements are read by the model of C11 (`numOf`).

  `Meets r v` says that an outcome `r` of the model is what the text allows (`v`): the value, or
  an error *with that span*; a panic never meets anything.  `meets_unique`: the verdict is
  determined by the outcome.

  All theorems are for every oracle `o` (syn's parsers) and every item `m`, with no bound on sizes.
  `C13_meets` is the one statement over all targets `Tgt`; its only side condition (`Tgt.Side`) is the
  mirror's: a one-identifier path prints as that identifier.  `agree_iff`: quoted and bare spelling give
  equal values exactly when syn's grammar maps the string to the tokens of the bare value (the
  external part).
-/
open SynTypes

namespace C13

/-! ## the table: targets, the reading rule, verdicts -/

/-- what the user wrote: invisible groups are not tokens -/
def written : Expr → Expr
  | .group g _ => written g
  | .lit l => .lit l
  | .path p s => .path p s
  | .qpath p t s => .qpath p t s
  | .array es t s => .array es t s
  | .other k t s => .other k t s

/-- what the text allows as the result of a conversion -/
inductive Verdict where
  | value (v : Val)
  | rejectedAt (sp : Span)

namespace Verdict
def isRejected : Verdict → Bool
  | .rejectedAt _ => true
  | .value _ => false
def value? : Verdict → Option Val
  | .value v => some v
  | .rejectedAt _ => none
end Verdict

/-- the model's outcome `r` is what the text allows -/
def Meets (r : Outcome Val) (v : Verdict) : Prop :=
  match r, v with
  | .ok a, .value b => a = b
  | .err e, .rejectedAt sp => e.span = some sp
  | _, _ => False

/-- the kind of a literal, as the text's "each literal kind" counts them -/
def kindOf (l : Lit) : Option LitKind :=
  match l.v with
  | .int _ _ => some .int
  | .float _ _ => some .float
  | .str _ => some .str
  | .byte => some .byte
  | .byteStr => some .byteStr
  | .char _ => some .char
  | .bool _ => some .bool
  | .verbatim => some .verbatim
  | .cstr => none

/-- the targets whose value is one syntax node -/
inductive Scalar where
  | expr | path | ident | identString
  | exprArray | exprPath | exprRange
  | parsed (kind : String)          -- types, visibility, where clause
  | wherePreds
  | punctuated (kind : String)
  | lit | litKind (k : LitKind)
  | callable
  deriving DecidableEq, Repr

namespace Scalar

def ty : Scalar → Ty
  | .expr => .synExpr
  | .path => .synPath
  | .ident => .synIdent
  | .identString => .identString
  | .exprArray => .synExprTy .array
  | .exprPath => .synExprTy .path
  | .exprRange => .synExprTy .range
  | .parsed k => .synParse k
  | .wherePreds => .wherePreds
  | .punctuated k => .punctuated k
  | .lit => .lit
  | .litKind k => .litKind k
  | .callable => .callable

/-- "the contents of the string re-parsed by the same grammar": the grammar of each target that
    has a quoted spelling (`o.parseSyn kind` is syn's parser for `kind`, printing the result) -/
def grammar (o : Oracle) : Scalar → Option (String → Option String)
  | .expr => some (o.parseSyn "Expr")
  | .path => some (o.parseSyn "Path")
  | .ident => some (o.parseSyn "Ident")
  | .identString => some (o.parseSyn "Ident")
  | .exprArray => some (o.parseSyn "ExprArray")
  | .exprPath => some (o.parseSyn "ExprPath")
  | .exprRange => some (o.parseSyn "ExprRange")
  | .parsed k => some (o.parseSyn k)
  | .wherePreds => some (fun s => o.parseSyn "WherePreds" ("where " ++ s))
  | .punctuated k => some (o.parseSyn k)
  | .lit => none
  | .litKind _ => none
  | .callable => none

/-- the literals a target takes as they are written (asked only when the literal is not the
    quoted spelling of the target) -/
def keepsLit : Scalar → Lit → Bool
  | .expr, _ => true
  | .lit, _ => true
  | .litKind k, l => decide (kindOf l = some k)
  | _, _ => false

/-- the bare (non-literal) expressions a target takes as they are written -/
def takesBare : Scalar → Expr → Bool
  | .expr, _ => true
  | .path, .path _ _ => true
  | .ident, .path p _ => p.getIdent.isSome
  | .identString, .path p _ => p.getIdent.isSome
  | .exprArray, .array _ _ _ => true
  | .exprPath, .path _ _ => true
  | .exprPath, .qpath _ _ _ => true
  | .exprRange, .other k _ _ => k == "range"
  | .callable, .path _ _ => true
  | .callable, .qpath _ _ _ => true
  | .callable, .other k _ _ => k == "closure"
  | _, _ => false

/-- a literal value: the quoted spelling (contents re-parsed), or a literal kept as written, or
    rejected at the literal -/
def readLit (o : Oracle) (T : Scalar) (l : Lit) : Verdict :=
  match T.grammar o with
  | some g =>
      (match l.v with
       | .str s =>
           (match g s with
            | some t => .value (.toks t)
            | none => .rejectedAt l.span)
       | _ => if T.keepsLit l then .value (.toks l.toks) else .rejectedAt l.span)
  | none => if T.keepsLit l then .value (.toks l.toks) else .rejectedAt l.span

/-- a written (group-free, non-literal) value: itself, or rejected at the value -/
def readBare (T : Scalar) (w : Expr) : Verdict :=
  if T.takesBare w then .value (.toks w.toks) else .rejectedAt w.span

/-- THE READING RULE of the text for a value `name = e` -/
def read (o : Oracle) (T : Scalar) (e : Expr) : Verdict :=
  match written e with
  | .lit l => T.readLit o l
  | w => T.readBare w

end Scalar

/-- "every other … meta form is rejected with a spanned error": the forms `name` and `name(..)`
    of a target that is written `name = value`; a list that is not even syntactically a list of
    items is rejected where the syntax error is -/
def metaVerdict (V : Expr → Verdict) : Meta → Verdict
  | .nameValue _ e _ _ => V e
  | .path p => .rejectedAt p.span
  | .list _ _ none _ _ sp => .rejectedAt sp
  | .list _ _ (some (_, bs)) _ _ _ => .rejectedAt bs

/-- end to end: `T::from_meta(m)` -/
def Scalar.expected (o : Oracle) (T : Scalar) (m : Meta) : Verdict := metaVerdict (T.read o) m

/-- element-wise reading: every element's value in order, or the first rejection -/
def readAll {β : Type} (f : β → Verdict) (xs : List β) : Verdict :=
  match xs.find? (fun x => (f x).isRejected) with
  | some x => f x
  | none => .value (.list (xs.filterMap (fun x => (f x).value?)))

/-- syn's `ExprArray` grammar on the contents of a string, as the list of element nodes -/
def arrayGrammar (o : Oracle) (s : String) : Option (List Expr) :=
  match o.parseArr s with
  | some (.array es _ _) => some es
  | _ => none

/-- the elements of an array value in either spelling: `[e₁, …]` or `"[e₁, …]"` -/
def arrayElems (o : Oracle) (e : Expr) : Option (List Expr) :=
  match written e with
  | .array es _ _ => some es
  | .lit l =>
      (match l.v with
       | .str s => arrayGrammar o s
       | _ => none)
  | _ => none

/-- a vector value: its elements read one by one; anything that is not an array is rejected -/
def vecRead (o : Oracle) (elem : Expr → Verdict) (e : Expr) : Verdict :=
  match arrayElems o e with
  | some es => readAll elem es
  | none => .rejectedAt (written e).span

/-- one item of the list form `name(i₁, i₂, …)` of a vector of literals -/
def litItem (o : Oracle) (k : LitKind) : NestedMeta → Verdict
  | .lit l => (Scalar.litKind k).readLit o l
  | .item m => (Scalar.litKind k).expected o m

/-- `Vec<LitKind>`: the array forms, or the list form -/
def vecLitExpected (o : Oracle) (k : LitKind) : Meta → Verdict
  | .nameValue _ e _ _ => vecRead o ((Scalar.litKind k).read o) e
  | .path p => .rejectedAt p.span
  | .list _ items none _ _ _ => readAll (litItem o k) items
  | .list _ _ (some (_, bs)) _ _ _ => .rejectedAt bs

/-- one element of a numeric array; `num l` is the number the literal `l` denotes for the element
    type (the subject of C11, taken as given) -/
def numVerdict (num : Lit → Option Val) (l : Lit) : Verdict :=
  match num l with
  | some v => .value v
  | none => .rejectedAt l.span

def numElemRead (num : Lit → Option Val) (e : Expr) : Verdict :=
  match written e with
  | .lit l => numVerdict num l
  | _ => .rejectedAt e.span

def numArrayExpected (o : Oracle) (num : Lit → Option Val) (m : Meta) : Verdict :=
  metaVerdict (vecRead o (numElemRead num)) m

/-- one member of a path list -/
def wordItem : NestedMeta → Verdict
  | .item (.path p) => .value (.toks p.toks)
  | n => .rejectedAt n.span

def pathListExpected : Meta → Verdict
  | .nameValue _ e _ _ => .rejectedAt (written e).span
  | .path p => .rejectedAt p.span
  | .list _ items none _ _ _ => readAll wordItem items
  | .list _ _ (some (_, bs)) _ _ _ => .rejectedAt bs

/-- a whole meta item comes back as written -/
def metaExpected (m : Meta) : Verdict := .value (.toks m.toks)

/-- the two expression helpers (`parses = true`: `parse_str_literal`): the value as written,
    except that the parsing helper re-parses the contents of a string literal -/
def helperExpected (o : Oracle) (parses : Bool) : Meta → Verdict
  | .nameValue _ e _ _ =>
      (match written e with
       | .lit l =>
           (match l.v with
            | .str s =>
                if parses then
                  (match o.parseSyn "Expr" s with
                   | some t => .value (.toks t)
                   | none => .rejectedAt l.span)
                else .value (.toks l.toks)
            | _ => .value (.toks l.toks))
       | w => .value (.toks w.toks))
  | .path p => .rejectedAt p.span
  | .list _ _ _ _ _ sp => .rejectedAt sp

/-! ## `Meets`: the outcome determines the verdict; `with_span` further out changes nothing -/

theorem meets_value {r : Outcome Val} {v : Val} (h : Meets r (.value v)) : r = .ok v := by
  cases r with
  | ok a => have : a = v := h; rw [this]
  | err _ => exact h.elim
  | panic _ => exact h.elim

theorem meets_rejected {r : Outcome Val} {sp : Span} (h : Meets r (.rejectedAt sp)) :
    ∃ e, r = .err e ∧ e.span = some sp := by
  cases r with
  | ok _ => exact h.elim
  | err e => exact ⟨e, rfl, h⟩
  | panic _ => exact h.elim

theorem meets_unique {r : Outcome Val} {v v' : Verdict} (h : Meets r v) (h' : Meets r v') : v = v' := by
  cases v with
  | value b =>
      rw [meets_value h] at h'
      cases v' with
      | value b' => have : b = b' := h'; rw [this]
      | rejectedAt _ => exact h'.elim
  | rejectedAt sp =>
      obtain ⟨e, rfl, hs⟩ := meets_rejected h
      cases v' with
      | value _ => exact h'.elim
      | rejectedAt sp' => have h2 : e.span = some sp' := h'; rw [hs] at h2; cases h2; rfl

/-- "rejected with a spanned error", and never a panic -/
theorem meets_err_spanned {r : Outcome Val} {v : Verdict} (h : Meets r v) (e : Err) (he : r = .err e) :
    e.span ≠ none := by
  subst he
  cases v with
  | value _ => exact h.elim
  | rejectedAt sp => have h1 : e.span = some sp := h; rw [h1]; exact Option.some_ne_none _

theorem meets_not_panic {r : Outcome Val} {v : Verdict} (h : Meets r v) : r.isPanic = false := by
  cases r with
  | ok _ => rfl
  | err _ => rfl
  | panic _ => cases v <;> exact h.elim

/-- `with_span` applied further out changes nothing the text speaks about -/
theorem Meets.mapErr {r : Outcome Val} {v : Verdict} (sp : Span) (h : Meets r v) :
    Meets (r.mapErr (·.withSpan sp)) v := by
  cases v with
  | value b => rw [meets_value h]; exact rfl
  | rejectedAt s =>
      obtain ⟨e, rfl, hs⟩ := meets_rejected h
      show (e.withSpan sp).span = some s
      rw [Err.withSpan_of_spanned (hs ▸ Option.some_ne_none _)]; exact hs

theorem written_eq_ungroup (e : Expr) : written e = Spec.C15.ungroup e := by
  induction e using group_induct with
  | group g sp ih => exact ih
  | _ => rfl

theorem toks_written (e : Expr) : (written e).toks = e.toks := by
  rw [written_eq_ungroup]; exact toks_ungroup e

theorem written_idem (e : Expr) : written (written e) = written e := by
  induction e using group_induct with
  | group g sp ih => exact ih
  | _ => rfl

theorem written_not_group (e : Expr) (g : Expr) (sp : Span) : written e ≠ .group g sp := by
  induction e using group_induct with
  | group g' sp' ih => exact ih
  | _ => intro h; cases h

/-! ## the one-node targets -/

theorem fromMeta_meets (h : Hooks Val) (hm : h.fromMeta? = none) (hw : h.fromWord? = none)
    (hl : h.fromList? = none) (V : Expr → Verdict) (m : Meta)
    (hV : ∀ p e t sp, m = .nameValue p e t sp → Meets (h.fromExpr e) (V e)) :
    Meets (h.fromMeta m) (metaVerdict V m) := by
  rw [Hooks.fromMeta, hm]
  cases m with
  | path p =>
      show Meets (h.fromWord.mapErr _) _
      rw [Hooks.fromWord, hw]
      exact rfl
  | list p items bad ts t sp =>
      cases bad with
      | none =>
          show Meets ((h.fromList items).mapErr _) _
          rw [Hooks.fromList, hl]
          exact rfl
      | some b => exact rfl
  | nameValue p e t sp => exact (hV p e t sp rfl).mapErr _

/-- well-formedness of the syntax mirror (not of the library): a path that is one plain
    identifier prints as that identifier -/
def IdentPrints (w : Expr) : Prop :=
  ∀ p sp i, w = .path p sp → p.getIdent = some i → p.toks = i

theorem readLit_quoted (o : Oracle) (T : Scalar) (g : String → Option String) (hg : T.grammar o = some g)
    (s t : String) (sp : Span) :
    T.readLit o ⟨.str s, t, sp⟩ = match g s with
      | some out => .value (.toks out)
      | none => .rejectedAt sp := by
  rw [Scalar.readLit, hg]

theorem readLit_kept (o : Oracle) (T : Scalar) (l : Lit) (h : notStr l) :
    T.readLit o l = if T.keepsLit l then .value (.toks l.toks) else .rejectedAt l.span := by
  rw [Scalar.readLit]
  cases T.grammar o with
  | none => rfl
  | some g => exact match_notStr h _ _

theorem parsed_meets (o : Oracle) (T : Scalar) (g : String → Option String)
    (hg : T.grammar o = some g) (hk : ∀ l, T.keepsLit l = false) (l : Lit) :
    Meets (parsedFromValue g Val.toks l) (T.readLit o l) := by
  rcases str_or_notStr l with ⟨s, t, sp, rfl⟩ | hn
  · rw [quoted_is_parsed, readLit_quoted o T g hg]
    cases g s <;> exact rfl
  · rw [other_literal_rejected g Val.toks l hn, readLit_kept o T l hn, hk]
    exact rfl

theorem default_read_meets (o : Oracle) (T : Scalar) (h : Hooks Val) (hx : h.fromExpr? = none)
    (hb : ∀ w, T.takesBare w = false)
    (hl : ∀ l, Meets (h.fromValue l) (T.readLit o l)) (e : Expr) :
    Meets (h.fromExpr e) (T.read o e) := by
  rw [Hooks.fromExpr, hx]
  show Meets (h.fromExprD e) _
  induction e using group_induct with
  | group g sp ih => exact ih.mapErr sp
  | lit l => exact (hl l).mapErr _
  | _ =>
      show Meets _ (Scalar.readBare T _)
      rw [Scalar.readBare, hb]
      exact rfl

theorem default_meets (o : Oracle) (T : Scalar) (h : Hooks Val) (hm : h.fromMeta? = none)
    (hw : h.fromWord? = none) (hl : h.fromList? = none) (hx : h.fromExpr? = none)
    (hb : ∀ w, T.takesBare w = false) (hv : ∀ l, Meets (h.fromValue l) (T.readLit o l)) (m : Meta) :
    Meets (h.fromMeta m) (T.expected o m) :=
  fromMeta_meets h hm hw hl _ m fun _ e _ _ _ => default_read_meets o T h hx hb hv e

theorem expr_meets (o : Oracle) (e : Expr) :
    Meets (exprFromExpr (o.parseSyn "Expr") Val.toks e) (Scalar.expr.read o e) := by
  induction e using group_induct with
  | group g sp ih => exact ih
  | lit l =>
      show Meets _ (Scalar.expr.readLit o l)
      rcases str_or_notStr l with ⟨s, t, sp, rfl⟩ | hn
      · rw [expr_quoted, quoted_is_parsed, readLit_quoted o .expr _ rfl]
        cases o.parseSyn "Expr" s <;> exact rfl
      · rw [expr_bare _ _ (.lit l) (fun _ h => by cases h; exact hn), readLit_kept o _ l hn]
        exact rfl
  | _ => exact rfl

theorem path_meets (o : Oracle) (e : Expr) :
    Meets (pathFromExpr (o.parseSyn "Path") Val.toks e) (Scalar.path.read o e) := by
  induction e using group_induct with
  | group g sp ih => exact ih
  | lit l => exact parsed_meets o .path _ rfl (fun _ => rfl) l
  | _ => exact rfl

/-- `syn::Ident` (side condition only on the mirror) -/
theorem ident_meets (o : Oracle) (e : Expr) (hwf : IdentPrints (written e)) :
    Meets (identFromExpr (o.parseSyn "Ident") Val.toks e) (Scalar.ident.read o e) := by
  induction e using group_induct with
  | group g sp ih => exact ih hwf
  | lit l => exact parsed_meets o .ident _ rfl (fun _ => rfl) l
  | path p s =>
      show Meets (match p.getIdent with | some i => _ | none => _) (if p.getIdent.isSome then _ else _)
      cases hi : p.getIdent with
      | none => exact rfl
      | some i => exact congrArg Val.toks (hwf p s i rfl hi).symm
  | _ => exact rfl

theorem isVariant_range (k t : String) (s : Span) :
    ExprVariant.isVariant .range (.other k t s) = (k == "range") := by
  by_cases hk : k = "range"
  · subst hk
    rfl
  · simp [ExprVariant.isVariant, hk]

theorem readBare_meets (T : Scalar) (w : Expr) (b : Bool) (hb : T.takesBare w = b) :
    Meets (if b then .ok (.toks w.toks) else .err (Err.unexpectedExprType w)) (T.readBare w) := by
  rw [Scalar.readBare, hb]
  cases b <;> exact rfl

theorem synExpr_meets (o : Oracle) (v : ExprVariant) (T : Scalar) (g : String → Option String)
    (hg : T.grammar o = some g) (hk : ∀ l, T.keepsLit l = false)
    (hb : ∀ w, T.takesBare w = v.isVariant w) (e : Expr) :
    Meets (synExprFromExpr v g Val.toks e) (T.read o e) := by
  induction e using group_induct with
  | group g' sp ih => exact ih
  | lit l => exact parsed_meets o T g hg hk l
  | _ => exact readBare_meets T _ _ (hb _)

theorem wherePreds_fromValue_meets (o : Oracle) (l : Lit) :
    Meets ((wherePredsHooks (o.parseSyn "WherePreds") Val.toks).fromValue l) (Scalar.wherePreds.readLit o l) := by
  rcases str_or_notStr l with ⟨s, t, sp, rfl⟩ | hn
  · rw [readLit_quoted o .wherePreds _ rfl]
    show Meets (match o.parseSyn "WherePreds" ("where " ++ s) with | some t => _ | none => _) _
    cases o.parseSyn "WherePreds" ("where " ++ s) <;> exact rfl
  · have h : (wherePredsHooks (o.parseSyn "WherePreds") Val.toks).fromValue l = .err (Err.unexpectedLitType l) :=
      match_notStr hn _ _
    rw [h, readLit_kept o _ l hn]
    exact rfl

theorem matchesLit_eq (k : LitKind) (l : Lit) : k.matchesLit l = decide (kindOf l = some k) := by
  obtain ⟨v, t, sp⟩ := l
  cases k <;> cases v <;> rfl

theorem litKind_fromValue_meets (o : Oracle) (k : LitKind) (l : Lit) :
    Meets ((litKindHooks k Val.toks).fromValue l) ((Scalar.litKind k).readLit o l) := by
  show Meets (if k.matchesLit l then _ else _) (if decide (kindOf l = some k) then _ else _)
  rw [matchesLit_eq]
  cases decide (kindOf l = some k) <;> exact rfl

theorem litKind_meets (o : Oracle) (k : LitKind) (e : Expr) :
    Meets ((litKindHooks k Val.toks).fromExpr e) ((Scalar.litKind k).read o e) :=
  default_read_meets o (.litKind k) _ rfl (fun _ => rfl) (litKind_fromValue_meets o k) e

/-- the mirror's side condition, on an item -/
def ItemIdentPrints : Meta → Prop
  | .nameValue _ e _ _ => IdentPrints (written e)
  | _ => True

theorem read_identString (o : Oracle) (e : Expr) : Scalar.identString.read o e = Scalar.ident.read o e := by
  simp only [Scalar.read]
  cases written e <;> rfl

/-- `Ident::from_meta`, which `IdentString` calls too -/
theorem ident_item_meets (o : Oracle) (m : Meta) (hwf : ItemIdentPrints m) :
    Meets ((identHooks (o.parseSyn "Ident") Val.toks).fromMeta m) (Scalar.ident.expected o m) :=
  fromMeta_meets _ rfl rfl rfl _ m fun _ e _ _ hm => ident_meets o e (by subst hm; exact hwf)

/-- MAIN THEOREM 1 — every one-node target but Callable, end to end (`T::from_meta`): the trait's
    default `from_meta` around each target's `from_expr` -/
theorem scalar_meets (o : Oracle) (rh : String → Hooks Val) (T : Scalar) (hT : T ≠ .callable) (m : Meta)
    (hwf : (T = .ident ∨ T = .identString) → ItemIdentPrints m) :
    Meets ((hooksOf o rh T.ty).fromMeta m) (T.expected o m) := by
  cases T with
  | callable => exact absurd rfl hT
  | expr =>
      exact fromMeta_meets (exprHooks (o.parseSyn "Expr") .toks) rfl rfl rfl _ m fun _ e _ _ _ => expr_meets o e
  | path =>
      exact fromMeta_meets (pathHooks (o.parseSyn "Path") .toks) rfl rfl rfl _ m fun _ e _ _ _ => path_meets o e
  | ident => exact ident_item_meets o m (hwf (.inl rfl))
  | identString =>
      rw [show Scalar.identString.expected o m = Scalar.ident.expected o m from
        congrArg (metaVerdict · m) (funext (read_identString o))]
      exact ident_item_meets o m (hwf (.inr rfl))
  | exprArray =>
      exact fromMeta_meets (synExprHooks .array (o.parseSyn "ExprArray") .toks) rfl rfl rfl _ m fun _ e _ _ _ =>
        synExpr_meets o .array .exprArray _ rfl (fun _ => rfl) (fun w => by cases w <;> rfl) e
  | exprPath =>
      exact fromMeta_meets (synExprHooks .path (o.parseSyn "ExprPath") .toks) rfl rfl rfl _ m fun _ e _ _ _ =>
        synExpr_meets o .path .exprPath _ rfl (fun _ => rfl) (fun w => by cases w <;> rfl) e
  | exprRange =>
      refine fromMeta_meets (synExprHooks .range (o.parseSyn "ExprRange") .toks) rfl rfl rfl _ m fun _ e _ _ _ =>
        synExpr_meets o .range .exprRange _ rfl (fun _ => rfl) (fun w => ?_) e
      cases w with
      | other k t s => exact (isVariant_range k t s).symm
      | _ => rfl
  | parsed k =>
      exact default_meets o (.parsed k) (synParseHooks (o.parseSyn k) .toks) rfl rfl rfl rfl (fun _ => rfl)
        (parsed_meets o (.parsed k) _ rfl fun _ => rfl) m
  | punctuated k =>
      exact default_meets o (.punctuated k) (punctuatedHooks (o.parseSyn k) .toks) rfl rfl rfl rfl (fun _ => rfl)
        (parsed_meets o (.punctuated k) _ rfl fun _ => rfl) m
  | wherePreds =>
      exact default_meets o .wherePreds (wherePredsHooks (o.parseSyn "WherePreds") .toks) rfl rfl rfl rfl
        (fun _ => rfl) (wherePreds_fromValue_meets o) m
  | lit => exact default_meets o .lit (litHooks .toks) rfl rfl rfl rfl (fun _ => rfl) (fun _ => rfl) m
  | litKind k =>
      exact default_meets o (.litKind k) (litKindHooks k .toks) rfl rfl rfl rfl (fun _ => rfl)
        (litKind_fromValue_meets o k) m

theorem callable_other (k t : String) (s : Span) :
    callableFromExpr Val.toks (.other k t s) =
      if k == "closure" then .ok (.toks t) else .err (Err.unexpectedExprType (.other k t s)) := by
  by_cases hk : k = "closure"
  · subst hk
    rfl
  · simp [callableFromExpr, hk]

/-- `from_expr` of Callable: a path or a closure under any number of invisible groups -/
theorem callable_fromExpr_meets (o : Oracle) (e : Expr) :
    Meets (callableFromExpr Val.toks e) (Scalar.callable.read o e) := by
  induction e using group_induct with
  | group g sp ih => exact ih
  | other k t s =>
      rw [callable_other]
      exact readBare_meets .callable (.other k t s) _ rfl
  | _ => exact rfl

/-- MAIN THEOREM 2 — Callable, end to end, for every item (no side condition) -/
theorem callable_meets (o : Oracle) (rh : String → Hooks Val) (m : Meta) :
    Meets ((hooksOf o rh Scalar.callable.ty).fromMeta m) (Scalar.callable.expected o m) :=
  fromMeta_meets (callableHooks .toks) rfl rfl rfl _ m fun _ e _ _ _ => callable_fromExpr_meets o e

/-! ## vectors, numeric arrays, path lists, whole items -/

/-- `.iter().map(F).collect::<Result<Vec<_>>>()` stops at the first element the text rejects, and
    otherwise returns every element's value -/
theorem collect_spec {β : Type} (F : β → Outcome Val) (f : β → Verdict) (xs : List β)
    (h : ∀ x ∈ xs, Meets (F x) (f x)) :
    match xs.find? (fun x => (f x).isRejected) with
    | some x₀ => ∃ e, collectFirstErr F xs = .err e ∧ Meets (.err e) (f x₀)
    | none => collectFirstErr F xs = .ok (xs.filterMap (fun x => (f x).value?)) := by
  induction xs with
  | nil => rfl
  | cons x xs ih =>
      have hx := h x (List.mem_cons_self ..)
      replace ih := ih (fun y hy => h y (List.mem_cons_of_mem _ hy))
      rw [List.find?_cons, collectFirstErr, List.filterMap_cons]
      cases hf : f x with
      | rejectedAt sp =>
          rw [hf] at hx
          obtain ⟨e, hF, hs⟩ := meets_rejected hx
          rw [hF]
          exact ⟨e, rfl, hf ▸ hs⟩
      | value v =>
          rw [hf] at hx
          rw [meets_value hx]
          show match xs.find? (fun x => (f x).isRejected) with
            | some x₀ => ∃ e, (collectFirstErr F xs).map (v :: ·) = .err e ∧ Meets (.err e) (f x₀)
            | none => (collectFirstErr F xs).map (v :: ·) = .ok (v :: xs.filterMap (fun x => (f x).value?))
          cases hfind : xs.find? (fun x => (f x).isRejected) with
          | none => rw [hfind] at ih; rw [ih]; rfl
          | some x₀ =>
              rw [hfind] at ih
              obtain ⟨e, he, hm⟩ := ih
              exact ⟨e, by rw [he]; rfl, hm⟩

theorem collect_meets {β : Type} (F : β → Outcome Val) (f : β → Verdict) (xs : List β)
    (h : ∀ x ∈ xs, Meets (F x) (f x)) :
    Meets ((collectFirstErr F xs).map Val.list) (readAll f xs) := by
  have hs := collect_spec F f xs h
  unfold readAll
  cases hfind : xs.find? (fun x => (f x).isRejected) with
  | none => rw [hfind] at hs; rw [hs]; exact rfl
  | some x₀ =>
      rw [hfind] at hs
      obtain ⟨e, he, hm⟩ := hs
      rw [he]
      exact hm

theorem arrayGrammar_some {o : Oracle} {s : String} {es : List Expr} (h : arrayGrammar o s = some es) :
    ∃ t sp, o.parseArr s = some (.array es t sp) := by
  unfold arrayGrammar at h
  split at h
  · cases h; exact ⟨_, _, by assumption⟩
  · cases h

/-- the `from_expr` that `Vec<LitKind>` and the numeric arrays share, the conversion `E` of one
    element left open -/
def arrayFromExpr (E : Expr → Outcome Val) (parseArr : String → Option Expr) : Expr → Outcome Val
  | .array es _ _ => (collectFirstErr E es).map Val.list
  | .lit l =>
      (match l.v with
       | .str s => (match parseArr s with
           | some (.array es _ _) => (collectFirstErr E es).map Val.list
           | _ => .err (unknownLitStr s l))
       | _ => .err (Err.unexpectedLitType l))
  | .group g _ => arrayFromExpr E parseArr g
  | e => .err (Err.unexpectedExprType e)

theorem vecLitFromExpr_eq (k : LitKind) (parseArr : String → Option Expr) (e : Expr) :
    vecLitFromExpr k parseArr Val.toks Val.list e =
      arrayFromExpr (fun e => (litKindHooks k Val.toks).fromExpr e) parseArr e := by
  induction e using group_induct with
  | group g sp ih => exact ih
  | _ => rfl

theorem numArrayFromExpr_eq (sp : IntSpec) (parseArr : String → Option Expr) (e : Expr) :
    numArrayFromExpr sp parseArr Val.int Val.list e = arrayFromExpr (numElem sp Val.int) parseArr e := by
  induction e using group_induct with
  | group g s ih => exact ih
  | _ => rfl

theorem arrayFromExpr_quoted (o : Oracle) (E : Expr → Outcome Val) (s t : String) (sp : Span) :
    arrayFromExpr E o.parseArr (.lit ⟨.str s, t, sp⟩) =
      match arrayGrammar o s with
      | some es => (collectFirstErr E es).map Val.list
      | none => .err (unknownLitStr s ⟨.str s, t, sp⟩) := by
  show (match o.parseArr s with | some (.array es _ _) => _ | _ => _) = _
  unfold arrayGrammar
  cases o.parseArr s with
  | none => rfl
  | some ex => cases ex <;> rfl

theorem arrayFromExpr_meets (o : Oracle) (E : Expr → Outcome Val) (elem : Expr → Verdict) (e : Expr)
    (hE : ∀ es, arrayElems o e = some es → ∀ x ∈ es, Meets (E x) (elem x)) :
    Meets (arrayFromExpr E o.parseArr e) (vecRead o elem e) := by
  induction e using group_induct with
  | group g sp ih => exact ih hE
  | array es t s => exact collect_meets E elem es (hE es rfl)
  | lit l =>
      rcases str_or_notStr l with ⟨s, t, sp, rfl⟩ | hn
      · rw [arrayFromExpr_quoted]
        show Meets _ (match arrayGrammar o s with | some es => readAll elem es | none => .rejectedAt sp)
        cases hag : arrayGrammar o s with
        | none => exact rfl
        | some es => exact collect_meets E elem es (hE es hag)
      · have h1 : arrayFromExpr E o.parseArr (.lit l) = .err (Err.unexpectedLitType l) := match_notStr hn _ _
        have h2 : arrayElems o (.lit l) = none := match_notStr hn _ _
        rw [h1, vecRead, h2]
        exact rfl
  | _ => exact rfl

theorem vecLit_fromExpr_meets (o : Oracle) (k : LitKind) (e : Expr) :
    Meets (vecLitFromExpr k o.parseArr Val.toks Val.list e) (vecRead o ((Scalar.litKind k).read o) e) := by
  rw [vecLitFromExpr_eq]
  exact arrayFromExpr_meets o _ _ e fun _ _ x _ => litKind_meets o k x

/-- MAIN THEOREM 3 — `Vec<LitInt>`, `Vec<LitStr>`, …: bare array, quoted array, list form -/
theorem vecLit_meets (o : Oracle) (rh : String → Hooks Val) (k : LitKind) (m : Meta) :
    Meets ((hooksOf o rh (.vecLit k)).fromMeta m) (vecLitExpected o k m) := by
  show Meets ((vecLitHooks k o.parseArr Val.toks Val.list).fromMetaD m) _
  cases m with
  | path p => exact rfl
  | nameValue p e t sp => exact (vecLit_fromExpr_meets o k e).mapErr _
  | list p items bad ts t sp =>
      cases bad with
      | some b => exact rfl
      | none =>
          refine Meets.mapErr _ (collect_meets (fun n => (litKindHooks k Val.toks).fromNestedMeta n) _ items ?_)
          intro n _
          cases n with
          | lit l => exact (litKind_fromValue_meets o k l).mapErr _
          | item mi =>
              exact (scalar_meets o rh (.litKind k) (fun h => by cases h) mi
                (fun h => by cases h with | inl h => cases h | inr h => cases h)).mapErr _

/-- the literal under the invisible groups of an element is the literal the user wrote -/
theorem numElemLit_written (e : Expr) :
    numElemLit e = match written e with
      | .lit l => some l
      | _ => none := by
  induction e using group_induct with
  | group g sp ih => exact ih
  | _ => rfl

theorem numElem_meets (sp : IntSpec) (num : Lit → Option Val)
    (hnum : ∀ l, Meets (Scalars.numFromValue sp Val.int l) (numVerdict num l))
    (e : Expr) : Meets (numElem sp Val.int e) (numElemRead num e) := by
  simp only [numElem, numElemRead, numElemLit_written]
  cases written e with
  | lit l => exact hnum l
  | _ => exact rfl

/-- MAIN THEOREM 4 — numeric arrays, for every item (no side condition).  `num` is any account of
    how one literal denotes a number that the element conversion (C11) meets; `numOf` below is one. -/
theorem numArray_meets (o : Oracle) (rh : String → Hooks Val) (sp : IntSpec) (num : Lit → Option Val)
    (hnum : ∀ l, Meets (Scalars.numFromValue sp Val.int l) (numVerdict num l))
    (m : Meta) :
    Meets ((hooksOf o rh (.numArray sp)).fromMeta m) (numArrayExpected o num m) := by
  refine fromMeta_meets (numArrayHooks sp o.parseArr Val.int Val.list) rfl rfl rfl _ m fun _ e _ _ _ => ?_
  show Meets (numArrayFromExpr sp o.parseArr Val.int Val.list e) _
  rw [numArrayFromExpr_eq]
  exact arrayFromExpr_meets o _ _ e fun _ _ x _ => numElem_meets sp num hnum x

/-- one account of the element conversion: whatever `from_value` of the integer type returns -/
def numOf (sp : IntSpec) (l : Lit) : Option Val :=
  match Scalars.numFromValue sp Val.int l with
  | .ok v => some v
  | _ => none

theorem numOf_sound (sp : IntSpec) (l : Lit) :
    Meets (Scalars.numFromValue sp Val.int l) (numVerdict (numOf sp) l) := by
  obtain ⟨v, t, s⟩ := l
  cases v with
  | str x =>
      simp only [numVerdict, numOf, Scalars.numFromValue, Scalars.numFromString]
      cases Scalars.parseIntStd sp x <;> exact rfl
  | int d sfx =>
      simp only [numVerdict, numOf, Scalars.numFromValue]
      cases Scalars.parseIntStd sp d <;> exact rfl
  | _ => exact rfl

theorem pathList_collect (items : List NestedMeta) :
    pathListFromList (fun p => Val.toks p.toks) items =
      collectFirstErr (fun n => match n with
        | .item (.path p) => .ok (Val.toks p.toks)
        | n => .err ((Err.new (.unexpectedType "non-word")).withSpan n.span)) items := by
  induction items with
  | nil => rfl
  | cons n rest ih =>
      cases n with
      | lit l => rfl
      | item mi =>
          cases mi with
          | path p => simp only [pathListFromList, collectFirstErr, ih]
          | list _ _ _ _ _ _ => rfl
          | nameValue _ _ _ _ => rfl

/-- MAIN THEOREM 5 — `PathList` -/
theorem pathList_meets (o : Oracle) (rh : String → Hooks Val) (m : Meta) :
    Meets ((hooksOf o rh .pathList).fromMeta m) (pathListExpected m) := by
  show Meets ((pathListHooks Val.toks Val.list).fromMetaD m) _
  cases m with
  | path p => exact rfl
  | list p items bad ts t sp =>
      cases bad with
      | some b => exact rfl
      | none =>
          refine Meets.mapErr _ ?_
          show Meets ((pathListFromList (fun p => Val.toks p.toks) items).map Val.list) _
          rw [pathList_collect]
          refine collect_meets _ _ items ?_
          intro n _
          cases n with
          | lit l => exact rfl
          | item mi => cases mi <;> exact rfl
  | nameValue p e t sp =>
      refine Meets.mapErr _ ?_
      show Meets ((pathListHooks Val.toks Val.list).fromExprD e) (.rejectedAt (written e).span)
      induction e using group_induct with
      | group g s ih => exact ih.mapErr _
      | lit l =>
          obtain ⟨v, t', s⟩ := l
          cases v <;> exact rfl
      | _ => exact rfl

/-- MAIN THEOREM 6 — `syn::Meta`: the whole item, whatever its form -/
theorem meta_meets (o : Oracle) (rh : String → Hooks Val) (m : Meta) :
    Meets ((hooksOf o rh .synMeta).fromMeta m) (metaExpected m) := rfl

/-! ## all targets as one statement -/

inductive Tgt where
  | scalar (T : Scalar)
  | vecLit (k : LitKind)
  | numArray (sp : IntSpec)
  | wholeMeta
  | pathList
  deriving DecidableEq, Repr

namespace Tgt
def ty : Tgt → Ty
  | .scalar T => T.ty
  | .vecLit k => .vecLit k
  | .numArray sp => .numArray sp
  | .wholeMeta => .synMeta
  | .pathList => .pathList

/-- what the text demands of `T::from_meta(m)` -/
def expected (o : Oracle) : Tgt → Meta → Verdict
  | .scalar T, m => T.expected o m
  | .vecLit k, m => vecLitExpected o k m
  | .numArray sp, m => numArrayExpected o (numOf sp) m
  | .wholeMeta, m => metaExpected m
  | .pathList, m => pathListExpected m

/-- the one side condition: well-formedness of the mirror (a path that is one identifier prints as
    that identifier); nothing here restricts the library -/
def Side (T : Tgt) (m : Meta) : Prop :=
  (T = .scalar .ident ∨ T = .scalar .identString) → ItemIdentPrints m
end Tgt

/-- MAIN THEOREM — every target of C13, every item, every oracle: the model's outcome is the one
    the text demands (`Tgt.Side` is about the mirror only) -/
theorem C13_meets (o : Oracle) (rh : String → Hooks Val) (T : Tgt) (m : Meta) (hs : T.Side m) :
    Meets ((hooksOf o rh T.ty).fromMeta m) (T.expected o m) := by
  cases T with
  | scalar S =>
      by_cases hc : S = .callable
      · subst hc; exact callable_meets o rh m
      · exact scalar_meets o rh S hc m fun hi => hs (hi.imp (congrArg _) (congrArg _))
  | vecLit k => exact vecLit_meets o rh k m
  | numArray sp => exact numArray_meets o rh sp (numOf sp) (numOf_sound sp) m
  | wholeMeta => exact meta_meets o rh m
  | pathList => exact pathList_meets o rh m

/-- … and the text pins the outcome down: value, or span of the error -/
theorem C13_verdict_iff (o : Oracle) (rh : String → Hooks Val) (T : Tgt) (m : Meta) (hs : T.Side m)
    (v : Verdict) : Meets ((hooksOf o rh T.ty).fromMeta m) v ↔ v = T.expected o m :=
  ⟨fun h => meets_unique h (C13_meets o rh T m hs), fun h => h ▸ C13_meets o rh T m hs⟩

/-- "rejected with a spanned error" (and no panic), as a corollary -/
theorem C13_rejections_spanned (o : Oracle) (rh : String → Hooks Val) (T : Tgt) (m : Meta)
    (hs : T.Side m) :
    ((hooksOf o rh T.ty).fromMeta m).isPanic = false ∧
      ∀ e, (hooksOf o rh T.ty).fromMeta m = .err e → e.span ≠ none :=
  ⟨meets_not_panic (C13_meets o rh T m hs),
   fun e he => meets_err_spanned (C13_meets o rh T m hs) e he⟩

/-! ## quoted and bare spellings agree -/

theorem value_of_ite {c : Bool} {a v : Val} {sp : Span}
    (h : (if c then Verdict.value a else .rejectedAt sp) = .value v) : v = a := by
  cases c with
  | true => cases h; rfl
  | false => cases h

/-- an accepted value that is not a string literal is itself, token for token -/
theorem read_value_bare (o : Oracle) (T : Scalar) (e : Expr)
    (hb : ∀ s t sp, written e ≠ .lit ⟨.str s, t, sp⟩) (v : Val) (hv : T.read o e = .value v) :
    v = .toks (written e).toks := by
  rw [Scalar.read] at hv
  cases hw : written e with
  | group g sp => exact absurd hw (written_not_group e g sp)
  | lit l =>
      rw [hw] at hv
      have hv' : T.readLit o l = .value v := hv
      rw [readLit_kept o T l (fun s hs => by
        obtain ⟨lv, t, sp⟩ := l
        cases hs
        exact hb s t sp hw)] at hv'
      exact value_of_ite hv'
  | _ => rw [hw] at hv; exact value_of_ite hv

/-- a quoted value is the contents re-parsed by the target's grammar -/
theorem read_quoted (o : Oracle) (T : Scalar) (g : String → Option String) (hg : T.grammar o = some g)
    (e : Expr) (s t : String) (sp : Span) (hq : written e = .lit ⟨.str s, t, sp⟩) :
    T.read o e = match g s with
      | some out => .value (.toks out)
      | none => .rejectedAt sp := by
  rw [Scalar.read, hq]
  exact readLit_quoted o T g hg s t sp

/-- "Where both a bare and a quoted spelling are accepted they produce equal values" — exactly
    when syn's grammar maps the string's contents to the tokens of the bare value.  That
    condition is about syn alone (its parser and printer), not about darling. -/
theorem agree_iff (o : Oracle) (T : Scalar) (g : String → Option String) (hg : T.grammar o = some g)
    (eb eq : Expr) (s t : String) (sp : Span)
    (hq : written eq = .lit ⟨.str s, t, sp⟩)
    (hb : ∀ s' t' sp', written eb ≠ .lit ⟨.str s', t', sp'⟩)
    (vb vq : Val) (hvb : T.read o eb = .value vb) (hvq : T.read o eq = .value vq) :
    vb = vq ↔ g s = some (written eb).toks := by
  have h1 := read_value_bare o T eb hb vb hvb
  rw [read_quoted o T g hg eq s t sp hq] at hvq
  cases hgs : g s with
  | none => rw [hgs] at hvq; cases hvq
  | some out =>
      rw [hgs] at hvq
      cases hvq
      rw [h1]
      constructor
      · intro h; cases h; rfl
      · intro h; cases h; rfl

theorem scalar_value (o : Oracle) (rh : String → Hooks Val) (T : Scalar) (hT : T ≠ .callable)
    (p : Path) (e : Expr) (t : String) (s : Span) (v : Val) (hv : T.read o e = .value v)
    (hwf : (T = .ident ∨ T = .identString) → IdentPrints (written e)) :
    (hooksOf o rh T.ty).fromMeta (.nameValue p e t s) = .ok v := by
  have := scalar_meets o rh T hT (.nameValue p e t s) hwf
  rw [Scalar.expected, metaVerdict, hv] at this
  exact meets_value this

/-- the same on the model, end to end: if the string spells the tokens of an accepted bare value,
    the two items convert to the same value -/
theorem agree (o : Oracle) (rh : String → Hooks Val) (T : Scalar) (hT : T ≠ .callable)
    (g : String → Option String) (hg : T.grammar o = some g)
    (eb eq : Expr) (s t : String) (sp : Span)
    (hq : written eq = .lit ⟨.str s, t, sp⟩)
    (hb : ∀ s' t' sp', written eb ≠ .lit ⟨.str s', t', sp'⟩)
    (vb : Val) (hvb : T.read o eb = .value vb) (hsame : g s = some (written eb).toks)
    (hwf : (T = .ident ∨ T = .identString) → IdentPrints (written eb))
    (p p' : Path) (t₁ t₂ : String) (s₁ s₂ : Span) :
    (hooksOf o rh T.ty).fromMeta (.nameValue p eb t₁ s₁) = .ok vb ∧
    (hooksOf o rh T.ty).fromMeta (.nameValue p' eq t₂ s₂) = .ok vb := by
  have hvq : T.read o eq = .value vb := by
    rw [read_quoted o T g hg eq s t sp hq, hsame, read_value_bare o T eb hb vb hvb]
  exact ⟨scalar_value o rh T hT p eb t₁ s₁ vb hvb hwf,
    scalar_value o rh T hT p' eq t₂ s₂ vb hvq fun _ q sq i h => by rw [hq] at h; cases h⟩

/-- vectors and numeric arrays: the quoted array is read exactly like the bare array of the
    elements syn finds in the string -/
theorem vec_agree (o : Oracle) (elem : Expr → Verdict) (s t : String) (sp : Span) (es : List Expr)
    (h : arrayGrammar o s = some es) (t' : String) (sp' : Span) :
    vecRead o elem (.lit ⟨.str s, t, sp⟩) = vecRead o elem (.array es t' sp') := by
  simp only [vecRead, arrayElems, written, h]

/-! ## the two expression helpers -/

/-- `preserve_str_literal`: the value as written, whatever it is (no side condition) -/
theorem preserve_meets (o : Oracle) (m : Meta) :
    Meets (preserveStrLiteral Val.toks m) (helperExpected o false m) := by
  cases m with
  | path p => exact rfl
  | list _ _ _ _ _ _ => exact rfl
  | nameValue p e t sp =>
      have : helperExpected o false (.nameValue p e t sp) = .value (.toks e.toks) := by
        rw [← toks_written e, helperExpected]
        cases written e with
        | lit l =>
            rcases str_or_notStr l with ⟨s, t', s', rfl⟩ | hn
            · rfl
            · exact match_notStr hn _ _
        | _ => rfl
      rw [this]
      exact rfl

/-- the test of `parse_str_literal` finds the string literal the user wrote, if the value is one -/
theorem strLitOf_written (e : Expr) :
    strLitOf e = match written e with
      | .lit l => (match l.v with
          | .str _ => some l
          | _ => none)
      | _ => none := by
  induction e using group_induct with
  | group g sp ih => exact ih
  | _ => rfl

theorem expr_target_is_parse_helper (o : Oracle) (p : Path) (e : Expr) (t : String) (sp : Span) :
    Scalar.expr.expected o (.nameValue p e t sp) = helperExpected o true (.nameValue p e t sp) := by
  rw [Scalar.expected, metaVerdict, Scalar.read, helperExpected]
  cases written e with
  | lit l =>
      rcases str_or_notStr l with ⟨s, t', s', rfl⟩ | hn
      · rfl
      · exact (readLit_kept o .expr l hn).trans (match_notStr hn _ _).symm
  | _ => rfl

/-- `parse_str_literal`, for every item (no side condition): a string literal, grouped or not, is
    re-parsed; every other value — any other literal included — comes back as written.  The helper
    is `syn::Expr::from_meta` on the value, in the model and in the text alike. -/
theorem parse_meets (o : Oracle) (m : Meta) :
    Meets (parseStrLiteral (o.parseSyn "Expr") Val.toks m) (helperExpected o true m) := by
  cases m with
  | path p => exact rfl
  | list _ _ _ _ _ _ => exact rfl
  | nameValue p e t sp =>
      rw [helper_parse_is_expr_target, ← expr_target_is_parse_helper]
      exact expr_meets o e

/-- the model's two helpers return the same thing unless the written value is a string literal -/
theorem helpers_model_differ_only_on_strings (o : Oracle) (m : Meta)
    (h : ∀ p e t sp, m = .nameValue p e t sp → ∀ s t' sp', written e ≠ .lit ⟨.str s, t', sp'⟩) :
    parseStrLiteral (o.parseSyn "Expr") Val.toks m = preserveStrLiteral Val.toks m :=
  helpers_agree_off_strings _ _ m fun p e t sp hm => written_eq_ungroup e ▸ h p e t sp hm

/-- "the two expression helpers differ only in that one keeps a string literal as a string and
    the other parses its contents" — on the text's side: off string literals they are the same … -/
theorem helpers_differ_only_on_strings (o : Oracle) (m : Meta)
    (h : ∀ p e t sp, m = .nameValue p e t sp → ∀ s t' sp', written e ≠ .lit ⟨.str s, t', sp'⟩) :
    helperExpected o true m = helperExpected o false m := by
  cases m with
  | path p => rfl
  | list _ _ _ _ _ _ => rfl
  | nameValue p e t sp =>
      rw [helperExpected, helperExpected]
      cases hw : written e with
      | lit l =>
          have hn : notStr l := fun s hs => by
            obtain ⟨v, t', s'⟩ := l
            cases hs
            exact h p e t sp rfl s t' s' hw
          exact (match_notStr hn _ _).trans (match_notStr hn _ _).symm
      | _ => rfl

/-- … and on a string literal one keeps it, the other re-parses its contents -/
theorem helpers_on_strings (o : Oracle) (p : Path) (e : Expr) (t : String) (sp : Span)
    (s t' : String) (sp' : Span) (hw : written e = .lit ⟨.str s, t', sp'⟩) :
    helperExpected o false (.nameValue p e t sp) = .value (.toks t') ∧
    helperExpected o true (.nameValue p e t sp) =
      (match o.parseSyn "Expr" s with
       | some out => .value (.toks out)
       | none => .rejectedAt sp') := by
  simp only [helperExpected, hw]
  exact ⟨rfl, rfl⟩

/-! ## invisible groups and non-string literals, on instances

  On each item below the model's outcome is the text's verdict.  Model and library part in one place
  (last): outer attributes on an array element are dropped by the library; the mirror cannot express
  them and the model predicts a rejection. -/
namespace Ex

def rh0 : String → Hooks Val := fun _ => {}
def oE : Oracle :=
  { syns := [("Expr", "a + b", some "a + b"), ("Path", "foo::bar", some "foo :: bar")] }
def pX : Path := { global := false, segs := ["x"], plain := true, toks := "x", span := ⟨0, 1⟩ }
def pFoo : Path := { global := false, segs := ["foo"], plain := true, toks := "foo", span := ⟨4, 7⟩ }
def pFooBar : Path :=
  { global := false, segs := ["foo", "bar"], plain := true, toks := "foo :: bar", span := ⟨4, 12⟩ }
def sAB : Lit := ⟨.str "a + b", "\"a + b\"", ⟨4, 11⟩⟩
def sBad : Lit := ⟨.str "a +", "\"a +\"", ⟨4, 9⟩⟩
def five : Lit := ⟨.int "5" "", "5", ⟨4, 5⟩⟩
def yes : Lit := ⟨.bool true, "true", ⟨4, 8⟩⟩
def u8 : IntSpec := { name := "u8", signed := false, bits := 8, nonzero := false }

/-- `x = "a + b"` and the same with the literal inside one and two invisible groups -/
def mStr : Meta := .nameValue pX (.lit sAB) "x = \"a + b\"" ⟨0, 11⟩
def mStrG : Meta := .nameValue pX (.group (.lit sAB) ⟨4, 11⟩) "x = \"a + b\"" ⟨0, 11⟩
def mStrGG : Meta := .nameValue pX (.group (.group (.lit sAB) ⟨4, 11⟩) ⟨4, 11⟩) "x = \"a + b\"" ⟨0, 11⟩

/-! ### a grouped string literal is parsed -/
example : parseStrLiteral (oE.parseSyn "Expr") Val.toks mStr = .ok (.toks "a + b") := rfl
example : parseStrLiteral (oE.parseSyn "Expr") Val.toks mStrG = .ok (.toks "a + b") := rfl
example : parseStrLiteral (oE.parseSyn "Expr") Val.toks mStrGG = .ok (.toks "a + b") := rfl
example : helperExpected oE true mStrG = .value (.toks "a + b") := rfl
example : (hooksOf oE rh0 .synExpr).fromMeta mStrG = .ok (.toks "a + b") := rfl
example : Meets (parseStrLiteral (oE.parseSyn "Expr") Val.toks mStrG) (helperExpected oE true mStrG) :=
  parse_meets oE mStrG
/-- the other helper keeps the string, grouped or not -/
example : preserveStrLiteral Val.toks mStrG = .ok (.toks "\"a + b\"") := rfl
/-- a grouped string that is not an expression is rejected at the literal -/
example : parseStrLiteral (oE.parseSyn "Expr") Val.toks
      (.nameValue pX (.group (.lit sBad) ⟨4, 9⟩) "x = \"a +\"" ⟨0, 9⟩) =
    .err (.leaf (.unknownValue "a +") [] (some ⟨4, 9⟩)) := rfl
/-- a grouped value that is not a literal comes back as written -/
example : parseStrLiteral (oE.parseSyn "Expr") Val.toks
      (.nameValue pX (.group (.path pFooBar ⟨4, 12⟩) ⟨4, 12⟩) "x = foo :: bar" ⟨0, 12⟩) =
    .ok (.toks "foo :: bar") := rfl

/-! ### a literal that is not a string is returned as written -/
def m5 : Meta := .nameValue pX (.lit five) "x = 5" ⟨0, 5⟩
def m5G : Meta := .nameValue pX (.group (.lit five) ⟨4, 5⟩) "x = 5" ⟨0, 5⟩
def mTrue : Meta := .nameValue pX (.lit yes) "x = true" ⟨0, 8⟩
example : preserveStrLiteral Val.toks m5 = .ok (.toks "5") := rfl
example : (hooksOf oE rh0 .synExpr).fromMeta m5 = .ok (.toks "5") := rfl
example : parseStrLiteral (oE.parseSyn "Expr") Val.toks m5 = .ok (.toks "5") := rfl
example : parseStrLiteral (oE.parseSyn "Expr") Val.toks m5G = .ok (.toks "5") := rfl
example : parseStrLiteral (oE.parseSyn "Expr") Val.toks mTrue = .ok (.toks "true") := rfl
example : helperExpected oE true m5 = .value (.toks "5") := rfl
example : helperExpected oE true m5 = helperExpected oE false m5 := rfl
example : Meets (parseStrLiteral (oE.parseSyn "Expr") Val.toks m5) (helperExpected oE true m5) :=
  parse_meets oE m5
example : parseStrLiteral (oE.parseSyn "Expr") Val.toks m5 = preserveStrLiteral Val.toks m5 := rfl

/-! ### Callable looks through invisible groups -/
def mCall : Meta := .nameValue pX (.path pFooBar ⟨4, 12⟩) "x = foo :: bar" ⟨0, 12⟩
def mCallG : Meta := .nameValue pX (.group (.path pFooBar ⟨4, 12⟩) ⟨4, 12⟩) "x = foo :: bar" ⟨0, 12⟩
def mCallGG : Meta :=
  .nameValue pX (.group (.group (.path pFooBar ⟨4, 12⟩) ⟨4, 12⟩) ⟨4, 12⟩) "x = foo :: bar" ⟨0, 12⟩
example : (hooksOf oE rh0 .callable).fromMeta mCall = .ok (.toks "foo :: bar") := rfl
example : (hooksOf oE rh0 .callable).fromMeta mCallG = .ok (.toks "foo :: bar") := rfl
example : (hooksOf oE rh0 .callable).fromMeta mCallGG = .ok (.toks "foo :: bar") := rfl
example : Scalar.callable.expected oE mCallG = .value (.toks "foo :: bar") := rfl
example : (hooksOf oE rh0 .synPath).fromMeta mCallG = .ok (.toks "foo :: bar") := rfl
example : Meets ((hooksOf oE rh0 Scalar.callable.ty).fromMeta mCallG) (Scalar.callable.expected oE mCallG) :=
  callable_meets oE rh0 mCallG
/-- a grouped closure; and a grouped literal is rejected at the value the user wrote -/
example : (hooksOf oE rh0 .callable).fromMeta
      (.nameValue pX (.group (.other "closure" "| x | x" ⟨4, 9⟩) ⟨4, 9⟩) "x = | x | x" ⟨0, 9⟩) =
    .ok (.toks "| x | x") := rfl
example : (hooksOf oE rh0 .callable).fromMeta m5G =
    .err (.leaf (.unexpectedType "lit") [] (some ⟨4, 5⟩)) := rfl
example : Scalar.callable.expected oE m5G = .rejectedAt ⟨4, 5⟩ := rfl

/-! ### the groups around an element of a numeric array are peeled to any depth -/
def one : Expr := .lit ⟨.int "1" "", "1", ⟨5, 6⟩⟩
def two : Expr := .lit ⟨.int "2" "", "2", ⟨8, 9⟩⟩
def mArr (e : Expr) : Meta := .nameValue pX (.array [one, e] "[1 , 2]" ⟨4, 10⟩) "x = [1 , 2]" ⟨0, 10⟩
example : (hooksOf oE rh0 (.numArray u8)).fromMeta (mArr two) = .ok (.list [.int 1, .int 2]) := rfl
example : (hooksOf oE rh0 (.numArray u8)).fromMeta (mArr (.group two ⟨8, 9⟩)) = .ok (.list [.int 1, .int 2]) := rfl
example : (hooksOf oE rh0 (.numArray u8)).fromMeta (mArr (.group (.group two ⟨8, 9⟩) ⟨8, 9⟩)) =
    .ok (.list [.int 1, .int 2]) := rfl
example : (hooksOf oE rh0 (.numArray u8)).fromMeta
      (mArr (.group (.group (.group two ⟨8, 9⟩) ⟨8, 9⟩) ⟨8, 9⟩)) = .ok (.list [.int 1, .int 2]) := rfl
example : numArrayExpected oE (numOf u8) (mArr (.group (.group two ⟨8, 9⟩) ⟨8, 9⟩)) =
    .value (.list [.int 1, .int 2]) := rfl
example : Meets ((hooksOf oE rh0 (.numArray u8)).fromMeta (mArr (.group (.group two ⟨8, 9⟩) ⟨8, 9⟩)))
    (numArrayExpected oE (numOf u8) (mArr (.group (.group two ⟨8, 9⟩) ⟨8, 9⟩))) :=
  numArray_meets oE rh0 u8 (numOf u8) (numOf_sound u8) _
/-- an element that is not a literal under its groups is rejected at the element as written -/
example : (hooksOf oE rh0 (.numArray u8)).fromMeta
      (mArr (.group (.group (.path pFoo ⟨8, 9⟩) ⟨8, 9⟩) ⟨7, 10⟩)) =
    .err (.leaf (.custom "Expected array of unsigned integers") [] (some ⟨7, 10⟩)) := rfl
example : numArrayExpected oE (numOf u8) (mArr (.group (.group (.path pFoo ⟨8, 9⟩) ⟨8, 9⟩) ⟨7, 10⟩)) =
    .rejectedAt ⟨7, 10⟩ := rfl
/-- the vector of literals next door looks through any number of groups too -/
example : (hooksOf oE rh0 (.vecLit .int)).fromMeta (mArr (.group (.group two ⟨8, 9⟩) ⟨8, 9⟩)) =
    .ok (.list [.toks "1", .toks "2"]) := rfl

/-! ### outer attributes on an array element (model and mirror against the library, not visible
  inside the model)
  The mirror has no place for outer attributes on an expression; the harness serialises
  `#[cfg(a)] 2` as an opaque node of kind "lit" (`harness/src/ser.rs`, `expr`: the `elit` / `epath`
  arms require `attrs.is_empty()`).  For `x = [1, #[cfg(a)] 2]` the model therefore predicts a
  rejection, while the library accepts and returns `[1, 2]` with the attribute dropped. -/
def twoAttr : Expr := .other "lit" "# [cfg (a)] 2" ⟨8, 19⟩
example : (hooksOf oE rh0 (.vecLit .int)).fromMeta (mArr twoAttr) =
    .err (.leaf (.unexpectedType "lit") [] (some ⟨8, 19⟩)) := rfl
example : (hooksOf oE rh0 (.numArray u8)).fromMeta (mArr twoAttr) =
    .err (.leaf (.custom "Expected array of unsigned integers") [] (some ⟨8, 19⟩)) := rfl

/-! ## non-vacuity of every hypothesis of the main theorems -/

-- `scalar_meets`: `hT`, `hwf`
example : Scalar.path ≠ .callable := by decide
def mIdent : Meta := .nameValue pX (.path pFoo ⟨4, 7⟩) "x = foo" ⟨0, 7⟩
example : ItemIdentPrints mIdent := by
  intro p sp i h hi
  cases h
  cases hi
  rfl
example : (hooksOf oE rh0 Scalar.ident.ty).fromMeta mIdent = .ok (.toks "foo") := rfl
/-- the condition is needed: a mirror path whose printed tokens are not its identifier -/
example : ¬ Meets ((hooksOf oE rh0 Scalar.ident.ty).fromMeta
      (.nameValue pX (.path { pFoo with toks := "bar" } ⟨4, 7⟩) "x = foo" ⟨0, 7⟩))
    (Scalar.ident.expected oE (.nameValue pX (.path { pFoo with toks := "bar" } ⟨4, 7⟩) "x = foo" ⟨0, 7⟩)) := by
  intro h
  have h1 : Val.toks "foo" = Val.toks "bar" := h
  exact absurd (Val.toks.inj h1) (by decide)

-- `callable_meets`, `parse_meets`: no hypothesis.  `numArray_meets`: `hnum` is `numOf_sound`

-- `C13_meets`: `hs` (vacuous off identifiers, the mirror's condition on them)
example : (Tgt.scalar .callable).Side mCallG := by
  intro h; cases h with
  | inl h => cases h
  | inr h => cases h
example : (Tgt.numArray u8).Side (mArr (.group (.group two ⟨8, 9⟩) ⟨8, 9⟩)) := by
  intro h; cases h with
  | inl h => cases h
  | inr h => cases h
example : (Tgt.scalar .ident).Side mIdent := by
  intro _ p sp i h hi
  cases h
  cases hi
  rfl
example : Meets ((hooksOf oE rh0 (Tgt.scalar .callable).ty).fromMeta mCallGG)
    ((Tgt.scalar .callable).expected oE mCallGG) :=
  C13_meets oE rh0 _ _ (by intro h; cases h with | inl h => cases h | inr h => cases h)

-- `helpers_differ_only_on_strings`, `helpers_model_differ_only_on_strings`: `h`
example : ∀ p e t sp, m5 = .nameValue p e t sp → ∀ s t' sp', written e ≠ .lit ⟨.str s, t', sp'⟩ := by
  intro p e t sp h s t' sp' hw
  cases h
  cases hw

-- `agree_iff` / `agree`: `hg`, `hq`, `hb`, `hvb`, `hvq`, `hsame`, `hwf`
def sFB : Lit := ⟨.str "foo::bar", "\"foo::bar\"", ⟨4, 14⟩⟩
example : Scalar.path.grammar oE = some (oE.parseSyn "Path") := rfl
example : written (.group (.lit sFB) ⟨4, 14⟩) = .lit ⟨.str "foo::bar", "\"foo::bar\"", ⟨4, 14⟩⟩ := rfl
example : ∀ s' t' sp', written (.path pFooBar ⟨4, 12⟩) ≠ .lit ⟨.str s', t', sp'⟩ := fun _ _ _ h => by cases h
example : Scalar.path.read oE (.path pFooBar ⟨4, 12⟩) = .value (.toks "foo :: bar") := rfl
example : Scalar.path.read oE (.group (.lit sFB) ⟨4, 14⟩) = .value (.toks "foo :: bar") := rfl
example : oE.parseSyn "Path" "foo::bar" = some (written (.path pFooBar ⟨4, 12⟩)).toks := rfl
example : (Scalar.path = .ident ∨ Scalar.path = .identString) → IdentPrints (written (.path pFooBar ⟨4, 12⟩)) :=
  fun h => by cases h with | inl h => cases h | inr h => cases h
/-- and a grammar that maps the string elsewhere makes the two spellings differ (the `iff`) -/
example : Scalar.path.read { syns := [("Path", "foo::bar", some "bar")] } (.lit sFB) = .value (.toks "bar") := rfl

-- `vec_agree`: `h`
def oA : Oracle := { arrs := [("[1, 2]", some (.array [one, two] "[1 , 2]" ⟨0, 6⟩))] }
example : arrayGrammar oA "[1, 2]" = some [one, two] := rfl
example : (hooksOf oA rh0 (.vecLit .int)).fromMeta
    (.nameValue pX (.lit ⟨.str "[1, 2]", "\"[1, 2]\"", ⟨4, 12⟩⟩) "x = \"[1, 2]\"" ⟨0, 12⟩) =
    .ok (.list [.toks "1", .toks "2"]) := rfl

/-! a few more readings of the table -/
example : Scalar.expr.read oE (.lit sAB) = .value (.toks "a + b") := rfl
example : Scalar.expr.read oE (.lit five) = .value (.toks "5") := rfl
example : (Scalar.litKind .int).read oE (.lit five) = .value (.toks "5") := rfl
example : (Scalar.litKind .str).read oE (.lit five) = .rejectedAt ⟨4, 5⟩ := rfl
example : (Scalar.litKind .str).read oE (.lit sAB) = .value (.toks "\"a + b\"") := rfl
example : (Scalar.parsed "Type").read oE (.path pFoo ⟨4, 7⟩) = .rejectedAt ⟨4, 7⟩ := rfl
example : Scalar.path.expected oE (.path pX) = .rejectedAt ⟨0, 1⟩ := rfl
example : pathListExpected (.list pX [.item (.path pFoo), .lit five, .item (.path pX)] none none "x(foo, 5, x)" ⟨0, 12⟩) =
    .rejectedAt ⟨4, 5⟩ := rfl
example : pathListExpected (.list pX [.item (.path pFoo), .item (.path pFooBar)] none none "x(foo, foo::bar)" ⟨0, 16⟩) =
    .value (.list [.toks "foo", .toks "foo :: bar"]) := rfl

end Ex

end C13
