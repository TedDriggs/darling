import Darling.Derive.Env
import Darling.Lemmas.NoPanic
import Darling.Props.C06Derive
import Darling.Props.C07Outer
import Darling.Props.C07Recv
import Darling.Props.C16
import Darling.Props.C18
/-
  C07, element-level receivers end to end: every element-level receiver (`FromDeriveInput`,
  `FromField`, `FromVariant`, `FromTypeParam`, `FromAttributes`) of a corpus whose declarations are
  rename-safe returns (never panics) on every input element, at every nesting depth.
-/
open Derive Options

namespace C07

/-! ### 1. the derive link of element-level receivers -/

/-- the derive-time link of an element-level receiver: the field list that becomes its struct
    parser is linked to the container default -/
def OuterLinked (r : ROuter) : Prop :=
  ∀ style fields, r.base.data = .struct style fields → DefaultsLinked r.base fields

theorem parseVariants_frame (t : Trait) (o : Oracle) (core : CoreOpts) :
    ∀ (vs : List VariantD) (st st' : BodySt), parseVariants t o core st vs = .ok st' →
      st'.fields = st.fields ∧ st'.dataField = st.dataField := by
  intro vs st st' h
  exact parseVariants_inv t o core (fun s => s.fields = st.fields ∧ s.dataField = st.dataField)
    (fun _ _ _ _ hs => hs) (fun _ _ hs => hs) vs st st' ⟨rfl, rfl⟩ h

theorem deriveOuter_linked (t : Trait) (o : Oracle) (sim : String → Option (Nat × String)) (sp : DeclSpans)
    (d : DeclD) (r : ROuter) (h : deriveOuter t o sim sp d = .ok (.outer r)) : OuterLinked r := by
  obtain ⟨oo, st, style, hbody, _, hr⟩ := C06.deriveOuter_ok t o sim sp d _ h
  cases hr
  intro style' fields hdata
  cases hdata
  refine DefaultsLinked.of_fields rfl ?_
  rcases hbody with ⟨fs, _, hst⟩ | ⟨vs, _, _, _, hst⟩
  · exact parseFields_linked t o sim oo.core fs {} st (fun _ hf => nomatch hf) hst
  · -- an enum body contributes no fields
    rw [(parseVariants_frame t o oo.core vs {} st hst).1]
    exact fun _ hf => nomatch hf

/-- **the derive link** for element-level receivers -/
theorem derive_outer_linked (t : Trait) (o : Oracle) (sim : String → Option (Nat × String)) (sp : DeclSpans)
    (d : DeclD) (r : ROuter) (h : Options.derive t o sim sp d = .ok (.outer r)) : OuterLinked r := by
  unfold Options.derive at h
  split at h
  · exact absurd h (C06.deriveFromMeta_not_outer o sp d r)
  · exact deriveOuter_linked t o sim sp d r h

/-! ### 2. the parts of the generated `from_*` -/

/-- the emitted `__validate_body` returns for every shape set and every body -/
theorem validateBody_returns (d : DISS) (b : BodyShape) : (d.validateBody b).Returns :=
  C18.validateBody_never_panics d b

/-- the two models of `collect::<Result<Vec<_>>>()` agree -/
theorem collectFirst_eq_collectFirstErr {β γ : Type} (f : β → Outcome γ) :
    ∀ xs, collectFirst f xs = SynTypes.collectFirstErr f xs
  | [] => rfl
  | x :: xs => by
      rw [collectFirst, SynTypes.collectFirstErr, collectFirst_eq_collectFirstErr f xs]
      cases f x with
      | ok v =>
          cases SynTypes.collectFirstErr f xs with
          | ok vs => rfl
          | err e => rfl
          | panic m => rfl
      | err e => rfl
      | panic m => rfl

theorem collectFirst_returns {β γ : Type} (f : β → Outcome γ) (hf : ∀ x, (f x).Returns) (xs : List β) :
    (collectFirst f xs).Returns :=
  collectFirst_eq_collectFirstErr f xs ▸ collectFirstErr_returns f hf xs

theorem gparamMirror_returns (wrap : Option (TypeParamD → Outcome Val))
    (hw : ∀ f, wrap = some f → ∀ t, (f t).Returns) (p : GParamD) : (gparamMirror wrap p).Returns := by
  cases p with
  | type t =>
      cases wrap with
      | none => exact Outcome.returns_ok _
      | some f => exact (hw f rfl t).map _
  | lifetime s => cases wrap <;> exact Outcome.returns_ok _
  | const s => cases wrap <;> exact Outcome.returns_ok _

theorem genericsMirror_returns (wrap : Option (TypeParamD → Outcome Val))
    (hw : ∀ f, wrap = some f → ∀ t, (f t).Returns) (g : GenericsD) : (genericsMirror wrap g).Returns := by
  have h := collectFirst_returns (gparamMirror wrap) (gparamMirror_returns wrap hw) g.params
  unfold genericsMirror
  cases hc : collectFirst (gparamMirror wrap) g.params with
  | ok ps => exact Outcome.returns_ok _
  | err e => exact Outcome.returns_err _
  | panic m => exact absurd hc (h m)

/-- replacing the container default by one that is present whenever the old one was keeps the
    hypotheses of the run-time theorem -/
theorem convsReturn_withDefault {ν : Type} (s : SStruct ν) (hc : ConvsReturn s) (cd : Option (String → ν))
    (h : s.containerDefault.isSome = true → cd.isSome = true) :
    ConvsReturn { s with containerDefault := cd } :=
  ⟨hc.conv, hc.list, hc.post, fun f hf hd => h (hc.dflt f hf hd)⟩

/-! ### 3. one element-level receiver on one element

  `Env.runOuter` is one large definition; its `let`-bound pieces are restated here one by one
  (`runOuter_eq` ties them back to the definition). -/

/-- how the forwarded attributes become the value of the `attrs` field -/
def attrsFn (fw : Forwarded) : List Attr → Outcome Val :=
  match fw.with_ with
  | none => fun as => .ok (.list (as.map (fun a => .toks a.toks)))
  | some "fns :: attrs_count" => fun as => .ok (.int as.length)
  | some "fns :: attrs_fail" => fun _ => .err (Err.custom "attrs_fail")
  | some _ => fun _ => .err (Err.custom "unknown attrs function")

def cdfltOf (env : Env.T) (r : ROuter) (el : Elem) (st : SStruct Val) : Option (String → Val) :=
  if r.fromIdent then
    (match el with
     | .deriveInput d => (match env.oracle.val? ("fromident:" ++ r.base.ident ++ ":" ++ d.ident) with
         | some (.record _ kvs) => some (fun id => ((kvs.find? (·.1 == id)).map (·.2)).getD .unit)
         | _ => some (fun _ => .unit))
     | _ => some (fun _ => .unit))
  else st.containerDefault

def stOf (env : Env.T) (r : ROuter) (fields : List RField) : SStruct Val :=
  Env.semStruct env (Env.recvHooks env) r.base fields (fun kvs => .record r.base.ident (Env.sortKvs kvs))

def soOf (env : Env.T) (r : ROuter) (fields : List RField) (el : Elem) : SOuter Val :=
  ⟨{ stOf env r fields with containerDefault := cdfltOf env r el (stOf env r fields) },
    r.attrNames, r.forward, r.attrsField.map attrsFn⟩

def validateOf (r : ROuter) (el : Elem) : Outcome Unit :=
  match r.trait_, el with
  | .fromDeriveInput, .deriveInput d => (match r.supports with
      | some diss => diss.validateBody d.body.shape
      | none => .ok ())
  | .fromVariant, .variant v => (match r.vsupports with
      | some ds => ds.toShapeSet.check (v.style.shape v.fields.length)
      | none => .ok ())
  | _, _ => .ok ()

def dataTyOf (env : Env.T) (r : ROuter) : String :=
  match r.dataField with
  | some fw => (match (match env.decls.find? (·.1 == r.base.ident) with
      | some (_, _, dd, _) => (match dd.body with
          | .struct _ fs => (fs.find? (fun f => f.ident == some fw.ident)).map (·.tyToks)
          | _ => none)
      | none => none) with
    | some t => t
    | none => "")
  | none => ""

def memberTyOf (env : Env.T) (r : ROuter) : String → String :=
  fun m => match env.decls.find? (·.1 == r.base.ident) with
  | some (_, _, dd, _) => (match dd.body with
      | .struct _ fs => ((fs.find? (fun f => f.ident == some m)).map (·.tyToks)).getD ""
      | _ => "")
  | none => ""

def stripWrap (pre : String) (t : String) : Option String :=
  if t.startsWith pre && t.endsWith ">" then some (String.ofList ((t.toList.drop pre.length).dropLast)) else none

def genBase (conv : String → Elem → Outcome Val) (d : DeclD) : String → Outcome Val := fun gTy =>
  match stripWrap "ast::Generics<" gTy with
  | none => .ok (genericsVal d)
  | some pTy =>
      (match stripWrap "ast::GenericParam<" pTy with
       | none => genericsMirror none d.generics
       | some tTy => genericsMirror (some (fun t => conv tTy (.typeParam t))) d.generics)

def genPart (conv : String → Elem → Outcome Val) (d : DeclD) (gTy : String) : Outcome Val :=
  match stripWrap "darling::Result<" gTy, stripWrap "WithOriginal<" gTy with
  | some inner, _ =>
      (match genBase conv d inner with
       | .ok v => .ok (.okv v)
       | .err e => .ok (.errv e)
       | .panic m => .panic m)
  | none, some args =>
      (match Env.typeArgs ("W<" ++ args ++ ">") with
       | [inner, _] => (genBase conv d inner).map (fun v => .withOrig v d.generics.toks)
       | _ => .err (Err.custom "cannot read type arguments"))
  | none, none => genBase conv d gTy

def dataPart (conv : String → Elem → Outcome Val) (dataTy : String) (d : DeclD) (fw : Forwarded) : Outcome Val :=
  match fw.with_ with
  | some "fns :: data_kind" => .ok (.str (match d.body with
      | .struct _ _ => "struct" | .enum _ => "enum" | .union => "union"))
  | some _ => .err (Err.custom "unknown data function")
  | none =>
      (match Env.typeArgs dataTy with
       | [vTy, fTy] =>
           dataTryFrom (fun f => conv fTy (.field f)) (fun v => conv vTy (.variant v))
             (fun style vs => .variant "Data" "Struct" (.record (styleName style) [("entries", .list vs)]))
             (fun vs => .variant "Data" "Enum" (.list vs)) d.body
       | _ => .err (Err.custom ("cannot read type arguments of " ++ dataTy)))

def fieldsPart (conv : String → Elem → Outcome Val) (fieldsTy : String) (v : VariantD) : Outcome Val :=
  match Env.typeArgs fieldsTy with
  | [fTy] => (match fieldsTryFrom (fun f => conv fTy (.field f)) v.fields [] [] with
      | .error m => .panic m
      | .ok (vs, []) => .ok (.record (styleName v.style) [("entries", .list vs)])
      | .ok (_, errs) => Err.bundleErr errs)
  | _ => .err (Err.custom ("cannot read type arguments of " ++ fieldsTy))

def lateOf (env : Env.T) (conv : String → Elem → Outcome Val) (r : ROuter) (el : Elem) : List (String × Outcome Val) :=
  match el with
  | .deriveInput d =>
      (if r.magic.contains "generics" then
         [("generics", genPart conv d (String.ofList ((memberTyOf env r "generics").toList.filter (· != ' '))))]
       else []) ++
      (match r.dataField with
       | some fw => [(fw.ident, dataPart conv (dataTyOf env r) d fw)]
       | none => [])
  | .variant v =>
      (if r.magic.contains "fields" then [("fields", fieldsPart conv (memberTyOf env r "fields") v)] else [])
  | _ => []

def mainArm (env : Env.T) (conv : String → Elem → Outcome Val) (r : ROuter) (fields : List RField) (el : Elem) :
    Outcome Val :=
  match extract (soOf env r fields el) el.attrsOf with
  | .error m => .panic m
  | .ok (pst, attrsVal) =>
      finishOuter (soOf env r fields el) pst attrsVal (validateOf r el) (lateOf env conv r el)
        (earlyParts (fun m => r.magic.contains m) el) (fun kvs => .record r.base.ident (Env.sortKvs kvs))

/-- the newtype arm's own `supports(..)` check (`__validate_body(&input.data)?` in the newtype arm
    of `FromDeriveInputImpl::to_tokens`): only a `FromDeriveInput` receiver on a derive input has one -/
def newtypeValidate (r : ROuter) (el : Elem) : Outcome Unit :=
  match r.trait_, el, r.supports with
  | .fromDeriveInput, .deriveInput d, some diss => diss.validateBody d.body.shape
  | _, _, _ => .ok ()

theorem runOuter_eq (env : Env.T) (run : String → Elem → Outcome Val) (conv : String → Elem → Outcome Val)
    (r : ROuter) (el : Elem) :
    Env.runOuter env run conv r el =
      (match r.base.data with
       | .struct .tuple [f] =>
           (match newtypeValidate r el with
            | .err e => .err e
            | .panic m => .panic m
            | .ok () =>
                (match f.ty with
                 | .recv inner => (run inner el).map (fun v => .record r.base.ident [("0", v)])
                 | _ => .err (Err.custom "unsupported newtype inner")))
       | .struct _ fields => mainArm env conv r fields el
       | .enum _ => .err (Err.custom "element-level receivers are structs")) := by
  unfold Env.runOuter mainArm newtypeValidate soOf stOf cdfltOf validateOf lateOf attrsFn dataTyOf memberTyOf
    genPart genBase stripWrap dataPart fieldsPart
  with_reducible_and_instances rfl

theorem newtypeValidate_returns (r : ROuter) (el : Elem) : (newtypeValidate r el).Returns := by
  unfold newtypeValidate
  split
  · exact validateBody_returns _ _
  · exact Outcome.returns_ok _

theorem attrsFn_returns (fw : Forwarded) (as : List Attr) : (attrsFn fw as).Returns := by
  generalize hg : attrsFn fw = g
  unfold attrsFn at hg
  split at hg <;> subst hg <;> first | exact Outcome.returns_ok _ | exact Outcome.returns_err _

theorem cdfltOf_isSome (env : Env.T) (r : ROuter) (el : Elem) (st : SStruct Val)
    (h : st.containerDefault.isSome = true) : (cdfltOf env r el st).isSome = true := by
  unfold cdfltOf
  split
  · split
    · split <;> rfl
    · rfl
  · exact h

theorem validateOf_returns (r : ROuter) (el : Elem) : (validateOf r el).Returns := by
  unfold validateOf
  split
  · split
    · exact validateBody_returns _ _
    · exact Outcome.returns_ok _
  · split
    · exact C18.check_never_panics _ _
    · exact Outcome.returns_ok _
  · exact Outcome.returns_ok _

theorem genBase_returns (conv : String → Elem → Outcome Val) (hconv : ∀ n el, (conv n el).Returns)
    (d : DeclD) (gTy : String) : (genBase conv d gTy).Returns := by
  unfold genBase
  split
  · exact Outcome.returns_ok _
  · split
    · exact genericsMirror_returns none (fun f hf => by cases hf) _
    · exact genericsMirror_returns _ (fun f hf t => by cases hf; exact hconv _ _) _

theorem genPart_returns (conv : String → Elem → Outcome Val) (hconv : ∀ n el, (conv n el).Returns)
    (d : DeclD) (gTy : String) : (genPart conv d gTy).Returns := by
  unfold genPart
  split
  · split
    · exact Outcome.returns_ok _
    · exact Outcome.returns_ok _
    · rename_i m heq
      exact absurd heq (genBase_returns conv hconv d _ m)
  · split
    · exact (genBase_returns conv hconv d _).map _
    · exact Outcome.returns_err _
  · exact genBase_returns conv hconv d _

variable {ν : Type} in
/-- body conversion returns when the entry converters do (`C16.data_fails_iff`), unions included -/
theorem data_returns (fconv : FieldD → Outcome ν) (vconv : VariantD → Outcome ν)
    (mkStruct : Style → List ν → ν) (mkEnum : List ν → ν) (b : BodyD) (hnp : C16.BodyNoPanic fconv vconv b) (msg : String) :
    dataTryFrom fconv vconv mkStruct mkEnum b ≠ .panic msg := by
  have := (C16.data_fails_iff fconv vconv mkStruct mkEnum b hnp).2
  intro h; rw [h] at this; cases this

theorem dataPart_returns (conv : String → Elem → Outcome Val) (hconv : ∀ n el, (conv n el).Returns)
    (dataTy : String) (d : DeclD) (fw : Forwarded) : (dataPart conv dataTy d fw).Returns := by
  unfold dataPart
  split
  · exact Outcome.returns_ok _
  · exact Outcome.returns_err _
  · split
    · refine data_returns _ _ _ _ _ ?_
      cases d.body with
      | union => trivial
      | struct s fs => intro f _; exact Outcome.isPanic_of_returns (hconv _ _)
      | enum vs => intro v _; exact Outcome.isPanic_of_returns (hconv _ _)
    · exact Outcome.returns_err _

theorem fieldsPart_returns (conv : String → Elem → Outcome Val) (hconv : ∀ n el, (conv n el).Returns)
    (fieldsTy : String) (v : VariantD) : (fieldsPart conv fieldsTy v).Returns := by
  unfold fieldsPart
  split
  · rename_i fTy _
    rw [C16.fieldsTryFrom_spec (fun f => conv fTy (.field f)) v.fields [] []
      (fun f _ => Outcome.isPanic_of_returns (hconv _ _))]
    split
    · rename_i heq; cases heq
    · exact Outcome.returns_ok _
    · rename_i errs hne heq
      cases heq
      exact Err.bundleErr_returns hne
  · exact Outcome.returns_err _

theorem snd_of_mem_singleton {α β : Type} {k : α} {v : β} {p : α × β} (hp : p ∈ [(k, v)])
    {P : β → Prop} (h : P v) : P p.2 := by
  cases List.mem_singleton.1 hp; exact h

theorem snd_of_mem_ite_singleton {α β : Type} {c : Prop} [Decidable c] {k : α} {v : β} {p : α × β}
    (hp : p ∈ if c then [(k, v)] else []) {P : β → Prop} (h : P v) : P p.2 := by
  by_cases hc : c
  · rw [if_pos hc] at hp; exact snd_of_mem_singleton hp h
  · rw [if_neg hc] at hp; cases hp

theorem lateOf_returns (env : Env.T) (conv : String → Elem → Outcome Val) (hconv : ∀ n el, (conv n el).Returns)
    (r : ROuter) (el : Elem) : ∀ p ∈ lateOf env conv r el, p.2.Returns := by
  intro p hp
  cases el with
  | deriveInput d =>
      rcases List.mem_append.1 hp with hp | hp
      · exact snd_of_mem_ite_singleton hp (genPart_returns conv hconv d _)
      · cases hdf : r.dataField with
        | none => rw [hdf] at hp; cases hp
        | some fw =>
            rw [hdf] at hp
            exact snd_of_mem_singleton hp (dataPart_returns conv hconv _ d fw)
  | variant v => exact snd_of_mem_ite_singleton hp (fieldsPart_returns conv hconv _ v)
  | field f => cases hp
  | typeParam t => cases hp
  | attrs as => cases hp

theorem soOf_convsReturn (env : Env.T) (r : ROuter) (fields : List RField) (hl : DefaultsLinked r.base fields)
    (el : Elem) : ConvsReturn (soOf env r fields el).fields :=
  convsReturn_withDefault (stOf env r fields)
    (semStruct_convsReturn env (Env.recvHooks env) (recvHooks_np env) r.base fields _ hl) _
    (cdfltOf_isSome env r el _)

theorem soOf_attrs_returns (env : Env.T) (r : ROuter) (fields : List RField) (el : Elem) :
    ∀ mk, (soOf env r fields el).attrsField = some mk → ∀ as, (mk as).Returns := by
  intro mk hmk as
  simp only [soOf] at hmk
  cases ha : r.attrsField with
  | none =>
      rw [ha] at hmk
      cases hmk
  | some fw =>
      rw [ha] at hmk
      cases hmk
      exact attrsFn_returns fw as

theorem mainArm_returns (env : Env.T) (conv : String → Elem → Outcome Val) (hconv : ∀ n el, (conv n el).Returns)
    (r : ROuter) (fields : List RField) (hl : DefaultsLinked r.base fields) (el : Elem) :
    (mainArm env conv r fields el).Returns := by
  unfold mainArm
  obtain ⟨st, av, he, hfin⟩ := outer_returns (soOf env r fields el) (soOf_convsReturn env r fields hl el)
    (soOf_attrs_returns env r fields el) el.attrsOf (validateOf r el) (validateOf_returns r el)
    (lateOf env conv r el) (lateOf_returns env conv hconv r el)
    (earlyParts (fun m => r.magic.contains m) el) (fun kvs => .record r.base.ident (Env.sortKvs kvs))
  rw [he]
  exact hfin

/-- **one element-level receiver returns** on every element, when the receivers and entry
    converters it delegates to return and its inherited defaults are linked -/
theorem runOuter_returns (env : Env.T) (run : String → Elem → Outcome Val) (conv : String → Elem → Outcome Val)
    (hrun : ∀ n el, (run n el).Returns) (hconv : ∀ n el, (conv n el).Returns)
    (r : ROuter) (hl : OuterLinked r) (el : Elem) : (Env.runOuter env run conv r el).Returns := by
  rw [runOuter_eq]
  cases hd : r.base.data with
  | enum vs => exact Outcome.returns_err _
  | struct style fields =>
      have hlk := hl style fields hd
      split
      · have hv := newtypeValidate_returns r el
        cases hnv : newtypeValidate r el with
        | err e => exact Outcome.returns_err _
        | panic m => exact absurd hnv (hv m)
        | ok u =>
            simp only []
            split
            · exact (hrun _ _).map _
            · exact Outcome.returns_err _
      · rename_i heq
        cases heq
        exact mainArm_returns env conv hconv r _ hlk el
      · rename_i heq; cases heq

/-! ### 4. entry converters -/

theorem entryConvF_returns (run : String → Elem → Outcome Val) (hrun : ∀ n el, (run n el).Returns) :
    ∀ (fuel : Nat) (ty : String) (el : Elem), (Env.entryConvF run fuel ty el).Returns := by
  intro fuel ty el
  fun_induction Env.entryConvF run fuel ty el
  case case1 => exact Outcome.returns_err _
  -- a wrapper around an entry type: the inner conversion returns by induction
  case case11 ih => exact (ih.mapErr _).map _
  case case12 => exact Outcome.returns_err _
  case case13 ih => exact ih.map _
  case case14 => exact Outcome.returns_err _
  -- a receiver of the corpus
  case case15 => exact hrun _ _
  -- the nine fixed entry types
  all_goals exact Outcome.returns_ok _

/-! ### 5. every element-level receiver of every rename-safe corpus returns, at every nesting depth -/

/-- the one thing asked of the corpus: no derive macro of it panics -/
theorem outerRunF_returns_of_derives (env : Env.T)
    (hc : ∀ x ∈ env.decls, (Options.derive x.2.1 env.oracle
      (fun n => Suggest.didYouMean env.thr [("with", env.oracle.score n "with")]) x.2.2.2 x.2.2.1).Returns) :
    ∀ (fuel : Nat) (name : String) (el : Elem), (Env.outerRunF fuel env name el).Returns
  | 0, name, el => by simp only [Env.outerRunF]; exact Outcome.returns_err _
  | fuel + 1, name, el => by
      simp only [Env.outerRunF]
      cases hf : env.decls.find? (·.1 == name) with
      | none => exact Outcome.returns_err _
      | some x =>
          obtain ⟨n, t, d, sp⟩ := x
          have hdr := hc _ (List.mem_of_find?_eq_some hf)
          simp only []
          cases hd : Options.derive t env.oracle
            (fun (n : String) => Suggest.didYouMean env.thr [("with", env.oracle.score n "with")]) sp d with
          | err e => exact Outcome.returns_err _
          | panic m => exact absurd hd (hdr m)
          | ok dv =>
              cases dv with
              | fromMeta r => exact Outcome.returns_err _
              | outer r =>
                  have ih := outerRunF_returns_of_derives env hc fuel
                  exact runOuter_returns env _ _ ih (entryConvF_returns _ ih 8) r
                    (derive_outer_linked t env.oracle _ sp d r hd) el

theorem outerRunF_returns (env : Env.T) (hsafe : ∀ x ∈ env.decls, C06.DeclSafe x.2.2.1) :
    ∀ (fuel : Nat) (name : String) (el : Elem), (Env.outerRunF fuel env name el).Returns :=
  outerRunF_returns_of_derives env (fun x hx => C06.derive_returns _ _ _ _ _ (hsafe x hx))

/-- **C07 for element-level receivers, end to end**: the generated `from_derive_input` /
    `from_field` / `from_variant` / `from_type_param` / `from_attributes` of every receiver of every
    corpus with rename-safe declarations returns on every input element -/
theorem outerRun_returns (env : Env.T) (hsafe : ∀ x ∈ env.decls, C06.DeclSafe x.2.2.1)
    (name : String) (el : Elem) : (Env.outerRun env name el).Returns :=
  outerRunF_returns env hsafe _ name el

/-! ### non-vacuity -/

/-- `struct S { a: Option<bool> }` -/
def exampleOuterDecl : DeclD :=
  { ident := "S", attrs := [],
    body := .struct .named
      [ { ident := some "a", ty := .option .bool, tyToks := "Option<bool>", vis := "", attrs := [] } ] }

/-- the corpus `#[derive(FromField)] struct S { a: Option<bool> }` -/
def exampleOuterEnv : Env.T :=
  { decls := [("S", .fromField, exampleOuterDecl, {})], oracle := {}, thr := 0 }

theorem exampleOuterEnv_safe : ∀ x ∈ exampleOuterEnv.decls, C06.DeclSafe x.2.2.1 := by
  intro x hx
  simp only [exampleOuterEnv, List.mem_singleton] at hx
  subst hx
  intro f hf
  simp only [List.mem_singleton] at hf
  subst hf
  exact C06.ident_a_safe

/-- the theorem applies to it … -/
example (el : Elem) : (Env.outerRun exampleOuterEnv "S" el).Returns :=
  outerRun_returns exampleOuterEnv exampleOuterEnv_safe "S" el

/-- … and its receiver is derived, assembled and run to a value (not the fuel-exhausted,
    unknown-receiver or derive-error outcome) -/
example : (Env.outerRun exampleOuterEnv "S"
    (.field { ident := some "x", ty := .bool, tyToks := "bool", vis := "", attrs := [] })).isOk = true := by
  decide

end C07
