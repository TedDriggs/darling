import Darling.FromMeta.Scalars
import Darling.Spec.C11
import Darling.Lemmas.Error
/-
  C11 — Scalar conversions are exact: in range means that value, otherwise an error.
  Integers: for every target spec (any width, signed or not, NonZero or not — the 24 targets of
  the regenerated table are instances) and every string / literal.
-/
open Scalars Spec.C11

namespace C11

/-! ### the digit fold is positional decimal notation -/

theorem digitVal_eq_ite (c : Char) : digitVal c = if isDigit c then some (digitOf c) else none := by
  simp only [digitVal, isDigit, digitOf, Bool.and_eq_true, decide_eq_true_eq]

theorem digitVal_some_iff (c : Char) : (∃ d, digitVal c = some d) ↔ isDigit c = true := by
  rw [digitVal_eq_ite]
  cases isDigit c
  · exact ⟨nofun, nofun⟩
  · exact ⟨fun _ => rfl, fun _ => ⟨_, rfl⟩⟩

/-- the step of `parseDigits` -/
def stepD (acc : Option Nat) (c : Char) : Option Nat :=
  match acc, digitVal c with
  | some n, some d => some (n * 10 + d)
  | _, _ => none

theorem stepD_some (a : Nat) (c : Char) :
    stepD (some a) c = if isDigit c then some (a * 10 + digitOf c) else none := by
  unfold stepD
  rw [digitVal_eq_ite]
  cases isDigit c <;> rfl

theorem foldl_none (cs : List Char) : cs.foldl stepD none = none := by
  induction cs with
  | nil => rfl
  | cons c cs ih => exact ih

theorem foldl_stepD (cs : List Char) (a : Nat) :
    cs.foldl stepD (some a) = if cs.all isDigit then some (a * 10 ^ cs.length + pos cs) else none := by
  induction cs generalizing a with
  | nil => simp [pos]
  | cons c cs ih =>
      rw [List.foldl_cons, stepD_some, List.all_cons]
      cases isDigit c
      · exact foldl_none cs
      · simp only [if_true, Bool.true_and, ih, pos, List.length_cons]
        rw [Nat.pow_succ, Nat.add_mul, Nat.mul_assoc, Nat.mul_comm 10, Nat.add_assoc]

/-- `parseDigits` accepts exactly the all-digit strings and returns their positional value -/
theorem parseDigits_eq_ite (cs : List Char) :
    parseDigits cs = if cs.all isDigit then some (pos cs) else none := by
  rw [show parseDigits cs = cs.foldl stepD (some 0) from rfl, foldl_stepD, Nat.zero_mul, Nat.zero_add]

/-! ### `str::parse` for every integer target -/

/-- the common tail of `parseIntStd`: sign already split off -/
def finishSpec (sp : IntSpec) (neg : Bool) (ds : List Char) : Except IntErr Int :=
  match parseDigits ds with
  | none => .error .invalidDigit
  | some n =>
      let v : Int := if neg then -(n : Int) else n
      if v < sp.lo then .error .negOverflow
      else if v > sp.hi then .error .posOverflow
      else if sp.nonzero && v == 0 then .error .zero
      else .ok v

theorem ite_error_ok_iff {ε β : Type} {a : Prop} [Decidable a] (e : ε) (x : Except ε β) (v : β) :
    (if a then .error e else x) = .ok v ↔ ¬a ∧ x = .ok v := by
  by_cases ha : a
  · rw [if_pos ha]; exact ⟨nofun, fun h => absurd ha h.1⟩
  · rw [if_neg ha]; exact ⟨fun h => ⟨ha, h⟩, fun h => h.2⟩

theorem holds_iff (sp : IntSpec) (v : Int) :
    sp.holds v = true ↔ ¬ v < sp.lo ∧ ¬ v > sp.hi ∧ ¬ (sp.nonzero && v == 0) = true := by
  unfold IntSpec.holds
  cases sp.nonzero
  · simp
  · simp [and_assoc]

theorem finish_ok_iff (sp : IntSpec) (neg : Bool) (ds : List Char) (v : Int) :
    finishSpec sp neg ds = .ok v ↔
      ds.all isDigit = true ∧ v = (if neg then -(pos ds : Int) else pos ds) ∧ sp.holds v = true := by
  unfold finishSpec
  rw [parseDigits_eq_ite]
  cases ds.all isDigit
  · exact ⟨nofun, fun h => nomatch h.1⟩
  · rw [holds_iff]
    -- the `match` on `some (pos ds)` reduces to the three range tests
    show (if _ then _ else if _ then _ else if _ then _ else _) = _ ↔ _
    rw [ite_error_ok_iff, ite_error_ok_iff, ite_error_ok_iff, Except.ok.injEq]
    constructor
    · rintro ⟨h1, h2, h3, rfl⟩
      exact ⟨rfl, rfl, h1, h2, h3⟩
    · rintro ⟨_, rfl, h⟩
      exact ⟨h.1, h.2.1, h.2.2, rfl⟩

theorem parseIntStd_unfold (sp : IntSpec) (s : String) :
    parseIntStd sp s =
      match s.toList with
      | [] => .error .empty
      | ['+'] => .error .invalidDigit
      | ['-'] => .error .invalidDigit
      | '+' :: rest => finishSpec sp false rest
      | '-' :: rest => if sp.signed then finishSpec sp true rest else .error .invalidDigit
      | cs => finishSpec sp false cs := by
  unfold parseIntStd finishSpec
  rfl

/-! `parseIntStd` by the shape of its input -/

theorem parseIntStd_nil (sp : IntSpec) {s : String} (h : s.toList = []) :
    parseIntStd sp s = .error .empty := by
  rw [parseIntStd_unfold, h]

theorem parseIntStd_plus (sp : IntSpec) {s : String} {ds : List Char} (h : s.toList = '+' :: ds) :
    parseIntStd sp s = if ds.isEmpty then .error .invalidDigit else finishSpec sp false ds := by
  rw [parseIntStd_unfold, h]
  cases ds <;> rfl

theorem parseIntStd_minus (sp : IntSpec) {s : String} {ds : List Char} (h : s.toList = '-' :: ds) :
    parseIntStd sp s =
      if ds.isEmpty || !sp.signed then .error .invalidDigit else finishSpec sp true ds := by
  rw [parseIntStd_unfold, h]
  cases ds
  · rfl
  · cases sp.signed <;> rfl

theorem parseIntStd_nosign (sp : IntSpec) {s : String} {c : Char} {ds : List Char}
    (h : s.toList = c :: ds) (hp : c ≠ '+') (hm : c ≠ '-') :
    parseIntStd sp s = finishSpec sp false (c :: ds) := by
  rw [parseIntStd_unfold, h]
  split
  · contradiction
  · rename_i e; exact absurd (List.cons.inj e).1 hp
  · rename_i e; exact absurd (List.cons.inj e).1 hm
  · rename_i e; exact absurd (List.cons.inj e).1 hp
  · rename_i e; exact absurd (List.cons.inj e).1 hm
  · rfl

theorem isDigit_ne_sign {c : Char} (h : isDigit c = true) : c ≠ '+' ∧ c ≠ '-' := by
  constructor
  · intro e
    subst e
    cases h
  · intro e
    subst e
    cases h

/-- **exactness**: a string is accepted for a target exactly when it is a well-formed decimal
    spelling of a value the target can hold, and the result is exactly that value -/
theorem parseIntStd_exact (sp : IntSpec) (s : String) (v : Int) :
    parseIntStd sp s = .ok v ↔
      ∃ sp' : Spelling, sp'.spells s.toList ∧ sp'.wellFormed sp.signed = true
        ∧ v = sp'.value ∧ sp.holds v = true := by
  constructor
  · intro h
    suffices ∃ neg ds, Spelling.spells ⟨neg, ds⟩ s.toList ∧ ds.isEmpty = false ∧
        (!neg || sp.signed) = true ∧ finishSpec sp neg ds = .ok v by
      obtain ⟨neg, ds, hsp, hne, hs, hf⟩ := this
      obtain ⟨hall, hv, hh⟩ := (finish_ok_iff sp neg ds v).mp hf
      refine ⟨⟨neg, ds⟩, hsp, ?_, hv, hh⟩
      show (!ds.isEmpty && ds.all isDigit && (!neg || sp.signed)) = true
      rw [hne, hall, hs]; rfl
    cases hcs : s.toList with
    | nil => rw [parseIntStd_nil sp hcs] at h; cases h
    | cons c ds =>
      by_cases hp : c = '+'
      · subst hp
        rw [parseIntStd_plus sp hcs] at h
        obtain ⟨hne, hf⟩ := (ite_error_ok_iff ..).mp h
        exact ⟨false, ds, .inr ⟨rfl, .inr rfl⟩, Bool.eq_false_iff.mpr hne, rfl, hf⟩
      by_cases hm : c = '-'
      · subst hm
        rw [parseIntStd_minus sp hcs] at h
        obtain ⟨hc, hf⟩ := (ite_error_ok_iff ..).mp h
        obtain ⟨hne, hs⟩ : ds.isEmpty = false ∧ sp.signed = true := by simpa using hc
        exact ⟨true, ds, .inl ⟨rfl, rfl⟩, hne, hs, hf⟩
      · rw [parseIntStd_nosign sp hcs hp hm] at h
        exact ⟨false, c :: ds, .inr ⟨rfl, .inl rfl⟩, rfl, rfl, h⟩
  · rintro ⟨⟨neg, ds⟩, hsp, hwf, hv, hh⟩
    simp only [Spelling.wellFormed, Bool.and_eq_true, Bool.not_eq_true'] at hwf
    obtain ⟨⟨hne, hall⟩, hs⟩ := hwf
    have hf : finishSpec sp neg ds = .ok v := (finish_ok_iff sp neg ds v).mpr ⟨hall, hv, hh⟩
    rcases hsp with ⟨rfl, hcs⟩ | ⟨rfl, hcs | hcs⟩
    · rw [parseIntStd_minus sp hcs, hne, show sp.signed = true from hs]
      exact hf
    · cases ds with
      | nil => cases hne
      | cons c r =>
        obtain ⟨hp, hm⟩ := isDigit_ne_sign (Bool.and_eq_true_iff.mp hall).1
        rw [parseIntStd_nosign sp hcs hp hm]
        exact hf
    · rw [parseIntStd_plus sp hcs, hne]
      exact hf

/-- never a wrapped, truncated or saturated value, never zero for NonZero -/
theorem parseIntStd_in_range (sp : IntSpec) (s : String) (v : Int) (h : parseIntStd sp s = .ok v) :
    sp.holds v = true := by
  obtain ⟨_, _, _, _, hh⟩ := (parseIntStd_exact sp s v).mp h
  exact hh

/-! ### the conversion entry points -/
variable {α : Type}

/-- quoted form: the string as it stands, through the target's standard parsing -/
theorem quoted_exact (sp : IntSpec) (inj : Int → α) (s t : String) (span : Span) :
    numFromValue sp inj ⟨.str s, t, span⟩ =
      match parseIntStd sp s with
      | .ok v => .ok (inj v)
      | .error _ => .err (.leaf (.unknownValue s) [] (some span)) := by
  simp only [numFromValue, numFromString]
  cases parseIntStd sp s <;> rfl

/-- unquoted form: sign and decimal value of the literal, whatever its suffix (radix and
    underscores are already normalised away in `base10_digits`) -/
theorem unquoted_exact (sp : IntSpec) (inj : Int → α) (digits suffix t : String) (span : Span) :
    numFromValue sp inj ⟨.int digits suffix, t, span⟩ =
      match parseIntStd sp digits with
      | .ok v => .ok (inj v)
      | .error e => .err (.leaf (.custom e.msg) [] (some span)) := by
  simp only [numFromValue]
  cases parseIntStd sp digits <;> rfl

theorem suffix_irrelevant (sp : IntSpec) (inj : Int → α) (digits s1 s2 t1 t2 : String) (span : Span) :
    numFromValue sp inj ⟨.int digits s1, t1, span⟩ = numFromValue sp inj ⟨.int digits s2, t2, span⟩ := rfl

/-- plain decimal spellings mean the same quoted or unquoted -/
theorem quoted_unquoted_agree (sp : IntSpec) (inj : Int → α) (d sfx t1 t2 : String) (s1 s2 : Span) (v : α) :
    numFromValue sp inj ⟨.int d sfx, t1, s1⟩ = .ok v ↔ numFromValue sp inj ⟨.str d, t2, s2⟩ = .ok v := by
  rw [unquoted_exact, quoted_exact]
  cases parseIntStd sp d <;> simp

/-- wrong literal kind: an error naming the kind -/
theorem wrong_kind (sp : IntSpec) (inj : Int → α) (l : Lit)
    (h1 : ∀ s, l.v ≠ .str s) (h2 : ∀ d s, l.v ≠ .int d s) :
    numFromValue sp inj l = .err (.leaf (.unexpectedType l.typeName) [] (some l.span)) := by
  obtain ⟨v, t, span⟩ := l
  cases v with
  | str s => exact absurd rfl (h1 s)
  | int d s => exact absurd rfl (h2 d s)
  | _ => rfl

/-- wrong meta form (bare word, list): an error carrying the item's span -/
theorem word_rejected (sp : IntSpec) (inj : Int → α) (p : Path) :
    (numHooks sp inj).fromMeta (.path p) = .err (.leaf (.unexpectedFormat "word") [] (some p.span)) := rfl

theorem list_rejected (sp : IntSpec) (inj : Int → α) (p items ts t s) :
    (numHooks sp inj).fromMeta (.list p items none ts t s)
      = .err (.leaf (.unexpectedFormat "list") [] (some s)) := rfl

/-- through the item entry point, a name-value literal reaches `from_value` unchanged -/
theorem nameValue_routes (sp : IntSpec) (inj : Int → α) (p : Path) (l : Lit) (t : String) (s : Span) :
    (numHooks sp inj).fromMeta (.nameValue p (.lit l) t s) = numFromValue sp inj l := by
  show ((numFromValue sp inj l).mapErr (·.withSpan l.span)).mapErr (·.withSpan s) = _
  unfold numFromValue
  rw [Outcome.mapErr_withSpan_withSpan, Outcome.mapErr_withSpan_withSpan]

/-! ### bool, char, String -/
theorem bool_word (inj : Bool → α) (p : Path) : (boolHooks inj).fromMeta (.path p) = .ok (inj true) := rfl
theorem bool_lit (inj : Bool → α) (b : Bool) (t span) :
    (boolHooks inj).fromValue ⟨.bool b, t, span⟩ = .ok (inj b) := rfl
theorem bool_string (inj : Bool → α) (s t span) :
    (boolHooks inj).fromValue ⟨.str s, t, span⟩ =
      if s = "true" then .ok (inj true) else if s = "false" then .ok (inj false)
      else .err (.leaf (.unknownValue s) [] (some span)) := by
  show Outcome.mapErr _ (if _ then _ else if _ then _ else _) = _
  rw [apply_ite (Outcome.mapErr _), apply_ite (Outcome.mapErr _)]
  rfl
theorem char_lit (inj : Char → α) (c : Char) (t span) :
    (charHooks inj).fromValue ⟨.char c, t, span⟩ = .ok (inj c) := rfl
theorem char_one_char_string (inj : Char → α) (c : Char) (t span) :
    (charHooks inj).fromValue ⟨.str (String.singleton c), t, span⟩ = .ok (inj c) := by
  simp [Hooks.fromValue, charHooks, Hooks.fromValueD, Hooks.fromString, Outcome.mapErr, String.toList_singleton]
theorem string_lit (inj : String → α) (s t span) :
    (stringHooks inj).fromValue ⟨.str s, t, span⟩ = .ok (inj s) := rfl

/-! ### floats: dispatch only (std's parser is a parameter) -/
theorem float_quoted (parseF : String → Option Nat) (inj : Nat → α) (s t span) :
    floatFromValue parseF "invalid float literal" inj ⟨.str s, t, span⟩ =
      match parseF s with
      | some b => .ok (inj b)
      | none => .err (.leaf (.unknownValue s) [] (some span)) := by
  simp only [floatFromValue, floatFromString]
  cases parseF s <;> rfl

/-! ### boundary examples -/
def u8 : IntSpec := ⟨"u8", false, 8, false⟩
def i8 : IntSpec := ⟨"i8", true, 8, false⟩
def nz : IntSpec := ⟨"NonZeroI8", true, 8, true⟩
example : parseIntStd u8 "255" = .ok 255 := rfl
example : parseIntStd u8 "256" = .error .posOverflow := rfl
example : parseIntStd u8 "-0" = .error .invalidDigit := rfl
example : parseIntStd i8 "-128" = .ok (-128) := rfl
example : parseIntStd i8 "-129" = .error .negOverflow := rfl
example : parseIntStd nz "0" = .error .zero := rfl
example : parseIntStd i8 "+7" = .ok 7 := rfl
example : parseIntStd u8 "1_0" = .error .invalidDigit := rfl

end C11
