import Darling.Error
import Darling.Suggest
import Darling.Spec.C04
import Darling.Lemmas.Error
/-
  C04 — Error trees: count, flatten, location paths and rendering obey their algebra.

  Every theorem below holds for *all* error trees (any arity, any depth, any mix of kinds) and,
  through `Reachable`, for every history of public-API calls.  Nothing is bounded.
-/
open Spec.C04 Err

namespace C04

/-- every value obtainable from the public constructors and methods, in any interleaving -/
inductive Reachable : Err → Prop
  | new (k) : Reachable (Err.new k)
  | «at» {e} (l) : Reachable e → Reachable (e.at l)
  | withSpan {e} (s) : Reachable e → Reachable (e.withSpan s)
  | multiple {es e} : (∀ x ∈ es, Reachable x) → Err.multiple es = .ok e → Reachable e
  | flatten {e f} : Reachable e → e.flatten = .ok f → Reachable f
  | intoIter {e c} : Reachable e → c ∈ e.intoIter → Reachable c
  | siblingAlts {e} (thr scores) : Reachable e → Reachable (Suggest.addSiblingAlts thr scores e)
  -- `clone` is the identity on values

theorem Reachable.pair {a b : Err} (ha : Reachable a) (hb : Reachable b) :
    Reachable (.multi [a, b] [] none) :=
  .multiple (es := [a, b]) (List.forall_mem_cons.2 ⟨ha, List.forall_mem_singleton.2 hb⟩) rfl

theorem WF_at {e} (l : String) (h : WF e) : WF (e.at l) := by
  cases h with
  | leaf k ls s => exact WF.leaf ..
  | multi cs ls s h2 hall => exact WF.multi _ _ _ h2 hall

theorem WF_withSpan {e} (sp : Span) (h : WF e) : WF (e.withSpan sp) := by
  cases h with
  | leaf k ls s => cases s <;> exact WF.leaf ..
  | multi cs ls s h2 hall => cases s <;> exact WF.multi _ _ _ h2 hall

theorem multiple_one (e : Err) : Err.multiple [e] = .ok e := Err.multiple_singleton e

theorem multiple_empty_panics : (Err.multiple []).isPanic = true := rfl

theorem multiple_many (es : List Err) (h : 2 ≤ es.length) : Err.multiple es = .ok (.multi es [] none) := by
  cases es with
  | nil => exact absurd h (Nat.not_succ_le_zero 1)
  | cons x r =>
      cases r with
      | nil => exact absurd h (Nat.not_succ_le_self 1)
      | cons y r => rfl

theorem WF_multiple {es : List Err} {e : Err} (hall : ∀ x ∈ es, WF x) (h : Err.multiple es = .ok e) : WF e := by
  rcases multiple_cases h with rfl | ⟨h2, rfl⟩
  · exact hall e (List.mem_singleton_self e)
  · exact WF.multi _ _ _ h2 hall

theorem isLeaf_WF {e : Err} (h : e.isLeaf = true) : WF e := by
  cases e with
  | leaf k ls s => exact WF.leaf ..
  | multi cs ls s => cases h

theorem WF_flatten {e f : Err} (h : e.flatten = .ok f) : WF f :=
  WF_multiple (fun x hx => isLeaf_WF (intoVecP_allLeaf [] none e x hx)) h

theorem WF_intoIter {e c : Err} (h : WF e) (hc : c ∈ e.intoIter) : WF c := by
  cases h with
  | leaf k ls s => rw [List.mem_singleton.1 hc]; exact WF.leaf ..
  | multi cs ls s h2 hall => exact hall c hc

theorem siblingList_eq_map (thr scores) (cs : List Err) :
    Suggest.addSiblingAltsList thr scores cs = cs.map (Suggest.addSiblingAlts thr scores) := by
  induction cs with
  | nil => rfl
  | cons c cs ih => rw [Suggest.addSiblingAltsList, ih, List.map_cons]

theorem WF_siblingAlts (thr scores) {e} (h : WF e) : WF (Suggest.addSiblingAlts thr scores e) := by
  induction h with
  | leaf k ls s =>
      unfold Suggest.addSiblingAlts
      split
      · exact WF.leaf ..
      · split <;> exact WF.leaf ..
  | multi cs ls s h2 hall ih =>
      unfold Suggest.addSiblingAlts
      split
      · exact WF.multi _ _ _ h2 hall
      · rw [siblingList_eq_map]
        refine WF.multi _ _ _ (by rw [List.length_map]; exact h2) ?_
        intro x hx
        obtain ⟨c, hc, rfl⟩ := List.mem_map.1 hx
        exact ih c hc

/-- **Every error value a caller can ever hold is well formed**: no empty bundle, no bundle of
    one (a bundle of one *is* that one). -/
theorem reachable_WF {e} (h : Reachable e) : WF e := by
  induction h with
  | new k => exact WF.leaf ..
  | «at» l _ ih => exact WF_at l ih
  | withSpan s _ ih => exact WF_withSpan s ih
  | multiple _ hm ih => exact WF_multiple ih hm
  | flatten _ hf _ => exact WF_flatten hf
  | intoIter _ hc ih => exact WF_intoIter ih hc
  | siblingAlts thr scores _ ih => exact WF_siblingAlts thr scores ih

mutual
theorem len_eq_leavesUnder (anc : List String) (e : Err) : e.len = (leavesUnder anc e).length := by
  cases e with
  | leaf k ls s => rfl
  | multi cs ls s => exact lenList_eq_leavesListUnder _ cs
theorem lenList_eq_leavesListUnder (anc : List String) (es : List Err) :
    lenList es = (leavesListUnder anc es).length := by
  cases es with
  | nil => rfl
  | cons c cs =>
      rw [lenList_cons, leavesListUnder, List.length_append, len_eq_leavesUnder anc c,
        lenList_eq_leavesListUnder anc cs]
end

/-- the reported count equals the number of leaf errors -/
theorem len_eq_leaves (e : Err) : e.len = (leaves e).length := len_eq_leavesUnder [] e

/-- … and is at least 1 for every reachable value -/
theorem len_pos {e} (h : Reachable e) : 1 ≤ e.len := WF_len_pos (reachable_WF h)

/-- kind and path of a flattened element -/
def kp : Err → Kind × List String
  | .leaf k ls _ => (k, ls)
  | .multi _ ls _ => (.custom "<bundle>", ls)

theorem kp_inherit (k ls s sp) : kp ((Err.leaf k ls s).inheritSpan sp) = (k, ls) := by
  rw [inheritSpan_leaf_eq]; rfl

mutual
theorem intoVecP_kp (pre sp) (e : Err) :
    (intoVecP pre sp e).map kp = (leavesUnder pre e).map (fun d => (d.kind, d.path)) := by
  cases e with
  | leaf k ls s => exact congrArg ([·]) (kp_inherit k (pre ++ ls) s sp)
  | multi cs ls s => exact intoVecListP_kp _ _ cs
theorem intoVecListP_kp (pre sp) (es : List Err) :
    (intoVecListP pre sp es).map kp = (leavesListUnder pre es).map (fun d => (d.kind, d.path)) := by
  cases es with
  | nil => rfl
  | cons c cs =>
      rw [intoVecListP_cons, leavesListUnder, List.map_append, List.map_append,
        intoVecP_kp pre sp c, intoVecListP_kp pre sp cs]
end

theorem multiple_leaves {v : List Err} {f : Err} (hleaf : ∀ x ∈ v, x.isLeaf = true)
    (h : Err.multiple v = .ok f) : f.intoIter = v ∧ intoVec f = v := by
  rcases multiple_cases h with rfl | ⟨_, rfl⟩
  · have hf := hleaf f (List.mem_singleton_self f)
    cases f with
    | leaf k ls s => exact ⟨rfl, rfl⟩
    | multi _ _ _ => cases hf
  · exact ⟨rfl, intoVecListP_leaves_id v hleaf⟩

theorem flatten_ok {e f : Err} (hf : e.flatten = .ok f) :
    f.intoIter = intoVec e ∧ intoVec f = intoVec e :=
  multiple_leaves (intoVecP_allLeaf [] none e) hf

/-- flattening never fails on a reachable value and its items are exactly the leaves, left to
    right, each one a leaf carrying all its ancestors' locations followed by its own -/
theorem flatten_spec {e} (h : Reachable e) :
    ∃ f, e.flatten = .ok f
      ∧ (∀ x ∈ f.intoIter, x.isLeaf = true)
      ∧ f.intoIter.map kp = (leaves e).map (fun d => (d.kind, d.path)) := by
  have hpos : 1 ≤ (intoVec e).length := by rw [intoVec, intoVecP_length]; exact len_pos h
  obtain ⟨f, hf⟩ := multiple_ok (List.ne_nil_of_length_pos hpos)
  refine ⟨f, hf, ?_, ?_⟩
  · rw [(flatten_ok hf).1]; exact intoVecP_allLeaf [] none e
  · rw [(flatten_ok hf).1]; exact intoVecP_kp [] none e

/-- flattening twice equals flattening once -/
theorem flatten_idem {e f : Err} (hf : e.flatten = .ok f) : f.flatten = .ok f := by
  rw [Err.flatten, (flatten_ok hf).2]; exact hf

/-- flattening preserves the count -/
theorem flatten_len {e f : Err} (hf : e.flatten = .ok f) : f.len = e.len := by
  rw [← intoVecP_length [] none f, ← intoVecP_length [] none e]
  exact congrArg List.length (flatten_ok hf).2

mutual
theorem leavesUnder_cons (l : String) (anc : List String) (e : Err) :
    leavesUnder (l :: anc) e = (leavesUnder anc e).map (fun d => { d with path := l :: d.path }) := by
  cases e with
  | leaf k ls s => rfl
  | multi cs ls s => exact leavesListUnder_cons l _ cs
theorem leavesListUnder_cons (l : String) (anc : List String) (es : List Err) :
    leavesListUnder (l :: anc) es = (leavesListUnder anc es).map (fun d => { d with path := l :: d.path }) := by
  cases es with
  | nil => rfl
  | cons c cs =>
      rw [leavesListUnder, leavesListUnder, List.map_append, leavesUnder_cons l anc c,
        leavesListUnder_cons l anc cs]
end

/-- `at` puts the new location in front of every leaf's path -/
theorem at_leaves (e : Err) (l : String) :
    leaves (e.at l) = (leaves e).map (fun d => { d with path := l :: d.path }) := by
  cases e with
  | leaf k ls s => rfl
  | multi cs ls s => exact leavesListUnder_cons l ls cs

/-- `with_span` changes no kind or path -/
theorem withSpan_kp (e : Err) (s : Span) :
    (leaves (e.withSpan s)).map (fun d => (d.kind, d.path)) = (leaves e).map (fun d => (d.kind, d.path)) := by
  cases e with
  | leaf k ls sp => cases sp <;> rfl
  | multi cs ls sp => cases sp <;> rfl

/-- Display of a leaf: the kind-specific message, then ` at a/b/c` when a path exists -/
theorem display_leaf (k ls s) : (Err.leaf k ls s).display = render k ls := by
  rw [Err.display]; rfl

/-- … hence every item of a flattened error renders as its kind's message followed by the full
    outer-to-inner path -/
theorem display_flattened (x : Err) (hx : x.isLeaf = true) : x.display = render (kp x).1 (kp x).2 := by
  cases x with
  | leaf k ls s => exact display_leaf k ls s
  | multi _ _ _ => cases hx

theorem WF_len_one_isLeaf {e : Err} (h : WF e) : e.len = 1 → e.isLeaf = true := by
  intro h1
  cases e with
  | leaf k ls s => rfl
  | multi cs ls s => have := WF_multi_len h; omega

/-- `From<Error> for syn::Error` takes the whole value as one diagnostic when it counts one error;
    for a leaf that is also what its flattening gives -/
theorem toSyn_eq_map {e : Err} (h : e.len = 1 → e.isLeaf = true) :
    e.toSyn = (intoVec e).map synRow := by
  by_cases h1 : e.len = 1
  · rw [Err.toSyn, if_pos h1]
    cases e with
    | leaf k ls s => rfl
    | multi cs ls s => cases h h1
  · rw [Err.toSyn, if_neg h1]

/-- one diagnostic per leaf, in leaf order, built from the flattened leaves -/
theorem toSyn_rows {e} (h : Reachable e) : e.toSyn = (intoVec e).map synRow :=
  toSyn_eq_map (WF_len_one_isLeaf (reachable_WF h))

theorem toSyn_length {e} (h : Reachable e) : e.toSyn.length = e.len := by
  rw [toSyn_rows h, List.length_map]; exact intoVecP_length [] none e

/-- the message of each diagnostic is the leaf's message: the bare kind message when the
    diagnostic is placed at the leaf's span, the full rendering (with path) otherwise -/
theorem synRow_leaf (k ls s) :
    synRow (Err.leaf k ls s) = match s with
      | some sp => (some sp, k.msg)
      | none => (none, render k ls) := by
  cases s with
  | none => exact congrArg (Prod.mk none) (display_leaf k ls none)
  | some sp => rfl

/-- `into_iter` is one level -/
theorem intoIter_leaf (k ls s) : (Err.leaf k ls s).intoIter = [Err.leaf k ls s] := rfl
theorem intoIter_multi (cs ls s) : (Err.multi cs ls s).intoIter = cs := rfl

/-- non-vacuity: a reachable depth-3 tree -/
def ex1 : Err := .multi [.leaf (.custom "a") ["x"] none,
                          .multi [.leaf (.missingField "f") [] none, .leaf (.tooFewItems 1) ["q"] none] ["m"] none] ["top"] none

example : Reachable ex1 :=
  .at "top" (.pair (.at "x" (.new _)) (.at "m" (.pair (.new _) (.at "q" (.new _)))))

example : ex1.len = 3 := by decide
example : (leaves ex1).map (·.path) = [["top", "x"], ["top", "m"], ["top", "m", "q"]] := by rfl

end C04
