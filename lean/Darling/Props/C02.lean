import Darling.Lemmas.Struct
import Darling.Lemmas.Error
import Darling.Spec.C02
/-
  C02 — Every mistake in the input is reported, exactly once, in a single pass  (struct receivers).
  C01 — … and a mistake-free input yields exactly the declared field mapping.

  For every receiver (any number of fields, any options, any converters — nested receivers,
  maps, enums are converters) and every item list (any length, any number of mistakes).
-/
open Derive Spec.C02

namespace C02
variable {ν : Type}

/-- what Rust and the harness guarantee about a receiver: field identifiers are distinct, and the
    external functions (converters of the field types) return instead of panicking -/
structure WF (r : SStruct ν) : Prop where
  identInj : ∀ f ∈ r.fields, ∀ g ∈ r.fields, f.ident = g.ident → f = g
  convNoPanic : ∀ f ∈ r.fields, ∀ m msg, f.conv m ≠ .panic msg
  listNoPanic : ∀ f ∈ r.fields, ∀ items msg, f.fromList items ≠ .panic msg

/-- the local of field `f` after the items `pre` — positionally -/
def specSlot (r : SStruct ν) (pre : List NestedMeta) (f : SField ν) : Slot ν :=
  if f.multiple then { many := successes r f pre, occ := occurrences r f pre }
  else { seen := pre.any (selects r f), val := firstValue r f pre }

structure Inv (r : SStruct ν) (pre : List NestedMeta) (st : PState ν) : Prop where
  slots : ∀ f ∈ r.fields, st.slot f.ident = specSlot r pre f
  flat : st.flat = buffered r pre
  errs : st.errs = loopMistakes r [] pre

theorem loopMistakes_append (r : SStruct ν) (e xs ys : List NestedMeta) :
    loopMistakes r e (xs ++ ys) = loopMistakes r e xs ++ loopMistakes r (e ++ xs) ys := by
  induction xs generalizing e with
  | nil => simp [loopMistakes]
  | cons x xs ih => simp [loopMistakes, ih, List.append_assoc]

theorem selects_of_arm (r : SStruct ν) (m : Meta) (f : SField ν) (h : r.arm m.path'.toStr = some f) :
    selects r f (.item m) = true := by
  simp [selects, h]

theorem selects_other (r : SStruct ν) (hwf : WF r) (m : Meta) (f g : SField ν)
    (h : r.arm m.path'.toStr = some f) (hg : g ∈ r.fields) (hne : g ≠ f) :
    selects r g (.item m) = false := by
  simp only [selects, h]
  have hf := (SStruct.arm_some h).1
  cases hb : (f.ident == g.ident) with
  | false => rfl
  | true =>
      have : f.ident = g.ident := by simpa using hb
      exact absurd (hwf.identInj g hg f hf this.symm) hne

theorem selects_none (r : SStruct ν) (m : Meta) (g : SField ν) (h : r.arm m.path'.toStr = none) :
    selects r g (.item m) = false := by
  simp [selects, h]

theorem specSlot_snoc_unselected (r : SStruct ν) (pre : List NestedMeta) (it : NestedMeta) (g : SField ν)
    (h : selects r g it = false) : specSlot r (pre ++ [it]) g = specSlot r pre g := by
  have hs : successes r g [it] = [] := by
    cases it with
    | lit l => rfl
    | item m => simp only [successes, List.filterMap_cons, h, Bool.false_eq_true, if_false, List.filterMap_nil]
  have hf : List.find? (selects r g) [it] = none := by rw [List.find?_cons, h]; rfl
  have ho : List.filter (selects r g) [it] = [] := by rw [List.filter_cons, h]; rfl
  have ha : List.any [it] (selects r g) = false := by rw [List.any_cons, h]; rfl
  unfold specSlot successes occurrences firstValue at *
  rw [List.filterMap_append, hs, List.filter_append, ho, List.any_append, ha, List.find?_append, hf]
  simp only [List.append_nil, Bool.or_false, Option.or_none]

theorem set_slot_self (st : PState ν) (i : String) (s : Slot ν) : (st.set i s).slot i = s := by
  simp [PState.set]

theorem set_slot_other (st : PState ν) (i j : String) (s : Slot ν) (h : j ≠ i) : (st.set i s).slot j = st.slot j := by
  simp [PState.set, h]

theorem buffered_snoc (r : SStruct ν) (pre : List NestedMeta) (it : NestedMeta) :
    buffered r (pre ++ [it]) = buffered r pre ++ (if r.hasFlatten && unclaimed r it then [it] else []) := by
  unfold buffered
  cases r.hasFlatten with
  | false => simp
  | true => cases h : unclaimed r it <;> simp [List.filter_append, List.filter, h]

/-- the slots of all fields other than `f` are untouched by an item that selects `f` -/
theorem others_kept (r : SStruct ν) (hwf : WF r) (pre : List NestedMeta) (st : PState ν) (m : Meta)
    (f : SField ν) (harm : r.arm m.path'.toStr = some f) (s' : Slot ν)
    (hinv : ∀ g ∈ r.fields, st.slot g.ident = specSlot r pre g)
    (hself : s' = specSlot r (pre ++ [.item m]) f) :
    ∀ g ∈ r.fields, (st.set f.ident s').slot g.ident = specSlot r (pre ++ [.item m]) g := by
  intro g hg
  by_cases hgf : g = f
  · subst hgf; rw [set_slot_self]; exact hself
  · have hid : g.ident ≠ f.ident := by
      intro h
      exact hgf (hwf.identInj g hg f (SStruct.arm_some harm).1 h)
    rw [set_slot_other _ _ _ _ hid, specSlot_snoc_unselected r pre _ g (selects_other r hwf m f g harm hg hgf)]
    exact hinv g hg

theorem step_inv (r : SStruct ν) (hwf : WF r) (pre : List NestedMeta) (st : PState ν) (it : NestedMeta)
    (hslots : ∀ f ∈ r.fields, st.slot f.ident = specSlot r pre f) (hflat : st.flat = buffered r pre) :
    ∃ st', stepItem r st it = .ok st' ∧ (∀ f ∈ r.fields, st'.slot f.ident = specSlot r (pre ++ [it]) f) ∧
      st'.flat = buffered r (pre ++ [it]) ∧ st'.errs = st.errs ++ itemMistakes r pre it := by
  cases it with
  | lit l =>
      refine ⟨st.push ((Err.unsupportedFormat "literal").withSpan l.span), rfl, ?_, ?_, ?_⟩
      · intro g hg
        rw [specSlot_snoc_unselected r pre _ g (by simp [selects])]
        exact hslots g hg
      · rw [buffered_snoc]; simp [unclaimed, PState.push, hflat]
      · simp [PState.push, itemMistakes]
  | item m =>
      simp only [stepItem]
      cases harm : r.arm m.path'.toStr with
      | none =>
          have hsel : ∀ g, selects r g (.item m) = false := fun g => selects_none r m g harm
          have hun : unclaimed r (.item m) = true := by simp [unclaimed, harm]
          simp only
          cases hfl : r.hasFlatten with
          | true =>
              refine ⟨{ st with flat := st.flat ++ [.item m] }, by simp, ?_, ?_, ?_⟩
              · intro g hg; rw [specSlot_snoc_unselected r pre _ g (hsel g)]; exact hslots g hg
              · rw [buffered_snoc]; simp [hfl, hun, hflat]
              · simp [itemMistakes, harm, hfl]
          | false =>
              cases hau : r.allowUnknown with
              | true =>
                  refine ⟨st, by simp, ?_, ?_, ?_⟩
                  · intro g hg; rw [specSlot_snoc_unselected r pre _ g (hsel g)]; exact hslots g hg
                  · rw [buffered_snoc]; simp [hfl, hflat]
                  · simp [itemMistakes, harm, hfl, hau]
              | false =>
                  refine ⟨st.push ((r.unknownErr m.path'.toStr).withSpan m.span), by simp, ?_, ?_, ?_⟩
                  · intro g hg; rw [specSlot_snoc_unselected r pre _ g (hsel g)]; exact hslots g hg
                  · rw [buffered_snoc]; simp [hfl, PState.push, hflat]
                  · simp [PState.push, itemMistakes, harm, hfl, hau]
      | some f =>
          obtain ⟨hfm, _, _, _⟩ := SStruct.arm_some harm
          have hslot := hslots f hfm
          have hselm : selects r f (.item m) = true := selects_of_arm r m f harm
          have hbuf : buffered r (pre ++ [.item m]) = buffered r pre := by
            rw [buffered_snoc]; simp [unclaimed, harm]
          simp only
          cases hmul : f.multiple with
          | true =>
              have hspec : specSlot r pre f = { many := successes r f pre, occ := occurrences r f pre } := by
                simp [specSlot, hmul]
              have hocc : occurrences r f (pre ++ [.item m]) = occurrences r f pre + 1 := by
                simp [occurrences, List.filter_append, List.filter, hselm]
              have hsucc : successes r f (pre ++ [.item m]) =
                  successes r f pre ++ (match f.conv m with | .ok v => [v] | _ => []) := by
                unfold successes
                rw [List.filterMap_append]
                simp only [List.filterMap_cons, hselm, if_true, List.filterMap_nil]
                cases f.conv m <;> rfl
              simp only [if_true]
              cases hc : f.conv m with
              | panic p => exact absurd hc (hwf.convNoPanic f hfm m p)
              | ok v =>
                  refine ⟨_, rfl, ?_, ?_, ?_⟩
                  · apply others_kept r hwf pre st m f harm _ hslots
                    simp [specSlot, hmul, hsucc, hc, hocc, hslot]
                  · simp [PState.set, hbuf, hflat]
                  · simp [PState.set, itemMistakes, harm, hmul, hc]
              | err e =>
                  refine ⟨_, rfl, ?_, ?_, ?_⟩
                  · intro g hg
                    simp only [PState.push]
                    apply others_kept r hwf pre st m f harm _ hslots _ g hg
                    simp [specSlot, hmul, hsucc, hc, hocc, hslot]
                  · simp [PState.push, PState.set, hbuf, hflat]
                  · simp [PState.push, PState.set, itemMistakes, harm, hmul, hc, hslot, hspec]
          | false =>
              have hspec : specSlot r pre f = { seen := pre.any (selects r f), val := firstValue r f pre } := by
                simp [specSlot, hmul]
              simp only [Bool.false_eq_true, if_false]
              rw [hslot, hspec]
              simp only
              cases hseen : pre.any (selects r f) with
              | true =>
                  -- a repeat: reported, nothing else changes
                  refine ⟨st.push ((Err.new (.duplicateField f.name)).withSpan m.span), by simp, ?_, ?_, ?_⟩
                  · intro g hg
                    simp only [PState.push]
                    by_cases hgf : g = f
                    · subst hgf
                      rw [hslots g hg]
                      have : firstValue r g (pre ++ [.item m]) = firstValue r g pre := by
                        unfold firstValue; rw [List.find?_append]
                        obtain ⟨x, hx, hxs⟩ := List.any_eq_true.mp hseen
                        cases hfd : pre.find? (selects r g) with
                        | some y => simp
                        | none => exact absurd hxs (by simpa using List.find?_eq_none.mp hfd x hx)
                      simp [specSlot, hmul, List.any_append, hseen, this]
                    · rw [specSlot_snoc_unselected r pre _ g (selects_other r hwf m f g harm hg hgf)]
                      exact hslots g hg
                  · simp [PState.push, hbuf, hflat]
                  · simp [PState.push, itemMistakes, harm, hmul, hseen]
              | false =>
                  have hnone : pre.find? (selects r f) = none := by
                    rw [List.find?_eq_none]; intro x hx
                    have := List.any_eq_false.mp hseen x hx
                    simpa using this
                  have hfirst : (pre ++ [NestedMeta.item m]).find? (selects r f) = some (.item m) := by
                    rw [List.find?_append, hnone]
                    simp [List.find?, hselm]
                  simp only [Bool.not_false, if_true]
                  cases hc : f.conv m with
                  | panic p => exact absurd hc (hwf.convNoPanic f hfm m p)
                  | ok v =>
                      refine ⟨_, rfl, ?_, ?_, ?_⟩
                      · apply others_kept r hwf pre st m f harm _ hslots
                        simp [specSlot, hmul, List.any_append, hselm, firstValue, hfirst, hc]
                      · simp [PState.set, hbuf, hflat]
                      · simp [PState.set, itemMistakes, harm, hmul, hseen, hc]
                  | err e =>
                      refine ⟨_, rfl, ?_, ?_, ?_⟩
                      · intro g hg
                        simp only [PState.push]
                        apply others_kept r hwf pre st m f harm _ hslots _ g hg
                        simp [specSlot, hmul, List.any_append, hselm, firstValue, hfirst, hc]
                      · simp [PState.push, PState.set, hbuf, hflat]
                      · simp [PState.push, PState.set, itemMistakes, harm, hmul, hseen, hc]

theorem coreLoop_from (r : SStruct ν) (hwf : WF r) :
    ∀ (rest pre : List NestedMeta) (st : PState ν),
      (∀ f ∈ r.fields, st.slot f.ident = specSlot r pre f) → st.flat = buffered r pre →
      ∃ st', coreLoop r st rest = .ok st' ∧ (∀ f ∈ r.fields, st'.slot f.ident = specSlot r (pre ++ rest) f) ∧
        st'.flat = buffered r (pre ++ rest) ∧ st'.errs = st.errs ++ loopMistakes r pre rest := by
  intro rest
  induction rest with
  | nil =>
      intro pre st hs hf
      rw [List.append_nil]
      exact ⟨st, rfl, hs, hf, (List.append_nil _).symm⟩
  | cons it rest ih =>
      intro pre st hs hf
      obtain ⟨st1, hs1, h1s, h1f, h1e⟩ := step_inv r hwf pre st it hs hf
      obtain ⟨st2, hl, h2s, h2f, h2e⟩ := ih (pre ++ [it]) st1 h1s h1f
      rw [List.append_assoc] at h2s h2f
      exact ⟨st2, (coreLoop_cons_ok hs1 rest).trans hl, h2s, h2f, by rw [h2e, h1e, List.append_assoc]; rfl⟩

theorem coreLoop_inv (r : SStruct ν) (hwf : WF r) :
    ∀ (rest pre : List NestedMeta) (st : PState ν), Inv r pre st →
      ∃ st', coreLoop r st rest = .ok st' ∧ Inv r (pre ++ rest) st' := by
  intro rest pre st h
  obtain ⟨st', hl, hs, hf, he⟩ := coreLoop_from r hwf rest pre st h.slots h.flat
  refine ⟨st', hl, hs, hf, ?_⟩
  rw [he, h.errs, loopMistakes_append, List.nil_append]

theorem inv_init (r : SStruct ν) : Inv r [] ({} : PState ν) := by
  refine ⟨?_, ?_, ?_⟩
  · intro f _; simp [specSlot, successes, occurrences, firstValue]
  · simp [buffered]
  · simp [loopMistakes]

/-- after the attribute walk: every local holds exactly what the items say, the flatten buffer
    holds exactly the unclaimed items in order, and the accumulator holds exactly the item-level
    mistakes in order -/
theorem coreLoop_spec (r : SStruct ν) (hwf : WF r) (items : List NestedMeta) :
    ∃ st, coreLoop r {} items = .ok st ∧ Inv r items st := by
  obtain ⟨st, h1, h2⟩ := coreLoop_inv r hwf items [] {} (inv_init r)
  exact ⟨st, h1, by simpa using h2⟩

/-! ## after the walk: flatten hand-off, presence check, error check, initialisers -/
open Spec.C01

/-- field identifiers are pairwise distinct (as a list property, for the per-field passes) -/
def Distinct (r : SStruct ν) : Prop := r.fields.Pairwise (fun f g => f.ident ≠ g.ident)

/-- the locals after the flatten hand-off -/
def slotAfterFlatten (r : SStruct ν) (items : List NestedMeta) (f : SField ν) : Slot ν :=
  if isFirstFlatten r f then { seen := true, val := flattenValue r items } else specSlot r items f

theorem isFirstFlatten_iff (r : SStruct ν) (hwf : WF r) (ff f : SField ν) (hff : r.fields.find? (·.flatten) = some ff)
    (hf : f ∈ r.fields) : isFirstFlatten r f = true ↔ f = ff := by
  simp only [isFirstFlatten, hff]
  constructor
  · intro h
    have : ff.ident = f.ident := by simpa using h
    exact (hwf.identInj ff (List.mem_of_find?_eq_some hff) f hf this).symm
  · intro h; subst h; simp

theorem flattenResult_no_panic (r : SStruct ν) (hwf : WF r) (ff : SField ν) (hff : ff ∈ r.fields)
    (items : List NestedMeta) (p : String) : flattenResult r ff items ≠ .panic p := by
  intro hr
  simp only [flattenResult] at hr
  split at hr
  · exact hwf.listNoPanic ff hff _ p hr
  · cases hl : ff.fromList (buffered r items) with
    | panic q => exact hwf.listNoPanic ff hff _ q hl
    | ok v => rw [hl] at hr; cases hr
    | err e => rw [hl] at hr; cases hr

theorem flattenResult_eq (r : SStruct ν) (ff : SField ν) (items : List NestedMeta) :
    flattenResult r ff items = (ff.fromList (buffered r items)).mapErr (lifted r) := by
  unfold flattenResult lifted
  cases ff.fromList (buffered r items) <;> cases r.names.isEmpty <;> rfl

theorem flattenInit_spec (r : SStruct ν) (hwf : WF r) (items : List NestedMeta) (st : PState ν) (hinv : Inv r items st) :
    ∃ st', flattenInit r st = .ok st'
      ∧ (∀ f ∈ r.fields, st'.slot f.ident = slotAfterFlatten r items f)
      ∧ st'.errs = loopMistakes r [] items ++ flattenMistakes r items := by
  cases hff : r.fields.find? (·.flatten) with
  | none =>
      refine ⟨st, flattenInit_none hff st, ?_, ?_⟩
      · intro f hf; simp [slotAfterFlatten, isFirstFlatten, hff]; exact hinv.slots f hf
      · simp [flattenMistakes, hff, hinv.errs]
  | some ff =>
      have hffm := List.mem_of_find?_eq_some hff
      rw [flattenInit_some hff, hinv.flat, ← flattenResult_eq]
      have others : ∀ (s' : Slot ν) (st0 : PState ν), (∀ g ∈ r.fields, st0.slot g.ident = st.slot g.ident) →
          s' = { seen := true, val := flattenValue r items } →
          ∀ f ∈ r.fields, ((st0.set ff.ident s')).slot f.ident = slotAfterFlatten r items f := by
        intro s' st0 h0 hs f hf
        by_cases hfe : f = ff
        · subst hfe
          rw [set_slot_self]
          simp [slotAfterFlatten, (isFirstFlatten_iff r hwf f f hff hf).mpr rfl, hs]
        · have hid : f.ident ≠ ff.ident := fun h => hfe (hwf.identInj f hf ff hffm h)
          rw [set_slot_other _ _ _ _ hid, h0 f hf]
          have : isFirstFlatten r f = false := by
            cases hb : isFirstFlatten r f with
            | false => rfl
            | true => exact absurd ((isFirstFlatten_iff r hwf ff f hff hf).mp hb) hfe
          simp [slotAfterFlatten, this]; exact hinv.slots f hf
      cases hr : flattenResult r ff items with
      | panic p => exact absurd hr (flattenResult_no_panic r hwf ff hffm items p)
      | ok v =>
          refine ⟨_, rfl, ?_, ?_⟩
          · exact others _ st (fun _ _ => rfl) (by simp [flattenValue, hff, hr])
          · simp [PState.set, flattenMistakes, hff, hr, hinv.errs]
      | err e =>
          refine ⟨_, rfl, ?_, ?_⟩
          · intro f hf
            simp only [PState.push]
            exact others _ st (fun _ _ => rfl) (by simp [flattenValue, hff, hr]) f hf
          · simp [PState.push, PState.set, flattenMistakes, hff, hr, hinv.errs]

/-- the presence check of one field, as a function of that field's own local -/
def missingOf (f : SField ν) (s : Slot ν) : List Err :=
  if !f.multiple && f.dflt.isNone && !s.seen && f.fromNone.isNone then [Err.new (.missingField f.name)] else []

def slotAfterCheck (f : SField ν) (s : Slot ν) : Slot ν :=
  if !f.multiple && f.dflt.isNone && !s.seen then
    match f.fromNone with
    | some v => { s with val := some v }
    | none => s
  else s

theorem checkOne_spec (f : SField ν) (st : PState ν) :
    (checkOne f st).errs = st.errs ++ missingOf f (st.slot f.ident)
      ∧ (checkOne f st).slot f.ident = slotAfterCheck f (st.slot f.ident)
      ∧ (∀ i, i ≠ f.ident → (checkOne f st).slot i = st.slot i) := by
  unfold missingOf slotAfterCheck checkOne
  dsimp only
  cases (!f.multiple && f.dflt.isNone) with
  | false => exact ⟨(List.append_nil _).symm, rfl, fun _ _ => rfl⟩
  | true =>
      cases (st.slot f.ident).seen with
      | true => exact ⟨(List.append_nil _).symm, rfl, fun _ _ => rfl⟩
      | false =>
          cases f.fromNone with
          | none => exact ⟨rfl, rfl, fun _ _ => rfl⟩
          | some v => exact ⟨(List.append_nil _).symm, set_slot_self .., fun i hi => set_slot_other _ _ _ _ hi⟩

theorem checkMissing_spec (fs : List (SField ν)) (hd : fs.Pairwise (fun f g => f.ident ≠ g.ident)) (st : PState ν) :
    (checkMissing fs st).errs = st.errs ++ fs.flatMap (fun f => missingOf f (st.slot f.ident))
      ∧ (∀ f ∈ fs, (checkMissing fs st).slot f.ident = slotAfterCheck f (st.slot f.ident))
      ∧ (∀ i, (∀ f ∈ fs, f.ident ≠ i) → (checkMissing fs st).slot i = st.slot i) := by
  induction fs generalizing st with
  | nil => exact ⟨(List.append_nil _).symm, fun _ h => (nomatch h), fun _ _ => rfl⟩
  | cons f fs ih =>
      obtain ⟨hne, hrest⟩ := List.pairwise_cons.mp hd
      obtain ⟨h1errs, h1self, h1other⟩ := checkOne_spec f st
      obtain ⟨ihe, ihs, iho⟩ := ih hrest (checkOne f st)
      have hlater : ∀ g ∈ fs, (checkOne f st).slot g.ident = st.slot g.ident :=
        fun g hg => h1other g.ident (fun h => hne g hg h.symm)
      rw [checkMissing_cons]
      refine ⟨?_, ?_, ?_⟩
      · rw [ihe, h1errs, List.flatMap_cons, List.append_assoc,
          List.flatMap_congr_mem (fun g hg => by rw [hlater g hg])]
      · intro g hg
        rcases List.mem_cons.mp hg with rfl | hg
        · rw [iho g.ident (fun x hx h => hne x hx h.symm), h1self]
        · rw [ihs g hg, hlater g hg]
      · intro i hi
        rw [iho i (fun g hg => hi g (List.mem_cons_of_mem f hg)), h1other i (fun h => hi f List.mem_cons_self h.symm)]

/-- a field that has no match arm is never selected -/
theorem not_selected_of_no_arm (r : SStruct ν) (hwf : WF r) (f : SField ν) (hf : f ∈ r.fields)
    (h : f.skip = true ∨ f.flatten = true) (it : NestedMeta) : selects r f it = false := by
  cases it with
  | lit _ => rfl
  | item m =>
      simp only [selects]
      cases harm : r.arm m.path'.toStr with
      | none => rfl
      | some g =>
          obtain ⟨hg, hs, hfl, _⟩ := SStruct.arm_some harm
          cases hb : (g.ident == f.ident) with
          | false => simp [hb]
          | true =>
              have : g = f := hwf.identInj g hg f hf (by simpa using hb)
              subst this
              rcases h with h | h
              · rw [hs] at h; cases h
              · rw [hfl] at h; cases h

theorem first_flatten_is_flatten (r : SStruct ν) (hwf : WF r) (f : SField ν) (hf : f ∈ r.fields)
    (h : isFirstFlatten r f = true) : f.flatten = true := by
  unfold isFirstFlatten at h
  cases hff : r.fields.find? (·.flatten) with
  | none => simp [hff] at h
  | some ff =>
      have := (isFirstFlatten_iff r hwf ff f hff hf).mp (by simp [isFirstFlatten, hff] at h ⊢; exact h)
      subst this
      simpa using List.find?_some hff

theorem seen_after_flatten (r : SStruct ν) (items : List NestedMeta) (f : SField ν) (hm : f.multiple = false) :
    (slotAfterFlatten r items f).seen = (items.any (selects r f) || isFirstFlatten r f) := by
  unfold slotAfterFlatten
  cases hb : isFirstFlatten r f with
  | true => simp
  | false => simp [specSlot, hm]

theorem missing_eq (r : SStruct ν) (items : List NestedMeta) :
    r.fields.flatMap (fun f => missingOf f (slotAfterFlatten r items f)) = missing r items := by
  unfold missing
  rw [← List.flatMap_ite_eq_filterMap]
  refine List.flatMap_congr_mem (fun f _ => ?_)
  unfold missingOf
  cases hm : f.multiple with
  | true => rfl
  | false => rw [seen_after_flatten r items f hm, Bool.not_or, ← Bool.and_assoc]

/-- the state in which errors are checked -/
theorem before_check (r : SStruct ν) (hwf : WF r) (hd : Distinct r) (items : List NestedMeta) :
    ∃ st0 st1, coreLoop r {} items = .ok st0 ∧ flattenInit r st0 = .ok st1
      ∧ (checkMissing r.fields st1).errs = mistakes r items
      ∧ (∀ f ∈ r.fields, (checkMissing r.fields st1).slot f.ident = slotAfterCheck f (slotAfterFlatten r items f)) := by
  obtain ⟨st0, h0, hinv⟩ := coreLoop_spec r hwf items
  obtain ⟨st1, h1, hs1, he1⟩ := flattenInit_spec r hwf items st0 hinv
  obtain ⟨hce, hcs, _⟩ := checkMissing_spec r.fields hd st1
  refine ⟨st0, st1, h0, h1, ?_, fun f hf => by rw [hcs f hf, hs1 f hf]⟩
  rw [hce, he1, List.flatMap_congr_mem (fun f hf => by rw [hs1 f hf]), missing_eq]
  rfl

/-- **C02** (struct receivers).  When the input contains a mistake, the result is the bundle of
    exactly the mistakes — none dropped, none doubled, none invented — in the order: item mistakes
    (item order), the flatten member's verdict, absent required fields (declaration order).
    `fromList_spec` adds the mistake-free case. -/
theorem fromList_reports_exactly_the_mistakes (r : SStruct ν) (hwf : WF r) (hd : Distinct r) (items : List NestedMeta)
    (hne : mistakes r items ≠ []) :
    fromList r items = Err.bundleErr (mistakes r items) := by
  obtain ⟨st0, st1, h0, h1, herrs, _⟩ := before_check r hwf hd items
  rw [fromList_of_loop_ok h0]
  cases hm : mistakes r items with
  | nil => exact absurd hm hne
  | cons e es => exact finishStruct_errs (flattenHere := true) h1 (herrs.trans hm) none

theorem fails_when_mistaken (r : SStruct ν) (hwf : WF r) (hd : Distinct r) (items : List NestedMeta)
    (hne : mistakes r items ≠ []) : ∃ e, fromList r items = .err e := by
  rw [fromList_reports_exactly_the_mistakes r hwf hd items hne]
  match hm : mistakes r items with
  | [] => exact absurd hm hne
  | [x] => exact ⟨x, rfl⟩
  | x :: y :: rest => exact ⟨_, rfl⟩

/-! ## the mistake-free direction: exactly the declared mapping (C01) -/

theorem mistakes_nil (r : SStruct ν) (items : List NestedMeta) (h : mistakes r items = []) :
    loopMistakes r [] items = [] ∧ flattenMistakes r items = [] ∧ missing r items = [] := by
  unfold mistakes at h
  simp only [List.append_eq_nil_iff] at h
  exact ⟨h.1.1, h.1.2, h.2⟩

theorem supplied_value (r : SStruct ν) (hwf : WF r) (items : List NestedMeta) (hl : loopMistakes r [] items = [])
    (f : SField ν) (hf : f ∈ r.fields) (hm : f.multiple = false) (hany : items.any (selects r f) = true) :
    ∃ v, firstValue r f items = some v := by
  obtain ⟨x, hx, hsx⟩ := List.any_eq_true.mp hany
  cases hfd : items.find? (selects r f) with
  | none => exact absurd hsx (by simpa using List.find?_eq_none.mp hfd x hx)
  | some b =>
      obtain ⟨hpb, as, bs, hsplit, hnone⟩ := List.find?_eq_some_iff_append.mp hfd
      have hitem : itemMistakes r as b = [] := by
        rw [hsplit, loopMistakes_append] at hl
        simp only [loopMistakes, List.nil_append, List.append_eq_nil_iff] at hl
        exact hl.2.1
      cases b with
      | lit l => simp [selects] at hpb
      | item m =>
          simp only [selects] at hpb
          cases harm : r.arm m.path'.toStr with
          | none => simp [harm] at hpb
          | some g =>
              have hg := (SStruct.arm_some harm).1
              have hgf : g = f := hwf.identInj g hg f hf (by simpa [harm] using hpb)
              subst hgf
              have hanyas : as.any (selects r g) = false := by
                rw [List.any_eq_false]; intro a ha; simpa using hnone a ha
              simp only [itemMistakes, harm, hm, hanyas, Bool.false_eq_true, if_false] at hitem
              cases hc : g.conv m with
              | panic p => exact absurd hc (hwf.convNoPanic g hf m p)
              | err e => simp [hc] at hitem
              | ok v => exact ⟨v, by simp [firstValue, hfd, hc]⟩

theorem flatten_value (r : SStruct ν) (hwf : WF r) (items : List NestedMeta) (hfm : flattenMistakes r items = [])
    (ff : SField ν) (hff : r.fields.find? (·.flatten) = some ff) : ∃ v, flattenValue r items = some v := by
  have hffm := List.mem_of_find?_eq_some hff
  simp only [flattenMistakes, hff] at hfm
  simp only [flattenValue, hff]
  cases hr : flattenResult r ff items with
  | ok v => exact ⟨v, rfl⟩
  | err e => simp [hr] at hfm
  | panic p => exact absurd hr (flattenResult_no_panic r hwf ff hffm items p)

theorem absent_has_fallback (r : SStruct ν) (items : List NestedMeta) (hmiss : missing r items = [])
    (f : SField ν) (hf : f ∈ r.fields) (hm : f.multiple = false) (hd : f.dflt = none)
    (hany : items.any (selects r f) = false) (hff : isFirstFlatten r f = false) : f.fromNone ≠ none := by
  intro hn
  unfold missing at hmiss
  rw [List.filterMap_eq_nil_iff] at hmiss
  have := hmiss f hf
  simp [hm, hd, hany, hff, hn] at this

theorem successes_unselected (r : SStruct ν) (f : SField ν) (items : List NestedMeta)
    (h : ∀ it, selects r f it = false) : successes r f items = [] := by
  unfold successes
  rw [List.filterMap_eq_nil_iff]
  intro it _
  cases it with
  | lit _ => rfl
  | item m => simp [h (.item m)]

theorem firstValue_unselected (r : SStruct ν) (f : SField ν) (items : List NestedMeta)
    (h : items.any (selects r f) = false) : firstValue r f items = none := by
  unfold firstValue
  have : items.find? (selects r f) = none := by
    rw [List.find?_eq_none]; intro x hx; simpa using List.any_eq_false.mp h x hx
  rw [this]

theorem defaultValue_eq (r : SStruct ν) (f : SField ν) (d : DefaultSrc ν) : defaultValue r f d = defaultOf r f d := by
  cases d with
  | value v => rfl
  | inherit => simp only [defaultValue, defaultOf]; cases r.containerDefault <;> rfl

/-- the initialiser of one field yields exactly the declared value -/
theorem initField_eq (r : SStruct ν) (hwf : WF r) (items : List NestedMeta) (hmis : mistakes r items = [])
    (st : PState ν) (f : SField ν) (hf : f ∈ r.fields)
    (hslot : st.slot f.ident = slotAfterCheck f (slotAfterFlatten r items f)) :
    initField r st f = fieldValue r items f := by
  obtain ⟨hl, hfm, hmiss⟩ := mistakes_nil r items hmis
  unfold initField fieldValue
  rw [hslot]
  cases hm : f.multiple with
  | true =>
      have hmany : (slotAfterCheck f (slotAfterFlatten r items f)).many = successes r f items := by
        simp only [slotAfterCheck, hm, Bool.not_true, Bool.false_and, Bool.false_eq_true, if_false]
        unfold slotAfterFlatten
        cases hb : isFirstFlatten r f with
        | false => simp [specSlot, hm]
        | true =>
            simp only [if_true]
            rw [successes_unselected r f items
              (not_selected_of_no_arm r hwf f hf (Or.inr (first_flatten_is_flatten r hwf f hf hb)))]
      simp only [if_true, hmany]
      cases f.dflt with
      | none => rfl
      | some d => simp only [defaultValue_eq]
  | false =>
      simp only [Bool.false_eq_true, if_false]
      have hseen := seen_after_flatten r items f hm
      have hval : (slotAfterFlatten r items f).val = (if isFirstFlatten r f then flattenValue r items else firstValue r f items) := by
        unfold slotAfterFlatten
        cases isFirstFlatten r f <;> simp [specSlot, hm]
      cases hd : f.dflt with
      | some d =>
          have : (slotAfterCheck f (slotAfterFlatten r items f)).val = (slotAfterFlatten r items f).val := by
            simp [slotAfterCheck, hd]
          simp only [this, hval, defaultValue_eq]
          cases (if isFirstFlatten r f = true then flattenValue r items else firstValue r f items) <;> rfl
      | none =>
          simp only
          cases hs : (slotAfterFlatten r items f).seen with
          | true =>
              have hv : (slotAfterCheck f (slotAfterFlatten r items f)).val = (slotAfterFlatten r items f).val := by
                simp [slotAfterCheck, hs]
              rw [hv, hval]
              rw [hseen] at hs
              -- supplied, hence (no mistakes) a value is present
              have : ∃ v, (if isFirstFlatten r f then flattenValue r items else firstValue r f items) = some v := by
                cases hb : isFirstFlatten r f with
                | true =>
                    simp only [if_true]
                    unfold isFirstFlatten at hb
                    cases hff : r.fields.find? (·.flatten) with
                    | none => simp [hff] at hb
                    | some ff => exact flatten_value r hwf items hfm ff hff
                | false =>
                    simp only [Bool.false_eq_true, if_false]
                    rw [hb, Bool.or_false] at hs
                    exact supplied_value r hwf items hl f hf hm hs
              obtain ⟨v, hv'⟩ := this
              simp [hv']
          | false =>
              rw [hseen] at hs
              obtain ⟨hany, hffalse⟩ := Bool.or_eq_false_iff.mp hs
              have hfn := absent_has_fallback r items hmiss f hf hm hd hany hffalse
              have hsup : (if isFirstFlatten r f then flattenValue r items else firstValue r f items) = none := by
                simp [hffalse, firstValue_unselected r f items hany]
              cases hfnv : f.fromNone with
              | none => exact absurd hfnv hfn
              | some v =>
                  have : (slotAfterCheck f (slotAfterFlatten r items f)).val = some v := by
                    have hs' : (slotAfterFlatten r items f).seen = false := by rw [hseen]; exact hs
                    simp [slotAfterCheck, hm, hd, hs', hfnv]
                  simp [this, hsup]

theorem initFields_eq (r : SStruct ν) (hwf : WF r) (items : List NestedMeta) (hmis : mistakes r items = [])
    (st : PState ν) (hslots : ∀ f ∈ r.fields, st.slot f.ident = slotAfterCheck f (slotAfterFlatten r items f)) :
    ∀ (fs : List (SField ν)), (∀ f ∈ fs, f ∈ r.fields) →
      initFields r st fs = collect (fs.map (fun f => (f.ident, fieldValue r items f))) := by
  intro fs
  induction fs with
  | nil => intro _; rfl
  | cons f fs ih =>
      intro hfs
      have hf := hfs f (by simp)
      simp only [initFields, List.map_cons, collect]
      rw [initField_eq r hwf items hmis st f hf (hslots f hf), ih (fun x hx => hfs x (by simp [hx]))]
      cases fieldValue r items f <;> rfl

/-- **C01** (struct receivers).  A mistake-free input parses to exactly the declared mapping:
    each field holds the value supplied under its effective name (converted, then transformed),
    `multiple` fields every occurrence in order, unsupplied fields their default chain, the
    flatten member what nobody else claims — then the container's own transform. -/
theorem fromList_value (r : SStruct ν) (hwf : WF r) (hd : Distinct r) (items : List NestedMeta)
    (hmis : mistakes r items = []) : fromList r items = expected r items := by
  obtain ⟨st0, st1, h0, h1, herrs, hslots⟩ := before_check r hwf hd items
  unfold expected
  rw [fromList_of_loop_ok h0, finishStruct_clean (flattenHere := true) h1 (herrs.trans hmis)]
  rw [initFields_eq r hwf items hmis _ hslots r.fields (fun _ h => h)]
  cases collect (r.fields.map (fun f => (f.ident, fieldValue r items f))) <;> rfl

/-- **C02**, both directions in one statement -/
theorem fromList_spec (r : SStruct ν) (hwf : WF r) (hd : Distinct r) (items : List NestedMeta) :
    fromList r items = (match mistakes r items with
      | [] => expected r items
      | errs => Err.bundleErr errs) := by
  cases hm : mistakes r items with
  | nil => exact fromList_value r hwf hd items hm
  | cons e es =>
      have := fromList_reports_exactly_the_mistakes r hwf hd items (by rw [hm]; simp)
      rw [this, hm]

/-! ## C07 (struct receivers): the `expect` of the initialiser is dead; nothing panics -/

/-- defaults resolved at derive time are available: `inherit` only when the container declares a
    default (`Options.fieldDefault` introduces `.inherit` in that case only) -/
def DefaultsOk (r : SStruct ν) : Prop :=
  ∀ f ∈ r.fields, f.dflt = some .inherit → r.containerDefault.isSome = true

theorem defaultOf_ok (r : SStruct ν) (hdo : DefaultsOk r) (f : SField ν) (hf : f ∈ r.fields) (d : DefaultSrc ν)
    (hd : f.dflt = some d) : ∃ v, defaultOf r f d = .ok v := by
  cases d with
  | value v => exact ⟨v, rfl⟩
  | inherit =>
      have := hdo f hf hd
      cases hc : r.containerDefault with
      | none => rw [hc] at this; cases this
      | some cd => exact ⟨cd f.ident, by simp only [defaultOf, hc]⟩

theorem fieldValue_ok (r : SStruct ν) (hwf : WF r) (hdo : DefaultsOk r) (items : List NestedMeta)
    (hmis : mistakes r items = []) (f : SField ν) (hf : f ∈ r.fields) :
    ∃ v, fieldValue r items f = .ok v := by
  obtain ⟨hl, hfm, hmiss⟩ := mistakes_nil r items hmis
  unfold fieldValue
  cases hm : f.multiple with
  | true =>
      simp only [if_true]
      cases hd : f.dflt with
      | none => exact ⟨_, rfl⟩
      | some d =>
          simp only
          split
          · exact ⟨_, rfl⟩
          · exact defaultOf_ok r hdo f hf d hd
  | false =>
      simp only [Bool.false_eq_true, if_false]
      cases hsup : (if isFirstFlatten r f then flattenValue r items else firstValue r f items) with
      | some v => exact ⟨v, rfl⟩
      | none =>
          simp only
          cases hd : f.dflt with
          | some d => exact defaultOf_ok r hdo f hf d hd
          | none =>
              simp only
              cases hfn : f.fromNone with
              | some v => exact ⟨v, rfl⟩
              | none =>
                  -- nothing supplied, no default, no value-for-absent: then something was reported
                  exfalso
                  cases hb : isFirstFlatten r f with
                  | true =>
                      unfold isFirstFlatten at hb
                      cases hff : r.fields.find? (·.flatten) with
                      | none => simp [hff] at hb
                      | some ff =>
                          obtain ⟨v, hv⟩ := flatten_value r hwf items hfm ff hff
                          have : isFirstFlatten r f = true := by simp [isFirstFlatten, hff] at hb ⊢; exact hb
                          simp [this, hv] at hsup
                  | false =>
                      simp [hb] at hsup
                      cases hany : items.any (selects r f) with
                      | true =>
                          obtain ⟨v, hv⟩ := supplied_value r hwf items hl f hf hm hany
                          simp [hv] at hsup
                      | false => exact absurd hfn (absent_has_fallback r items hmiss f hf hm hd hany hb)

theorem collect_ok (l : List (String × Outcome ν)) (h : ∀ x ∈ l, ∃ v, x.2 = .ok v) :
    ∃ kvs, collect l = .ok kvs := by
  induction l with
  | nil => exact ⟨[], rfl⟩
  | cons x xs ih =>
      obtain ⟨k, o⟩ := x
      obtain ⟨v, hv⟩ := h (k, o) List.mem_cons_self
      obtain ⟨kvs, hk⟩ := ih (fun y hy => h y (List.mem_cons_of_mem _ hy))
      cases hv
      exact ⟨(k, v) :: kvs, by simp only [collect, hk, Outcome.map]⟩

theorem expected_eq_post (r : SStruct ν) (hwf : WF r) (hdo : DefaultsOk r) (items : List NestedMeta)
    (hmis : mistakes r items = []) : ∃ kvs, expected r items = r.post (r.build kvs) := by
  obtain ⟨kvs, hk⟩ := collect_ok (r.fields.map (fun f => (f.ident, fieldValue r items f))) (by
    intro x hx
    obtain ⟨f, hf, rfl⟩ := List.mem_map.mp hx
    exact fieldValue_ok r hwf hdo items hmis f hf)
  exact ⟨kvs, by simp only [expected, hk]⟩

/-- **C07** (derived struct receivers): for every input the emitted parser returns `Ok` or `Err` —
    the initialiser's `expect` is unreachable and `Error::multiple` never sees an empty vector —
    provided the user-supplied functions themselves return. -/
theorem fromList_never_panics (r : SStruct ν) (hwf : WF r) (hd : Distinct r) (hdo : DefaultsOk r)
    (hpost : ∀ v msg, r.post v ≠ .panic msg) (items : List NestedMeta) (msg : String) :
    fromList r items ≠ .panic msg := by
  rw [fromList_spec r hwf hd items]
  cases hm : mistakes r items with
  | cons e es =>
      obtain ⟨b, hb, _⟩ := Err.bundleErr_of_ne_nil (α := ν) (List.cons_ne_nil e es)
      show Err.bundleErr (e :: es) ≠ .panic msg
      rw [hb]
      nofun
  | nil =>
      obtain ⟨kvs, hk⟩ := expected_eq_post r hwf hdo items hm
      simp only [hk]
      exact hpost _ msg

end C02
