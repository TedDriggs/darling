import Darling.Error
import Darling.Spec.C04
/-
  Lemmas about the error tree (count and `into_vec`, `with_span`, `Error::multiple`, tree induction) and
  about outcomes (inversion of `map` / `mapErr` / `bind`).
-/
open Spec.C04

namespace Err

@[simp] theorem lenList_nil : lenList [] = 0 := rfl
@[simp] theorem lenList_cons (c : Err) (cs : List Err) : lenList (c :: cs) = len c + lenList cs := rfl
@[simp] theorem len_leaf (k ls s) : len (leaf k ls s) = 1 := rfl
@[simp] theorem len_multi (cs ls s) : len (multi cs ls s) = lenList cs := rfl

theorem lenList_append (a b : List Err) : lenList (a ++ b) = lenList a + lenList b := by
  induction a with
  | nil => rw [List.nil_append, lenList_nil, Nat.zero_add]
  | cons x xs ih => rw [List.cons_append, lenList_cons, lenList_cons, ih, Nat.add_assoc]

@[simp] theorem intoVecListP_nil (pre sp) : intoVecListP pre sp [] = [] := rfl
@[simp] theorem intoVecListP_cons (pre sp c cs) :
    intoVecListP pre sp (c :: cs) = intoVecP pre sp c ++ intoVecListP pre sp cs := rfl
@[simp] theorem intoVecP_leaf (pre sp k ls s) :
    intoVecP pre sp (leaf k ls s) = [(leaf k (pre ++ ls) s).inheritSpan sp] := rfl
@[simp] theorem intoVecP_multi (pre sp cs ls s) :
    intoVecP pre sp (multi cs ls s)
      = intoVecListP (pre ++ ls) (s.or sp) cs := rfl

/-- not a bundle: what `into_vec` returns -/
def isLeaf : Err → Bool
  | leaf .. => true
  | multi .. => false

theorem induct {P : Err → Prop} (leaf : ∀ k ls s, P (.leaf k ls s))
    (multi : ∀ cs ls s, (∀ c ∈ cs, P c) → P (.multi cs ls s)) (e : Err) : P e :=
  Err.rec (motive_2 := fun cs => ∀ c ∈ cs, P c) leaf multi (fun _ h => nomatch h)
    (fun _ _ hc hcs => List.forall_mem_cons.2 ⟨hc, hcs⟩) e

theorem inheritSpan_leaf_eq (k ls s sp) : (leaf k ls s).inheritSpan sp = leaf k ls (s.or sp) := by
  cases sp <;> cases s <;> rfl

theorem inheritSpan_leaf (k ls s sp) : ∃ s', (leaf k ls s).inheritSpan sp = leaf k ls s' :=
  ⟨_, inheritSpan_leaf_eq k ls s sp⟩

/-! ### `with_span`: the first writer wins -/

theorem span_withSpan (e : Err) (a : Span) : (e.withSpan a).span = some (e.span.getD a) := by
  cases e with
  | leaf k ls s => cases s <;> rfl
  | multi cs ls s => cases s <;> rfl

theorem withSpan_of_spanned {e : Err} (h : e.span ≠ none) (a : Span) : e.withSpan a = e := by
  cases e with
  | leaf k ls s => cases s with
    | none => exact absurd rfl h
    | some _ => rfl
  | multi cs ls s => cases s with
    | none => exact absurd rfl h
    | some _ => rfl

theorem span_withSpan_ne_none (e : Err) (a : Span) : (e.withSpan a).span ≠ none :=
  span_withSpan e a ▸ Option.some_ne_none _

theorem withSpan_withSpan (e : Err) (a b : Span) : (e.withSpan a).withSpan b = e.withSpan a :=
  withSpan_of_spanned (span_withSpan_ne_none e a) b

/-! ### `Error::multiple` and `Err(Error::multiple(errors))` by the length of the list -/

theorem multiple_nil : multiple [] = .panic "Can't deal with 0 errors" := rfl
theorem multiple_singleton (e : Err) : multiple [e] = .ok e := rfl
theorem multiple_cons_cons (e e' : Err) (es : List Err) :
    multiple (e :: e' :: es) = .ok (multi (e :: e' :: es) [] none) := rfl

theorem multiple_cases {es : List Err} {e : Err} (h : multiple es = .ok e) :
    es = [e] ∨ (2 ≤ es.length ∧ e = multi es [] none) :=
  match es, h with
  | [_], h => .inl (by cases h; rfl)
  | _ :: _ :: r, h => .inr ⟨Nat.le_add_left 2 r.length, by cases h; rfl⟩

theorem multiple_ok {es : List Err} (h : es ≠ []) : ∃ e, multiple es = .ok e :=
  match es, h with
  | [e], _ => ⟨e, rfl⟩
  | _ :: _ :: _, _ => ⟨_, rfl⟩

theorem bundleErr_eq_err {α : Type} {es : List Err} {e : Err} :
    (bundleErr es : Outcome α) = .err e ↔ multiple es = .ok e :=
  match es with
  | [] => ⟨nofun, nofun⟩
  | [_] => ⟨fun h => by cases h; rfl, fun h => by cases h; rfl⟩
  | _ :: _ :: _ => ⟨fun h => by cases h; rfl, fun h => by cases h; rfl⟩

theorem bundleErr_of_ne_nil {α : Type} {es : List Err} (h : es ≠ []) :
    ∃ e, (bundleErr es : Outcome α) = .err e ∧ multiple es = .ok e :=
  (multiple_ok h).imp fun _ he => ⟨bundleErr_eq_err.2 he, he⟩

theorem bundleErr_ne_ok {α : Type} (es : List Err) (a : α) : (bundleErr es : Outcome α) ≠ .ok a :=
  match es with
  | [] | [_] | _ :: _ :: _ => nofun

/-! ### `into_vec`: leaves, length, locations -/

mutual
theorem intoVecP_allLeaf (pre sp) (e : Err) : ∀ x ∈ intoVecP pre sp e, x.isLeaf = true := by
  cases e with
  | leaf k ls s =>
      intro x hx
      rw [List.mem_singleton.1 hx, inheritSpan_leaf_eq]
      rfl
  | multi cs ls s => exact intoVecListP_allLeaf _ _ cs
theorem intoVecListP_allLeaf (pre sp) (es : List Err) : ∀ x ∈ intoVecListP pre sp es, x.isLeaf = true := by
  cases es with
  | nil => exact fun x hx => nomatch hx
  | cons c cs =>
      exact fun x hx => (List.mem_append.1 hx).elim
        (intoVecP_allLeaf pre sp c x) (intoVecListP_allLeaf pre sp cs x)
end

mutual
theorem intoVecP_length (pre sp) (e : Err) : (intoVecP pre sp e).length = e.len := by
  cases e with
  | leaf k ls s => rfl
  | multi cs ls s => exact intoVecListP_length _ _ cs
theorem intoVecListP_length (pre sp) (es : List Err) : (intoVecListP pre sp es).length = lenList es := by
  cases es with
  | nil => rfl
  | cons c cs =>
      rw [intoVecListP_cons, List.length_append, intoVecP_length pre sp c,
        intoVecListP_length pre sp cs, lenList_cons]
end

/-- on a list of leaves, `intoVecListP [] none` is the identity -/
theorem intoVecListP_leaves_id (es : List Err) (h : ∀ x ∈ es, x.isLeaf = true) :
    intoVecListP [] none es = es := by
  induction es with
  | nil => rfl
  | cons c cs ih =>
      have ⟨hc, hcs⟩ := List.forall_mem_cons.1 h
      cases c with
      | leaf k ls s => rw [intoVecListP_cons, ih hcs]; rfl
      | multi cs' ls s => cases hc

theorem intoVecListP_eq_flatMap (pre sp) (es : List Err) :
    intoVecListP pre sp es = es.flatMap (intoVecP pre sp) := by
  induction es with
  | nil => rfl
  | cons c cs ih => rw [intoVecListP_cons, ih, List.flatMap_cons]

theorem intoVecP_consLoc (l : String) (pre sp) (e : Err) :
    intoVecP (l :: pre) sp e = (intoVecP pre sp e).map (·.at l) := by
  induction e using induct generalizing pre sp with
  | leaf k ls s => rw [intoVecP_leaf, intoVecP_leaf, inheritSpan_leaf_eq, inheritSpan_leaf_eq]; rfl
  | multi cs ls s ih =>
      show intoVecListP (l :: (pre ++ ls)) (s.or sp) cs = (intoVecListP (pre ++ ls) (s.or sp) cs).map _
      induction cs with
      | nil => rfl
      | cons c cs ihcs =>
          rw [intoVecListP_cons, intoVecListP_cons, List.map_append, ih c List.mem_cons_self,
            ihcs fun c hc => ih c (List.mem_cons_of_mem _ hc)]

theorem intoVec_at (e : Err) (l : String) : intoVec (e.at l) = (intoVec e).map (·.at l) := by
  cases e with
  | leaf k ls s => rfl
  | multi cs ls s => exact intoVecP_consLoc l [] none (multi cs ls s)

theorem at_leaves_located (e : Err) (l : String) : ∀ x ∈ (e.at l).intoVec, ∃ rest, x.locs = l :: rest := by
  intro x hx
  rw [intoVec_at] at hx
  obtain ⟨y, _, rfl⟩ := List.mem_map.1 hx
  exact ⟨y.locs, by cases y <;> rfl⟩

theorem intoVec_multiple {es : List Err} {e : Err} (h : multiple es = .ok e) :
    intoVec e = es.flatMap intoVec := by
  rcases multiple_cases h with rfl | ⟨_, rfl⟩
  · exact (List.append_nil _).symm
  · exact intoVecListP_eq_flatMap [] none es

/-! ### count and `WF` -/

theorem len_at (e : Err) (s : String) : (e.at s).len = e.len := by
  cases e <;> rfl

theorem len_multiple {es : List Err} {e : Err} (h : multiple es = .ok e) : e.len = lenList es := by
  rcases multiple_cases h with rfl | ⟨_, rfl⟩
  · exact (Nat.add_zero _).symm
  · rfl

theorem lenList_leaves (es : List Err) (h : ∀ x ∈ es, x.isLeaf = true) : lenList es = es.length := by
  rw [← intoVecListP_length [] none es, intoVecListP_leaves_id es h]

theorem bundleErr_of_allLeaf {α : Type} (x : Err) (xs : List Err)
    (h : ∀ z ∈ x :: xs, z.isLeaf = true) :
    ∃ e, (bundleErr (x :: xs) : Outcome α) = .err e ∧ e.intoVec = x :: xs ∧
      e.len = (x :: xs).length := by
  obtain ⟨e, he, hm⟩ := bundleErr_of_ne_nil (α := α) (List.cons_ne_nil x xs)
  refine ⟨e, he, ?_, ?_⟩
  · exact (intoVec_multiple hm).trans
      ((intoVecListP_eq_flatMap [] none _).symm.trans (intoVecListP_leaves_id _ h))
  · rw [len_multiple hm, lenList_leaves _ h]

theorem lenList_ge_length (es : List Err) (h : ∀ c ∈ es, 1 ≤ c.len) : es.length ≤ lenList es := by
  induction es with
  | nil => exact Nat.le_refl 0
  | cons c cs ih =>
      have ⟨hc, hcs⟩ := List.forall_mem_cons.1 h
      rw [lenList_cons, List.length_cons, Nat.add_comm]
      exact Nat.add_le_add hc (ih hcs)

theorem WF_len_pos {e : Err} (h : WF e) : 1 ≤ e.len := by
  induction h with
  | leaf k ls s => exact Nat.le_refl 1
  | multi cs ls s h2 _ ih => exact Nat.le_trans (Nat.le_of_succ_le h2) (lenList_ge_length cs ih)

theorem WF_multi_len {cs ls s} (h : WF (multi cs ls s)) : 2 ≤ (multi cs ls s).len := by
  cases h with
  | multi _ _ _ h2 hall =>
      exact Nat.le_trans h2 (lenList_ge_length cs (fun c hc => WF_len_pos (hall c hc)))

end Err

namespace Outcome
variable {α β : Type}

theorem map_eq_ok {x : Outcome α} {f : α → β} {b : β} (h : x.map f = .ok b) : ∃ a, x = .ok a ∧ b = f a := by
  cases x with
  | ok a => exact ⟨a, rfl, (Outcome.ok.inj h).symm⟩
  | err e => cases h
  | panic m => cases h

theorem map_eq_err {x : Outcome α} {f : α → β} {e : Err} (h : x.map f = .err e) : x = .err e := by
  cases x with
  | ok a => cases h
  | err e' => exact congrArg Outcome.err (Outcome.err.inj h)
  | panic m => cases h

theorem mapErr_eq_ok {x : Outcome α} {f : Err → Err} {a : α} (h : x.mapErr f = .ok a) : x = .ok a := by
  cases x with
  | ok a' => exact h
  | err e => cases h
  | panic m => cases h

theorem mapErr_eq_err {x : Outcome α} {f : Err → Err} {e : Err} (h : x.mapErr f = .err e) :
    ∃ e', x = .err e' ∧ e = f e' := by
  cases x with
  | ok a => cases h
  | err e' => exact ⟨e', rfl, (Outcome.err.inj h).symm⟩
  | panic m => cases h

theorem bind_eq_ok {x : Outcome α} {g : α → Outcome β} {b : β} (h : x.bind g = .ok b) :
    ∃ a, x = .ok a ∧ g a = .ok b := by
  cases x with
  | ok a => exact ⟨a, rfl, h⟩
  | err e => cases h
  | panic m => cases h

theorem mapErr_withSpan_withSpan (o : Outcome α) (a b : Span) :
    (o.mapErr (·.withSpan a)).mapErr (·.withSpan b) = o.mapErr (·.withSpan a) := by
  cases o with
  | err e => exact congrArg Outcome.err (e.withSpan_withSpan a b)
  | _ => rfl

theorem spanned_of_mapErr_withSpan {o : Outcome α} {s : Span} {e : Err}
    (h : o.mapErr (·.withSpan s) = .err e) : e.span ≠ none := by
  obtain ⟨e', _, rfl⟩ := mapErr_eq_err h
  exact e'.span_withSpan_ne_none s

end Outcome
