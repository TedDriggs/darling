/- Facts about core `List` operations that mention nothing of the model. -/

namespace List

theorem pairwise_inj {α β : Type} (k : α → β) {l : List α} (hp : l.Pairwise (fun a b => k a ≠ k b)) :
    ∀ a ∈ l, ∀ b ∈ l, k a = k b → a = b := by
  induction hp with
  | nil => intro a ha; cases ha
  | cons hx _ ih =>
      intro a ha b hb hk
      rcases List.mem_cons.mp ha with rfl | ha'
      · rcases List.mem_cons.mp hb with rfl | hb'
        · rfl
        · exact absurd hk (hx b hb')
      · rcases List.mem_cons.mp hb with rfl | hb'
        · exact absurd hk.symm (hx a ha')
        · exact ih a ha' b hb' hk

theorem flatMap_congr_mem {α β : Type} {F G : α → List β} {l : List α} (h : ∀ a ∈ l, F a = G a) :
    l.flatMap F = l.flatMap G := by
  rw [List.flatMap_def, List.flatMap_def, List.map_congr_left h]

theorem map_eq_self_iff {α : Type} (f : α → α) (l : List α) : l.map f = l ↔ ∀ x ∈ l, f x = x := by
  have h := List.map_inj_left (l := l) (f := f) (g := id)
  rwa [List.map_id] at h

theorem snoc_induction {β : Type} {P : List β → Prop} (nil : P [])
    (snoc : ∀ l a, P l → P (l ++ [a])) : ∀ l, P l := by
  intro l
  have h : ∀ r : List β, P r.reverse := by
    intro r
    induction r with
    | nil => exact nil
    | cons a r ih => rw [List.reverse_cons]; exact snoc _ _ ih
  have := h l.reverse
  rwa [List.reverse_reverse] at this

theorem mem_of_cons_append_rec {α β : Type} {f : α → List β} {g : List α → List β} (nil : g [] = [])
    (cons : ∀ x xs, g (x :: xs) = f x ++ g xs) (p : β) : ∀ xs, p ∈ g xs ↔ ∃ x, x ∈ xs ∧ p ∈ f x
  | [] => by rw [nil]; exact ⟨fun h => (nomatch h), fun ⟨_, h, _⟩ => nomatch h⟩
  | x :: xs => by
      rw [cons, List.mem_append, mem_of_cons_append_rec nil cons p xs]
      constructor
      · rintro (h | ⟨y, hy, h⟩)
        · exact ⟨x, List.mem_cons_self, h⟩
        · exact ⟨y, List.mem_cons_of_mem x hy, h⟩
      · rintro ⟨y, hy, h⟩
        rcases List.mem_cons.mp hy with rfl | hy
        · exact .inl h
        · exact .inr ⟨y, hy, h⟩

theorem flatMap_ite_eq_filterMap {α β : Type} (l : List α) (c : α → Bool) (e : α → β) :
    l.flatMap (fun a => if c a then [e a] else []) = l.filterMap (fun a => if c a then some (e a) else none) := by
  induction l with
  | nil => rfl
  | cons a l ih => simp only [List.flatMap_cons, List.filterMap_cons, ih]; cases c a <;> simp

theorem filter_not_eq_nil_iff {α : Type} (p : α → Bool) (l : List α) :
    l.filter (fun a => !p a) = [] ↔ l.all p = true := by
  simp only [List.filter_eq_nil_iff, List.all_eq_true, Bool.not_eq_true', Bool.not_eq_false]

theorem contains_snoc {α : Type} [BEq α] (l : List α) (a x : α) :
    (l ++ [a]).contains x = ((x == a) || l.contains x) := by
  rw [List.contains_append, Bool.or_comm, List.contains_cons, List.contains_nil, Bool.or_false]

theorem unique_of_filter_length_le_one {α : Type} (p : α → Bool) (l : List α) (h : (l.filter p).length ≤ 1)
    (a : α) (ha : a ∈ l) (b : α) (hb : b ∈ l) (hpa : p a = true) (hpb : p b = true) : a = b := by
  have ha' : a ∈ l.filter p := List.mem_filter.mpr ⟨ha, hpa⟩
  have hb' : b ∈ l.filter p := List.mem_filter.mpr ⟨hb, hpb⟩
  cases hl : l.filter p with
  | nil => rw [hl] at ha'; cases ha'
  | cons x xs =>
      rw [hl] at ha' hb' h
      cases xs with
      | nil => rw [List.mem_singleton.mp ha', List.mem_singleton.mp hb']
      | cons y ys => exact absurd h (by simp)

theorem eq_of_append_eq_singleton {α : Type} {pre post : List α} {x e : α} (h : pre ++ [x] ++ post = [e]) : e = x := by
  cases pre with
  | nil => exact (List.cons.inj h).1.symm
  | cons p ps =>
      have hnil : ps ++ [x] ++ post = [] := (List.cons.inj h).2
      exact nomatch (List.append_eq_nil_iff.mp (List.append_eq_nil_iff.mp hnil).1).2

theorem eraseDups_snoc_length (l : List String) (x : String) :
    (l ++ [x]).eraseDups.length + (if x ∈ l then 1 else 0) = l.eraseDups.length + 1 := by
  rw [List.eraseDups_append, List.length_append]
  by_cases hin : x ∈ l <;> simp [List.removeAll, List.eraseDups_cons, hin]

end List
