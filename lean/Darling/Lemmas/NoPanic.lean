import Darling.FromMeta.Hooks
import Darling.Lemmas.Error
/-
  `Outcome.Returns`, "returns instead of panicking", with the operations that keep it, and the same as a
  property `Hooks.NP` of hook records, closed under the default routing.
-/

/-- `Outcome.Returns.ite`, `C06.ite_returns` and `C06.ite_ok` are this lemma at one motive each, for the
    places where unification does not find `P`. -/
theorem ite_ind {γ : Sort _} {P : γ → Prop} {c : Prop} [Decidable c] {a b : γ} (ha : P a) (hb : P b) :
    P (if c then a else b) := by
  by_cases h : c
  · rw [if_pos h]; exact ha
  · rw [if_neg h]; exact hb

/-- an outcome that is not a panic -/
def Outcome.Returns {α : Type} (o : Outcome α) : Prop := ∀ m, o ≠ .panic m

namespace Outcome
variable {α β : Type}
theorem returns_ok (a : α) : (Outcome.ok a).Returns := by intro m h; cases h
theorem returns_err (e : Err) : (Outcome.err e : Outcome α).Returns := by intro m h; cases h
theorem Returns.ite {c : Prop} [Decidable c] {a b : Outcome α} (ha : a.Returns) (hb : b.Returns) :
    (if c then a else b).Returns :=
  ite_ind ha hb
theorem Returns.mapErr {o : Outcome α} (h : o.Returns) (f : Err → Err) : (o.mapErr f).Returns := by
  cases o with
  | ok a => exact returns_ok a
  | err e => exact returns_err _
  | panic m => exact absurd rfl (h m)
theorem Returns.map {o : Outcome α} (h : o.Returns) (f : α → β) : (o.map f).Returns := by
  cases o with
  | ok a => exact returns_ok _
  | err e => exact returns_err _
  | panic m => exact absurd rfl (h m)
theorem Returns.bind {o : Outcome α} (h : o.Returns) (f : α → Outcome β) (hf : ∀ a, (f a).Returns) : (o.bind f).Returns := by
  cases o with
  | ok a => exact hf a
  | err e => exact returns_err _
  | panic m => exact absurd rfl (h m)

@[elab_as_elim]
theorem returns_cases {motive : Outcome α → Prop} (r : Outcome α) (hr : r.Returns)
    (ok : ∀ a, motive (.ok a)) (err : ∀ e, motive (.err e)) : motive r := by
  cases r with
  | ok a => exact ok a
  | err e => exact err e
  | panic m => exact absurd rfl (hr m)

theorem isPanic_of_returns {o : Outcome α} (h : o.Returns) : o.isPanic = false :=
  returns_cases o h (fun _ => rfl) fun _ => rfl

theorem optionMap_returns {γ : Type} (fw : Option γ) (g : γ → Outcome α) (hg : ∀ a, (g a).Returns) :
    ∀ x, fw.map g = some x → x.Returns := by
  intro x hx
  cases fw with
  | none => cases hx
  | some a =>
      cases hx
      exact hg a
end Outcome

theorem Err.bundleErr_returns {α : Type} {es : List Err} (h : es ≠ []) : (Err.bundleErr es : Outcome α).Returns := by
  obtain ⟨e, he, _⟩ := Err.bundleErr_of_ne_nil (α := α) h
  rw [he]
  exact Outcome.returns_err _

namespace Hooks
variable {α : Type}

/-- every overridden method returns.  This is the form in which the fact is used (its fields, and the
    closure lemmas `NP.from*` below); it is proved of a given record through `NP.Overrides`. -/
structure NP (h : Hooks α) : Prop where
  nested : ∀ f, h.fromNestedMeta? = some f → ∀ n, (f n).Returns
  meta_ : ∀ f, h.fromMeta? = some f → ∀ m, (f m).Returns
  word : ∀ r, h.fromWord? = some r → r.Returns
  list : ∀ f, h.fromList? = some f → ∀ items, (f items).Returns
  value : ∀ f, h.fromValue? = some f → ∀ l, (f l).Returns
  expr : ∀ f, h.fromExpr? = some f → ∀ e, (f e).Returns
  char : ∀ f, h.fromChar? = some f → ∀ c, (f c).Returns
  string : ∀ f, h.fromString? = some f → ∀ s, (f s).Returns
  bool : ∀ f, h.fromBool? = some f → ∀ b, (f b).Returns

def Overridden {β : Type} (p : β → Prop) : Option β → Prop
  | none => True
  | some b => p b

theorem Overridden.get {β : Type} {p : β → Prop} {o : Option β} (h : Overridden p o) {b : β}
    (hb : o = some b) : p b := by
  subst hb; exact h

theorem Overridden.of_forall {β : Type} {p : β → Prop} {o : Option β} (h : ∀ b, o = some b → p b) :
    Overridden p o := by
  cases o with
  | none => trivial
  | some b => exact h b rfl

theorem Overridden.ite_some {β : Type} {p : β → Prop} {c : Prop} [Decidable c] {b : β} (h : p b) :
    Overridden p (if c then some b else none) :=
  ite_ind (P := Overridden p) h trivial

variable {h : Hooks α}

/-- `NP` with one obligation per overridden method: for a record given as a literal a method left at
    its default reduces to `True` and is not mentioned -/
structure NP.Overrides (h : Hooks α) : Prop where
  nested : Overridden (fun f => ∀ n, (f n).Returns) h.fromNestedMeta? := by exact trivial
  meta_ : Overridden (fun f => ∀ m, (f m).Returns) h.fromMeta? := by exact trivial
  word : Overridden Outcome.Returns h.fromWord? := by exact trivial
  list : Overridden (fun f => ∀ items, (f items).Returns) h.fromList? := by exact trivial
  value : Overridden (fun f => ∀ l, (f l).Returns) h.fromValue? := by exact trivial
  expr : Overridden (fun f => ∀ e, (f e).Returns) h.fromExpr? := by exact trivial
  char : Overridden (fun f => ∀ c, (f c).Returns) h.fromChar? := by exact trivial
  string : Overridden (fun f => ∀ s, (f s).Returns) h.fromString? := by exact trivial
  bool : Overridden (fun f => ∀ b, (f b).Returns) h.fromBool? := by exact trivial

theorem NP.of_overrides (o : NP.Overrides h) : h.NP :=
  ⟨fun _ hf => o.nested.get hf, fun _ hf => o.meta_.get hf, fun _ hf => o.word.get hf,
    fun _ hf => o.list.get hf, fun _ hf => o.value.get hf, fun _ hf => o.expr.get hf,
    fun _ hf => o.char.get hf, fun _ hf => o.string.get hf, fun _ hf => o.bool.get hf⟩

theorem NP.fromWord (np : h.NP) : h.fromWord.Returns := by
  unfold Hooks.fromWord
  cases hw : h.fromWord? with
  | some r => exact np.word r hw
  | none => exact Outcome.returns_err _

theorem NP.fromList (np : h.NP) (items : List NestedMeta) : (h.fromList items).Returns := by
  unfold Hooks.fromList
  cases hw : h.fromList? with
  | some f => exact np.list f hw items
  | none => exact Outcome.returns_err _

theorem NP.fromChar (np : h.NP) (c : Char) : (h.fromChar c).Returns := by
  unfold Hooks.fromChar
  cases hw : h.fromChar? with
  | some f => exact np.char f hw c
  | none => exact Outcome.returns_err _

theorem NP.fromString (np : h.NP) (s : String) : (h.fromString s).Returns := by
  unfold Hooks.fromString
  cases hw : h.fromString? with
  | some f => exact np.string f hw s
  | none => exact Outcome.returns_err _

theorem NP.fromBool (np : h.NP) (b : Bool) : (h.fromBool b).Returns := by
  unfold Hooks.fromBool
  cases hw : h.fromBool? with
  | some f => exact np.bool f hw b
  | none => exact Outcome.returns_err _

theorem fromValueD_ind {P Q : Outcome α → Prop} (h : Hooks α) (l : Lit) (hb : ∀ b, P (h.fromBool b))
    (hs : ∀ s, P (h.fromString s)) (hc : ∀ c, P (h.fromChar c)) (he : P (.err (Err.unexpectedLitType l)))
    (hQ : ∀ o, P o → Q (o.mapErr (·.withSpan l.span))) : Q (h.fromValueD l) := by
  refine hQ _ ?_
  cases l.v
  case bool b => exact hb b
  case str s => exact hs s
  case char c => exact hc c
  all_goals exact he

theorem NP.fromValue (np : h.NP) (l : Lit) : (h.fromValue l).Returns := by
  unfold Hooks.fromValue
  cases hw : h.fromValue? with
  | some f => exact np.value f hw l
  | none =>
      exact fromValueD_ind h l np.fromBool np.fromString np.fromChar (Outcome.returns_err _)
        fun _ ho => ho.mapErr _

theorem NP.fromExprD (np : h.NP) : (e : Expr) → (h.fromExprD e).Returns
  | .lit l => by
      simp only [Hooks.fromExprD]
      exact (np.fromValue l).mapErr _
  | .group g sp => by
      simp only [Hooks.fromExprD]
      exact (NP.fromExprD np g).mapErr _
  | .path _ _ => by
      simp only [Hooks.fromExprD]
      exact (Outcome.returns_err _).mapErr _
  | .qpath _ _ _ => by
      simp only [Hooks.fromExprD]
      exact (Outcome.returns_err _).mapErr _
  | .array _ _ _ => by
      simp only [Hooks.fromExprD]
      exact (Outcome.returns_err _).mapErr _
  | .other _ _ _ => by
      simp only [Hooks.fromExprD]
      exact (Outcome.returns_err _).mapErr _

theorem NP.fromExpr (np : h.NP) (e : Expr) : (h.fromExpr e).Returns := by
  unfold Hooks.fromExpr
  cases hw : h.fromExpr? with
  | some f => exact np.expr f hw e
  | none => exact np.fromExprD e

/-- **closure under the default routing**: an implementor whose own methods return never panics,
    whatever item it is handed -/
theorem NP.fromMeta (np : h.NP) (m : Meta) : (h.fromMeta m).Returns := by
  unfold Hooks.fromMeta
  cases hw : h.fromMeta? with
  | some f => exact np.meta_ f hw m
  | none =>
      unfold Hooks.fromMetaD
      cases m with
      | path p => exact np.fromWord.mapErr _
      | list p items bad ts t sp =>
          cases bad with
          | some b => exact Outcome.returns_err _
          | none => exact (np.fromList items).mapErr _
      | nameValue p e t sp => exact (np.fromExpr e).mapErr _

theorem NP.fromNestedMeta (np : h.NP) (n : NestedMeta) : (h.fromNestedMeta n).Returns := by
  unfold Hooks.fromNestedMeta
  cases hw : h.fromNestedMeta? with
  | some f => exact np.nested f hw n
  | none =>
      unfold Hooks.fromNestedMetaD
      apply Outcome.Returns.mapErr
      cases n with
      | lit l => exact np.fromValue l
      | item m => exact np.fromMeta m

end Hooks
