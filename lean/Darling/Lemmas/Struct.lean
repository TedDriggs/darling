import Darling.Derive.Struct
import Darling.Lemmas.List
import Darling.Lemmas.Error
/-
  What the property files share about the run-time model of a derived struct receiver
  (`Darling/Derive/Struct.lean`): case analyses of its phases and inductions over its two loops.
-/

namespace Derive
variable {ν : Type}

/-! ### the receiver's tables -/

theorem SStruct.mem_of_arm {r : SStruct ν} {name : String} {f : SField ν} (h : r.arm name = some f) :
    f ∈ r.fields :=
  List.mem_of_find?_eq_some h

theorem SStruct.arm_some {r : SStruct ν} {name : String} {f : SField ν} (h : r.arm name = some f) :
    f ∈ r.fields ∧ f.skip = false ∧ f.flatten = false ∧ f.name = name := by
  have hp := List.find?_some h
  simp only [Bool.and_eq_true, Bool.not_eq_true', beq_iff_eq] at hp
  exact ⟨mem_of_arm h, hp.1.1, hp.1.2, hp.2⟩

theorem SStruct.hasFlatten_of_find {r : SStruct ν} {ff : SField ν} (h : r.fields.find? (·.flatten) = some ff) :
    r.hasFlatten = true :=
  List.any_eq_true.mpr ⟨ff, List.mem_of_find?_eq_some h, List.find?_some h⟩

theorem SStruct.find_none_of_noFlatten (r : SStruct ν) (h : r.hasFlatten = false) :
    r.fields.find? (·.flatten) = none := by
  rw [List.find?_eq_none]
  intro f hf
  have := List.any_eq_false.mp h f hf
  simpa using this

/-! ### one iteration of the item loop -/

/-- what one iteration of the item loop does, arm by arm: ten cases (both panicking arms are `panic`) -/
inductive StepCase (r : SStruct ν) (st : PState ν) : NestedMeta → Except String (PState ν) → Prop where
  | lit (l : Lit) : StepCase r st (.lit l) (.ok (st.push ((Err.unsupportedFormat "literal").withSpan l.span)))
  | manyOk (inner : Meta) (f : SField ν) (v : ν) (ha : r.arm inner.path'.toStr = some f) (hm : f.multiple = true)
      (hc : f.conv inner = .ok v) :
      StepCase r st (.item inner)
        (.ok (st.set f.ident { st.slot f.ident with many := (st.slot f.ident).many ++ [v], occ := (st.slot f.ident).occ + 1 }))
  | manyErr (inner : Meta) (f : SField ν) (e : Err) (ha : r.arm inner.path'.toStr = some f) (hm : f.multiple = true)
      (hc : f.conv inner = .err e) :
      StepCase r st (.item inner)
        (.ok ((st.set f.ident { st.slot f.ident with occ := (st.slot f.ident).occ + 1 }).push
          ((e.withSpan inner.span).at (f.name ++ "[" ++ toString (st.slot f.ident).occ ++ "]"))))
  | firstOk (inner : Meta) (f : SField ν) (v : ν) (ha : r.arm inner.path'.toStr = some f) (hm : f.multiple = false)
      (hs : (st.slot f.ident).seen = false) (hc : f.conv inner = .ok v) :
      StepCase r st (.item inner) (.ok (st.set f.ident { st.slot f.ident with seen := true, val := some v }))
  | firstErr (inner : Meta) (f : SField ν) (e : Err) (ha : r.arm inner.path'.toStr = some f) (hm : f.multiple = false)
      (hs : (st.slot f.ident).seen = false) (hc : f.conv inner = .err e) :
      StepCase r st (.item inner)
        (.ok ((st.set f.ident { st.slot f.ident with seen := true, val := none }).push ((e.withSpan inner.span).at f.name)))
  | panic (inner : Meta) (f : SField ν) (m : String) (ha : r.arm inner.path'.toStr = some f)
      (hs : f.multiple = true ∨ (st.slot f.ident).seen = false) (hc : f.conv inner = .panic m) :
      StepCase r st (.item inner) (.error m)
  | repeated (inner : Meta) (f : SField ν) (ha : r.arm inner.path'.toStr = some f) (hm : f.multiple = false)
      (hs : (st.slot f.ident).seen = true) :
      StepCase r st (.item inner) (.ok (st.push ((Err.new (.duplicateField f.name)).withSpan inner.span)))
  | buffered (inner : Meta) (ha : r.arm inner.path'.toStr = none) (hf : r.hasFlatten = true) :
      StepCase r st (.item inner) (.ok { st with flat := st.flat ++ [.item inner] })
  | ignored (inner : Meta) (ha : r.arm inner.path'.toStr = none) (hf : r.hasFlatten = false) (hu : r.allowUnknown = true) :
      StepCase r st (.item inner) (.ok st)
  | unknown (inner : Meta) (ha : r.arm inner.path'.toStr = none) (hf : r.hasFlatten = false) (hu : r.allowUnknown = false) :
      StepCase r st (.item inner) (.ok (st.push ((r.unknownErr inner.path'.toStr).withSpan inner.span)))

theorem stepItem_case (r : SStruct ν) (st : PState ν) (it : NestedMeta) : StepCase r st it (stepItem r st it) := by
  cases it with
  | lit l => exact .lit l
  | item inner =>
    unfold stepItem
    dsimp only
    cases ha : r.arm inner.path'.toStr with
    | none =>
      cases hf : r.hasFlatten
      · cases hu : r.allowUnknown
        · exact .unknown inner ha hf hu
        · exact .ignored inner ha hf hu
      · exact .buffered inner ha hf
    | some f =>
      dsimp only
      cases hm : f.multiple
      · cases hs : (st.slot f.ident).seen
        · cases hc : f.conv inner with
          | ok v => exact .firstOk inner f v ha hm hs hc
          | err e => exact .firstErr inner f e ha hm hs hc
          | panic m => exact .panic inner f m ha (.inr hs) hc
        · exact .repeated inner f ha hm hs
      · cases hc : f.conv inner with
        | ok v => exact .manyOk inner f v ha hm hc
        | err e => exact .manyErr inner f e ha hm hc
        | panic m => exact .panic inner f m ha (.inl hm) hc

/-! ### the loop -/

theorem coreLoop_cons_ok {r : SStruct ν} {st st1 : PState ν} {it : NestedMeta} (h : stepItem r st it = .ok st1)
    (rest : List NestedMeta) : coreLoop r st (it :: rest) = coreLoop r st1 rest := by
  rw [coreLoop, h]

theorem coreLoop_cons_error {r : SStruct ν} {st : PState ν} {it : NestedMeta} {m : String}
    (h : stepItem r st it = .error m) (rest : List NestedMeta) : coreLoop r st (it :: rest) = .error m := by
  rw [coreLoop, h]

theorem coreLoop_induct {r : SStruct ν} {I : List NestedMeta → PState ν → Prop} {E : String → Prop}
    (items : List NestedMeta)
    (ok : ∀ pre it st st', it ∈ items → I pre st → stepItem r st it = .ok st' → I (pre ++ [it]) st')
    (error : ∀ pre it st m, it ∈ items → I pre st → stepItem r st it = .error m → E m)
    (pre : List NestedMeta) (st : PState ν) (h : I pre st) :
    (∀ st', coreLoop r st items = .ok st' → I (pre ++ items) st') ∧
      ∀ m, coreLoop r st items = .error m → E m := by
  induction items generalizing pre st with
  | nil => exact ⟨fun st' h' => by cases h'; rw [List.append_nil]; exact h, fun m h' => (nomatch h')⟩
  | cons it rest ih =>
      cases hs : stepItem r st it with
      | error m =>
          rw [coreLoop_cons_error hs]
          exact ⟨fun _ h' => (nomatch h'), fun m' h' => by cases h'; exact error pre it st m List.mem_cons_self h hs⟩
      | ok st1 =>
          rw [coreLoop_cons_ok hs, List.append_cons]
          exact ih (fun p x s s' hx => ok p x s s' (List.mem_cons_of_mem _ hx))
            (fun p x s m hx => error p x s m (List.mem_cons_of_mem _ hx)) (pre ++ [it]) st1
            (ok pre it st st1 List.mem_cons_self h hs)

theorem coreLoop_append (r : SStruct ν) (st : PState ν) (xs ys : List NestedMeta) :
    coreLoop r st (xs ++ ys) = (match coreLoop r st xs with
      | .ok st' => coreLoop r st' ys
      | .error m => .error m) := by
  induction xs generalizing st with
  | nil => rfl
  | cons x rest ih =>
      cases hs : stepItem r st x with
      | ok st1 => rw [List.cons_append, coreLoop_cons_ok hs, coreLoop_cons_ok hs]; exact ih st1
      | error m => rw [List.cons_append, coreLoop_cons_error hs, coreLoop_cons_error hs]

/-! ### the flatten hand-over -/

/-- the flatten member's error as the enclosing receiver records it: the names of the enclosing
    receiver, when it has any, are offered for the unknown names the member received directly.
    A sub-term of `flattenInit`, tied to it by `flattenInit_some`. -/
def lifted (r : SStruct ν) (e : Err) : Err :=
  if r.names.isEmpty then e
  else Suggest.addSiblingAlts r.thr (fun n => r.names.map (fun a => (a, r.score n a))) e

theorem lifted_cases (r : SStruct ν) (e : Err) :
    lifted r e = e ∨ lifted r e = Suggest.addSiblingAlts r.thr (fun n => r.names.map (fun a => (a, r.score n a))) e := by
  unfold lifted
  cases r.names.isEmpty
  · exact Or.inr rfl
  · exact Or.inl rfl

theorem flattenInit_none {r : SStruct ν} (h : r.fields.find? (·.flatten) = none) (st : PState ν) :
    flattenInit r st = .ok st := by
  simp only [flattenInit, h]

theorem flattenInit_some {r : SStruct ν} {ff : SField ν} (h : r.fields.find? (·.flatten) = some ff) (st : PState ν) :
    flattenInit r st = match (ff.fromList st.flat).mapErr (lifted r) with
      | .ok v => .ok (st.set ff.ident { seen := true, val := some v })
      | .err e => .ok ((st.set ff.ident { seen := true, val := none }).push e)
      | .panic m => .error m := by
  simp only [flattenInit, h]
  unfold lifted
  cases ff.fromList st.flat <;> cases r.names.isEmpty <;> rfl

/-- the four ways through `flattenInit` -/
inductive FlattenCase (r : SStruct ν) (st : PState ν) : Except String (PState ν) → Prop where
  | none (h : r.fields.find? (·.flatten) = none) : FlattenCase r st (.ok st)
  | ok (ff : SField ν) (v : ν) (h : r.fields.find? (·.flatten) = some ff) (hl : ff.fromList st.flat = .ok v) :
      FlattenCase r st (.ok (st.set ff.ident { seen := true, val := some v }))
  | err (ff : SField ν) (e : Err) (h : r.fields.find? (·.flatten) = some ff) (hl : ff.fromList st.flat = .err e) :
      FlattenCase r st (.ok ((st.set ff.ident { seen := true, val := none }).push (lifted r e)))
  | panic (ff : SField ν) (m : String) (h : r.fields.find? (·.flatten) = some ff)
      (hl : ff.fromList st.flat = .panic m) : FlattenCase r st (.error m)

theorem flattenInit_case (r : SStruct ν) (st : PState ν) : FlattenCase r st (flattenInit r st) := by
  cases h : r.fields.find? (·.flatten) with
  | none => rw [flattenInit_none h]; exact .none h
  | some ff =>
      rw [flattenInit_some h]
      cases hl : ff.fromList st.flat with
      | ok v => exact .ok ff v h hl
      | err e => exact .err ff e h hl
      | panic m => exact .panic ff m h hl

/-! ### the presence check -/

/-- `CheckMissing` for one field: the step of `checkMissing`, tied to it by `checkMissing_cons` -/
def checkOne (f : SField ν) (st : PState ν) : PState ν :=
  if !f.multiple && f.dflt.isNone then
    if !(st.slot f.ident).seen then
      match f.fromNone with
      | some v => st.set f.ident { st.slot f.ident with val := some v }
      | none => st.push (Err.new (.missingField f.name))
    else st
  else st

theorem checkMissing_cons (f : SField ν) (rest : List (SField ν)) (st : PState ν) :
    checkMissing (f :: rest) st = checkMissing rest (checkOne f st) := rfl

/-- what `CheckMissing` does to a state: nothing (the field is multiple, has a default, or was seen),
    a value from `from_none` for the field, or an error -/
inductive CheckCase (f : SField ν) (st : PState ν) : PState ν → Prop where
  | exempt (h : (!f.multiple && f.dflt.isNone) = false) : CheckCase f st st
  | seen (h : (!f.multiple && f.dflt.isNone) = true) (hs : (st.slot f.ident).seen = true) : CheckCase f st st
  | fromNone (v : ν) (h : (!f.multiple && f.dflt.isNone) = true) (hs : (st.slot f.ident).seen = false)
      (hn : f.fromNone = some v) : CheckCase f st (st.set f.ident { st.slot f.ident with val := some v })
  | missing (h : (!f.multiple && f.dflt.isNone) = true) (hs : (st.slot f.ident).seen = false)
      (hn : f.fromNone = none) : CheckCase f st (st.push (Err.new (.missingField f.name)))

theorem checkOne_case (f : SField ν) (st : PState ν) : CheckCase f st (checkOne f st) := by
  unfold checkOne
  cases h : (!f.multiple && f.dflt.isNone) with
  | false => exact .exempt h
  | true =>
      cases hs : (st.slot f.ident).seen with
      | true => exact .seen h hs
      | false =>
          cases hn : f.fromNone with
          | some v => exact .fromNone v h hs hn
          | none => exact .missing h hs hn

theorem checkMissing_induct {I : PState ν → Prop} (fs : List (SField ν))
    (step : ∀ f ∈ fs, ∀ st, I st → I (checkOne f st)) (st : PState ν) (h : I st) : I (checkMissing fs st) := by
  induction fs generalizing st with
  | nil => exact h
  | cons f rest ih =>
      exact ih (fun g hg => step g (List.mem_cons_of_mem _ hg)) _ (step f List.mem_cons_self st h)

/-! ### the initialisers return no error -/

theorem defaultValue_ne_err (r : SStruct ν) (f : SField ν) (d : DefaultSrc ν) (e : Err) :
    defaultValue r f d ≠ .err e := by
  unfold defaultValue
  cases d with
  | value v => exact fun h => nomatch h
  | inherit => cases r.containerDefault <;> exact fun h => nomatch h

theorem initField_ne_err (r : SStruct ν) (st : PState ν) (f : SField ν) (e : Err) :
    initField r st f ≠ .err e := by
  unfold initField
  dsimp only
  cases f.multiple with
  | true =>
      cases f.dflt with
      | none => exact fun h => nomatch h
      | some d =>
          cases (!(st.slot f.ident).many.isEmpty) with
          | true => exact fun h => nomatch h
          | false => exact defaultValue_ne_err r f d e
  | false =>
      cases f.dflt with
      | none => cases (st.slot f.ident).val <;> exact fun h => nomatch h
      | some d =>
          cases (st.slot f.ident).val with
          | some v => exact fun h => nomatch h
          | none => exact defaultValue_ne_err r f d e

theorem initFields_ne_err (r : SStruct ν) (st : PState ν) : (fs : List (SField ν)) → ∀ e,
    initFields r st fs ≠ .err e
  | [], _ => fun h => nomatch h
  | f :: rest, e => by
      unfold initFields
      cases hf : initField r st f with
      | ok v =>
          cases hr : initFields r st rest with
          | ok kvs => exact fun h => nomatch h
          | err e0 => exact absurd hr (initFields_ne_err r st rest e0)
          | panic m => exact fun h => nomatch h
      | err e0 => exact absurd hf (initField_ne_err r st f e0)
      | panic m => exact fun h => nomatch h

/-! ### the three ways `finishStruct` ends -/

section Finish
variable {r : SStruct ν} {flattenHere : Bool} {st st1 : PState ν}

theorem finishStruct_error {m : String}
    (h : (if flattenHere then flattenInit r st else .ok st) = .error m) (loc : Option String) :
    finishStruct r flattenHere loc st = .panic m := by
  simp only [finishStruct, h]

theorem finishStruct_errs {e : Err} {es : List Err}
    (h : (if flattenHere then flattenInit r st else .ok st) = .ok st1)
    (he : (checkMissing r.fields st1).errs = e :: es) (loc : Option String) :
    finishStruct r flattenHere loc st = match loc with
      | some l => (Err.bundleErr (e :: es) : Outcome ν).mapErr (·.at l)
      | none => Err.bundleErr (e :: es) := by
  simp only [finishStruct, h, he]
  rfl

theorem finishStruct_clean
    (h : (if flattenHere then flattenInit r st else .ok st) = .ok st1)
    (he : (checkMissing r.fields st1).errs = []) (loc : Option String) :
    finishStruct r flattenHere loc st = match initFields r (checkMissing r.fields st1) r.fields with
      | .ok kvs => r.post (r.build kvs)
      | .err e => .err e
      | .panic m => .panic m := by
  simp only [finishStruct, h, he]
  rfl

end Finish

/-- under a location the final phase is the unlocated one with its errors relocated, unless both end in
    the post-processing function, which knows of no location -/
theorem finishStruct_loc_cases (s : SStruct ν) (flattenHere : Bool) (l : String) (st : PState ν) :
    finishStruct s flattenHere (some l) st = (finishStruct s flattenHere none st).mapErr (·.at l) ∨
      ∃ v, finishStruct s flattenHere (some l) st = s.post v ∧ finishStruct s flattenHere none st = s.post v := by
  cases hf : (if flattenHere then flattenInit s st else .ok st : Except String (PState ν)) with
  | error m =>
      rw [finishStruct_error hf, finishStruct_error hf]
      exact .inl rfl
  | ok st1 =>
      cases he : (checkMissing s.fields st1).errs with
      | cons a as =>
          rw [finishStruct_errs hf he, finishStruct_errs hf he]
          exact .inl rfl
      | nil =>
          rw [finishStruct_clean hf he, finishStruct_clean hf he]
          cases hi : initFields s (checkMissing s.fields st1) s.fields with
          | ok kvs => exact .inr ⟨_, rfl, rfl⟩
          | err e => exact absurd hi (initFields_ne_err _ _ _ _)
          | panic m => exact .inl rfl

/-- a struct variant (which has no post-transform of its own) runs the struct receiver's `from_list`
    and relocates its errors under the variant's name -/
theorem finishStruct_loc (s : SStruct ν) (hp : s.post = Outcome.ok) (l : String) (st : PState ν) :
    finishStruct s true (some l) st = (finishStruct s true none st).mapErr (·.at l) := by
  rcases finishStruct_loc_cases s true l st with h | ⟨v, h1, h2⟩
  · exact h
  · rw [h1, h2, hp]
    rfl

theorem finishStruct_at (s : SStruct ν) (l : String) (st : PState ν) (E : Err)
    (h : finishStruct s true (some l) st = .err E) :
    (∃ E0, finishStruct s true none st = .err E0 ∧ E = E0.at l) ∨ ∃ v, s.post v = .err E := by
  rcases finishStruct_loc_cases s true l st with h' | ⟨v, h1, _⟩
  · exact .inl (Outcome.mapErr_eq_err (h' ▸ h))
  · exact .inr ⟨v, h1 ▸ h⟩

/-! ### `fromList` -/

theorem fromList_of_loop_ok {r : SStruct ν} {items : List NestedMeta} {st : PState ν}
    (h : coreLoop r {} items = .ok st) : fromList r items = finishStruct r true none st := by
  rw [fromList, h]

theorem fromList_of_loop_error {r : SStruct ν} {items : List NestedMeta} {m : String}
    (h : coreLoop r {} items = .error m) : fromList r items = .panic m := by
  rw [fromList, h]

end Derive
